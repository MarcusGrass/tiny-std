/-
C04 — Allocator: memory held from the OS is bounded by peak demand, not by history length.

Everything is about `Model/Dlmalloc.lean` (tied to tiny-std/src/allocator/dlmalloc.rs by the
layout-equality correspondence of checks/c03.py / c04.py), for every history of
malloc/calloc/realloc/free, every size/alignment and every sequence of OS answers, as long as the
model reports no error outcome (`= .ok …`; error outcomes are reads of unwritten headers, failed
`debug_assert!`s, underflows, the dead direct-mmap branches — the correspondence shows that none
occurs on the explored histories, `Props/C03Prog.lean` excludes them from the inductive invariant).

Proved in full:   footprint_exact, os_balance, reuse_without_os (dv / top part), cycle_fixpoint
                  (with the OS giving the same answers, in particular for rounds without OS calls),
                  trim_leaves_at_most_a_granule (arithmetic of sys_trim), unused_segment_released.
NOT attempted:    footprint_bound — the closed-form bound  footprint ≤ f(peak live bytes)  for arbitrary
                  histories is a Robson-type fragmentation bound for best-fit with a designated
                  victim; the statement is kept here as a comment:
                    ∃ f, ∀ history h reaching state s,  s.footprint ≤ f (peakLiveBytes h)
                  What is observed instead (checks/c04.py): for workload×N rounds the footprint trace
                  becomes constant and stays so.
-/
import TinyVerif.Proofs.DlStep
import TinyVerif.Proofs.DlFresh
namespace TinyVerif.Dl

/-! ## footprint_exact / os_balance -/

/-- `footprint` is exactly the sum of the sizes of the segments on the segment list, after every
history (so no mapping is forgotten by the bookkeeping and none is counted twice), and it is
exactly (bytes obtained by served mmaps) − (bytes returned by served munmaps / mremap-shrinks). -/
theorem footprint_exact (ops : List (Op × List OsDir)) (hs : Hist) (evs : List OsEv)
    (h : Hist.init.run ops = .ok (hs, evs)) :
    hs.st.footprint = segSum hs.st.segs ∧ hs.st.footprint + gave evs = got evs := by
  have := run_fp ops h (by rfl)
  refine ⟨this.1, ?_⟩
  have h2 := this.2
  simp only [Hist.init, init] at h2
  omega

/-- per operation: the footprint moves by exactly what this operation's OS calls obtained/returned -/
theorem os_balance (hs hs' : Hist) (op : Op) (os : List OsDir) (out : Out)
    (h : hs.step op os = .ok (hs', out)) :
    hs'.st.footprint + gave hs'.st.evs = hs.st.footprint + got hs'.st.evs ∧
    (hs.st.footprint = segSum hs.st.segs → hs'.st.footprint = segSum hs'.st.segs) :=
  ⟨step_os h, step_fp h⟩

/-! ## reuse_without_os -/

/-- The OS is asked only when nothing at hand fits: if the designated victim can hold the padded
request, or `top` can (strictly), `inner_malloc` consumes no OS answer and makes no OS call.
(The bin part — "some binned chunk fits ⇒ no OS call" — needs the trie search lemmas and is covered
by the correspondence only.) -/
theorem reuse_without_os (s s' : St) (size mem : Nat) (h : inner_malloc s size = .ok (s', mem))
    (hfit : nbOf size ≤ s.h.dvsize ∨ nbOf size < s.h.topsize) : s'.evs = s.evs ∧ s'.osq = s.osq :=
  inner_malloc_reuse h hfit

/-- conversely an OS call of `inner_malloc` means neither `dv` nor `top` could serve the request -/
theorem os_call_only_when_nothing_fits (s s' : St) (size mem : Nat)
    (h : inner_malloc s size = .ok (s', mem)) (hcall : s'.evs ≠ s.evs) :
    s.h.dvsize < nbOf size ∧ s.h.topsize ≤ nbOf size := by
  by_cases hfit : nbOf size ≤ s.h.dvsize ∨ nbOf size < s.h.topsize
  · exact absurd (inner_malloc_reuse h hfit).1 hcall
  · omega

/-! ## cycle_fixpoint -/

/-- the allocator-relevant part of a history state (ghost fields and the environment queue reset) -/
def Hist.norm (hs : Hist) : Hist := { st := hs.st.core, live := hs.live }

theorem step_norm (hs : Hist) (op : Op) (os : List OsDir) : hs.norm.step op os = hs.step op os := rfl

theorem run_norm_cons (x : Op × List OsDir) (rest : List (Op × List OsDir)) (hs : Hist) :
    hs.norm.run (x :: rest) = hs.run (x :: rest) := by
  obtain ⟨op, os⟩ := x
  simp only [Hist.run, step_norm]

/-- `n` rounds of the same workload (same operations, same OS answers) -/
def rounds (W : List (Op × List OsDir)) : Nat → Hist → M Hist
  | 0, hs => pure hs
  | n + 1, hs => do
    let (hs1, _) ← hs.run W
    rounds W n hs1

/-- Determinism gives a fixpoint: if one round of a workload `W` (operations together with the OS
answers they receive — none at all when the round needs no OS call) takes the allocator from `hs`
to a state `hs'` whose allocator-relevant part equals that of `hs`, then every further round ends
in exactly `hs'` again: same layout, same footprint, same OS calls — for any number of rounds. -/
theorem cycle_fixpoint (W : List (Op × List OsDir)) (hne : W ≠ []) (hs hs' : Hist) (evs : List OsEv)
    (h : hs.run W = .ok (hs', evs)) (heq : hs'.norm = hs.norm) :
    ∀ n, rounds W (n + 1) hs = .ok hs' ∧ hs'.run W = .ok (hs', evs) := by
  have hfix : hs'.run W = .ok (hs', evs) := by
    cases W with
    | nil => exact absurd rfl hne
    | cons x rest => rw [← run_norm_cons, heq, run_norm_cons]; exact h
  intro n
  refine ⟨?_, hfix⟩
  induction n generalizing hs with
  | zero => simp only [rounds, bind_ok, pure_ok]; exact ⟨_, h, rfl⟩
  | succ k ih =>
    simp only [rounds, bind_ok]
    refine ⟨_, h, ?_⟩
    have := ih hs' hfix rfl
    simpa [rounds, bind_ok] using this

/-! ## sys_trim: what a served trim leaves, and release of unused segments -/

/-- arithmetic of `sys_trim`: the amount `extra` it asks the OS to take back leaves `top` with more
than `pad` and at most `pad` + one granule -/
theorem trim_leaves_at_most_a_granule (topsize pad : Nat) (h : topsize > pad) :
    let extra := ((topsize - pad + DEFAULT_GRANULARITY - 1) / DEFAULT_GRANULARITY - 1) * DEFAULT_GRANULARITY
    extra < topsize - pad ∧ topsize - extra ≤ pad + DEFAULT_GRANULARITY ∧ extra % DEFAULT_GRANULARITY = 0 := by
  simp only [DEFAULT_GRANULARITY]
  omega


/-- `release_unused_segments` does release an unused segment: when the first chunk of a non-head
segment `g` is free and reaches the segment's trailer, and the OS serves the munmap, the scan calls
`munmap(g.base, g.size)` — exactly the segment — takes `g.size` off the footprint, forgets every
header of the segment and drops `g` from the segment list (the surviving list is what the scan makes
of the remaining segments) -/
theorem unused_segment_released (g : Seg) (rest rest' : List Seg) (s s' : St) (rel n rel' n' : Nat) (e : Ent)
    (q : List OsDir)
    (he : findEnt s.h.ents (align_as_chunk g.base) = some e) (hfree : e.inuse = false)
    (hcover : align_as_chunk g.base + e.size ≥ g.base + (g.size - top_foot_size))
    (hos : s.osq = .u true :: q)
    (h : releaseLoop (g :: rest) s rel n = .ok (rest', s', rel', n')) :
    ∃ s1, releaseLoop rest s1 (rel + g.size) (n + 1) = .ok (rest', s', rel', n') ∧
      s1.footprint + g.size = s.footprint ∧ s1.evs = s.evs ++ [.munmap g.base g.size true] ∧
      (∀ x ∈ s1.h.ents, ¬ (g.base ≤ x.addr ∧ x.addr < g.base + g.size)) := by
  unfold releaseLoop at h
  dsimp only at h
  msimp at h
  obtain ⟨e', he', _, _, h⟩ := h
  have hee : e' = e := by
    have := getE_spec he'
    rw [he] at this
    injection this with this
    exact this.symm
  subst hee
  have hcond : (!e'.inuse && decide (align_as_chunk g.base + e'.size ≥ g.base + (g.size - top_foot_size))) = true := by
    simp [hfree, hcover]
  rw [if_pos hcond] at h
  msimp at h
  obtain ⟨_, _, h1, hh1, ⟨ok, s1⟩, hu, h⟩ := h
  obtain ⟨q', hq', hs1⟩ := popU_spec hu
  have hok : ok = true := by
    simp only at hq'
    rw [hos] at hq'
    injection hq' with h1 _
    injection h1 with h1
    exact h1.symm
  subst hok
  dsimp only at h
  rw [if_pos rfl] at h
  msimp at h
  obtain ⟨_, hlt, ⟨r1, s2, rl, nn⟩, hrec, h⟩ := h
  simp only [Prod.mk.injEq] at h
  obtain ⟨e1, e2, e3, e4⟩ := h
  subst e1; subst e2; subst e3; subst e4
  simp only [decide_eq_false_iff_not, Nat.not_lt] at hlt
  refine ⟨_, hrec, ?_, ?_, ?_⟩
  · subst hs1; simp only at hlt ⊢; omega
  · subst hs1; rfl
  · subst hs1
    intro x hx
    simp only [Heap.tag, dropEnts, List.mem_filter] at hx
    obtain ⟨_, hx2⟩ := hx
    intro hc
    have : (decide (g.base ≤ x.addr) && decide (x.addr < g.top)) = true := by
      simp [Seg.top, hc.1, hc.2]
    rw [this] at hx2
    cases hx2


theorem trim_extra {t pad g E : Nat} (hg : g = 65536) (h : t > pad + g)
    (hE : ((t - pad + g - 1) / g - 1) * g = E) : g ≤ E ∧ E < t - pad ∧ t - E ≤ pad + g := by
  subst hg; omega

/-- **trim_fires**: when `top` exceeds the pad by more than a granule, the segment holding `top` is
not pinned by another segment's record and the OS serves the mremap, `sys_trim`'s first half gives
back all whole granules beyond the pad: the footprint drops by `extra`, what is left of `top` is at
most pad + 64 KiB, and `trim_check` is re-armed -/
theorem trim_fires (s s' : St) (pad rel : Nat) (sp : Seg) (q : List OsDir)
    (hgt : s.h.topsize > pad + DEFAULT_GRANULARITY)
    (hsp : segment_holding s.segs s.h.top = some sp)
    (hsz : sp.size ≥ ((s.h.topsize - pad + DEFAULT_GRANULARITY - 1) / DEFAULT_GRANULARITY - 1) * DEFAULT_GRANULARITY)
    (hnl : has_segment_link s.segs sp = false) (hos : s.osq = .r true :: q)
    (h : trim_top s pad = .ok (s', rel)) :
    rel = ((s.h.topsize - pad + DEFAULT_GRANULARITY - 1) / DEFAULT_GRANULARITY - 1) * DEFAULT_GRANULARITY ∧
    rel ≥ DEFAULT_GRANULARITY ∧ s'.footprint + rel = s.footprint ∧
    s'.h.topsize ≤ pad + DEFAULT_GRANULARITY ∧ s'.trim_check = DEFAULT_TRIM_THRESHOLD := by
  obtain ⟨x1, x2, x3⟩ := trim_extra DEFAULT_GRANULARITY_eq hgt rfl
  unfold trim_top at h
  dsimp only at h
  generalize ((s.h.topsize - pad + DEFAULT_GRANULARITY - 1) / DEFAULT_GRANULARITY - 1) * DEFAULT_GRANULARITY = E at *
  rw [DEFAULT_GRANULARITY_eq] at hgt x1 x3 ⊢
  rw [if_pos (by omega), hsp] at h
  dsimp only at h
  msimp at h
  obtain ⟨⟨s1, r1⟩, ht, h⟩ := h
  -- the release step: mremap served
  have hr : r1 = E ∧ s1 = { s with osq := q, evs := s.evs ++ [.mremap sp.base sp.size (sp.size - r1) true] } := by
    unfold trim_release at ht
    dsimp only at ht
    split at ht
    · msimp at ht
      obtain ⟨⟨ok, s2⟩, hp, ht⟩ := ht
      obtain ⟨q', hq', hs2⟩ := popR_spec hp
      rw [hos] at hq'
      injection hq' with e1 e2
      injection e1 with e1
      subst e1; subst e2
      dsimp only at ht
      rw [if_pos rfl] at ht
      msimp at ht
      simp only [Prod.mk.injEq] at ht
      obtain ⟨rfl, rfl⟩ := ht
      exact ⟨rfl, hs2⟩
    · rename_i hc
      exfalso; apply hc
      simp [hnl]; exact hsz
  obtain ⟨rfl, rfl⟩ := hr
  dsimp only at h
  rw [if_pos (by omega)] at h
  msimp at h
  obtain ⟨_, hlt, s2, hi, h⟩ := h
  obtain ⟨h2, rfl, _, i2⟩ := init_top_spec hi
  simp only [Prod.mk.injEq] at h
  obtain ⟨rfl, rfl⟩ := h
  simp only [decide_eq_false_iff_not, Nat.not_lt] at hlt
  refine ⟨rfl, x1, ?_, ?_, rfl⟩
  · show s.footprint - r1 + r1 = s.footprint
    omega
  · show h2.topsize ≤ _
    rw [i2]
    simp only [dropEnts]
    omega

/-! ## non-vacuity: concrete histories (evaluated by the kernel) -/

theorem ok_of_match {α : Type} {x : M α} {p : α → Bool}
    (h : (match x with | .ok v => p v | .error _ => false) = true) : ∃ v, x = .ok v ∧ p v = true := by
  cases x with
  | ok v => exact ⟨v, rfl, h⟩
  | error e => cases h

/-- first round on a fresh allocator: the OS serves one 64 KiB mapping at 1 MiB -/
def W1 : List (Op × List OsDir) := [(.malloc 1 100 8, [.m (some 1048576)]), (.free 1, [])]
/-- a round that needs no OS call -/
def W2 : List (Op × List OsDir) :=
  [(.malloc 1 100 8, []), (.calloc 2 300 8, []), (.realloc 2 5000, []), (.free 2, []), (.free 1, [])]

def afterW1 : Hist := match Hist.init.run W1 with
  | .ok (hs, _) => hs
  | .error _ => Hist.init

set_option maxRecDepth 20000 in
example : ∃ hs evs, Hist.init.run W1 = .ok (hs, evs) ∧ hs.st.footprint = 65536 ∧ got evs = 65536 := by
  obtain ⟨v, hv, hp⟩ := ok_of_match (x := Hist.init.run W1)
    (p := fun v => decide (v.1.st.footprint = 65536) && decide (got v.2 = 65536)) (by decide +kernel)
  simp only [Bool.and_eq_true, decide_eq_true_eq] at hp
  exact ⟨v.1, v.2, hv, hp.1, hp.2⟩

set_option maxRecDepth 20000 in
/-- hypotheses of `cycle_fixpoint` are satisfiable: W2 from the state after W1 returns to it -/
example : ∃ hs evs, afterW1.run W2 = .ok (hs, evs) ∧ hs.norm = afterW1.norm ∧ evs = [] := by
  obtain ⟨v, hv, hp⟩ := ok_of_match (x := afterW1.run W2)
    (p := fun v => decide (v.1.norm = afterW1.norm) && decide (v.2 = [])) (by decide +kernel)
  simp only [Bool.and_eq_true, decide_eq_true_eq] at hp
  exact ⟨v.1, v.2, hv, hp.1, hp.2⟩

set_option maxRecDepth 20000 in
/-- hypotheses of `reuse_without_os`: after W1 `top` holds 65456 bytes, a 100-byte request fits -/
example : ∃ s' mem, inner_malloc afterW1.st 100 = .ok (s', mem) ∧ nbOf 100 < afterW1.st.h.topsize := by
  obtain ⟨v, hv, hp⟩ := ok_of_match (x := inner_malloc afterW1.st 100)
    (p := fun _ => decide (nbOf 100 < afterW1.st.h.topsize)) (by decide +kernel)
  simp only [decide_eq_true_eq] at hp
  exact ⟨v.1, v.2, hv, hp⟩

set_option maxRecDepth 20000 in
/-- an OS call happens when nothing fits (hypotheses of `os_call_only_when_nothing_fits`) -/
example : ∃ s' mem, inner_malloc { afterW1.st with osq := [.m (some 2097152)] } 100000 = .ok (s', mem) ∧
    s'.evs ≠ afterW1.st.evs := by
  obtain ⟨v, hv, hp⟩ := ok_of_match (x := inner_malloc { afterW1.st with osq := [.m (some 2097152)] } 100000)
    (p := fun v => decide (v.1.evs ≠ afterW1.st.evs)) (by decide +kernel)
  simp only [decide_eq_true_eq] at hp
  exact ⟨v.1, v.2, hv, hp⟩

/-- the hypothesis `topsize > pad` of `trim_leaves_at_most_a_granule`, for `topsize` one byte above
`DEFAULT_TRIM_THRESHOLD` and `pad = top_foot_size` -/
example : (2097153 : Nat) > 80 := by decide

/-- a 3 MB block in a fresh heap, then the chunk work of freeing it: `top` is the whole segment again -/
def afterBig : Hist := match Hist.init.run [(.malloc 1 3000000 8, [.m (some 1048576)])] with
  | .ok (hs, _) => hs
  | .error _ => Hist.init

def preTrim : St := match free_heap afterBig.st.h (1048576 + 16) with
  | .ok (h, _) => { afterBig.st with h := h, osq := [.r true], evs := [] }
  | .error _ => afterBig.st

set_option maxRecDepth 20000 in
/-- hypotheses of `trim_fires` -/
example : preTrim.h.topsize > 80 + DEFAULT_GRANULARITY ∧
    (∃ sp, segment_holding preTrim.segs preTrim.h.top = some sp ∧ has_segment_link preTrim.segs sp = false ∧
      sp.size ≥ ((preTrim.h.topsize - 80 + DEFAULT_GRANULARITY - 1) / DEFAULT_GRANULARITY - 1) * DEFAULT_GRANULARITY) ∧
    ∃ s' rel, trim_top preTrim 80 = .ok (s', rel) := by
  refine ⟨by decide +kernel, ⟨{ base := 1048576, size := 3014656, recAt := 0 }, by decide +kernel, by decide +kernel, by decide +kernel⟩, ?_⟩
  obtain ⟨v, hv, _⟩ := ok_of_match (x := trim_top preTrim 80) (p := fun _ => true) (by decide +kernel)
  exact ⟨v.1, v.2, hv⟩

/-- a two-segment heap whose second segment is one free chunk (hypotheses of `unused_segment_released`) -/
def twoSegs : Hist := match Hist.init.run
    [(.malloc 1 100 8, [.m (some 8388608)]), (.malloc 2 200000 8, [.m (some 1048576)]), (.malloc 3 300000 8, [.m (some 4194304)]),
     (.free 2, [])] with
  | .ok (hs, _) => hs
  | .error _ => Hist.init

set_option maxRecDepth 20000 in
example : ∃ g rest e, twoSegs.st.segs = ({ base := 4194304, size := 327680, recAt := 0 } : Seg) :: g :: rest ∧
    findEnt twoSegs.st.h.ents (align_as_chunk g.base) = some e ∧ e.inuse = false ∧
    align_as_chunk g.base + e.size ≥ g.base + (g.size - top_foot_size) := by
  refine ⟨{ base := 1048576, size := 262144, recAt := 1310656 }, [{ base := 8388608, size := 65536, recAt := 8454080 }],
    { addr := 1048576, size := 262064, cin := false, pin := true, pfoot := 0 }, by decide +kernel, by decide +kernel, by decide +kernel, by decide +kernel⟩

end TinyVerif.Dl
