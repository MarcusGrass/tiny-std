/-
C11 — UnixStr search (find, find_buf), common-prefix length (match_up_to, match_up_to_str), suffix
test (ends_with) and path operations (path_join, path_join_fmt, parent_path, path_file_name) return
the answers their byte-string definitions (Model/UnixStrSpec.lean) give, for EVERY operand pair of
any length; none panics, reads outside its arguments (`oob`) or exhausts the model's loop fuel —
each theorem is an equation `op … = .ok (spec …)`, which excludes all three.

Operands are raw byte lists (terminator included); `WFU` is C10's invariant, `content` drops the
terminator.  The model follows the code after the four `fix:` commits; the `…_legacy` theorems
record, on the pre-fix bodies kept in `Model/UnixStr.lean` (`namespace Legacy`), the defects the
fixes removed.
-/
import TinyVerif.Model.UnixStr
import TinyVerif.Model.UnixStrSpec
import TinyVerif.Proofs.UnixStrLemmas
namespace TinyVerif.UnixStr

/-! ## the definitions mean what their names say -/

/-- `naiveFind` returns an occurrence -/
theorem naiveFind_is_occurrence (n : List Nat) : ∀ (h : List Nat) (i : Nat),
    naiveFind n h = some i → n <+: h.drop i
  | [], i, hi => by
    simp only [naiveFind] at hi
    split at hi
    · rename_i hp; cases hi; simpa using List.isPrefixOf_iff_prefix.1 hp
    · cases hi
  | a :: t, i, hi => by
    simp only [naiveFind] at hi
    split at hi
    · rename_i hp; cases hi; simpa using List.isPrefixOf_iff_prefix.1 hp
    · cases hr : naiveFind n t with
      | none => simp [hr] at hi
      | some j =>
        simp only [hr, Option.map_some, Option.some.injEq] at hi
        subst hi
        simpa using naiveFind_is_occurrence n t j hr

/-- … and the first one: no occurrence at any smaller index; `none` means no occurrence at all -/
theorem naiveFind_is_first (n : List Nat) : ∀ (h : List Nat),
    (∀ i, naiveFind n h = some i → ∀ j, j < i → ¬ n <+: h.drop j) ∧
    (naiveFind n h = none → ∀ j, ¬ n <+: h.drop j)
  | [] => by
    simp only [naiveFind]
    split
    · exact ⟨fun i hi j hj => (by cases hi; omega), fun h => (by cases h)⟩
    · rename_i hp
      refine ⟨fun i hi => (by cases hi), fun _ j hj => hp ?_⟩
      simpa using List.isPrefixOf_iff_prefix.2 hj
  | a :: t => by
    have ih := naiveFind_is_first n t
    simp only [naiveFind]
    split
    · exact ⟨fun i hi j hj => (by cases hi; omega), fun h => (by cases h)⟩
    · rename_i hp
      have h0 : ¬ n <+: (a :: t) := fun h => hp (List.isPrefixOf_iff_prefix.2 h)
      constructor
      · intro i hi j hj
        cases hr : naiveFind n t with
        | none => simp [hr] at hi
        | some k =>
          simp only [hr, Option.map_some, Option.some.injEq] at hi
          subst hi
          cases j with
          | zero => simpa using h0
          | succ j' => simpa using ih.1 k hr j' (by omega)
      · intro hnone j
        cases hr : naiveFind n t with
        | some k => simp [hr] at hnone
        | none =>
          cases j with
          | zero => simpa using h0
          | succ j' => simpa using ih.2 hr j'

theorem lcp_prefix_left : ∀ (a b : List Nat), lcp a b <+: a
  | [], b => by simp [lcp]
  | x :: a, [] => by simp [lcp]
  | x :: a, y :: b => by
    by_cases h : x = y
    · simp only [lcp, h, if_true]; subst h; exact List.cons_prefix_cons.2 ⟨rfl, lcp_prefix_left a b⟩
    · simp [lcp, h]

theorem lcp_prefix_right : ∀ (a b : List Nat), lcp a b <+: b
  | [], b => by simp [lcp]
  | x :: a, [] => by simp [lcp]
  | x :: a, y :: b => by
    by_cases h : x = y
    · simp only [lcp, h, if_true]; exact List.cons_prefix_cons.2 ⟨rfl, lcp_prefix_right a b⟩
    · simp [lcp, h]

/-- maximal: right after the common prefix the operands differ (or one ends) -/
theorem lcp_maximal : ∀ (a b : List Nat) (x y : Nat),
    a[(lcp a b).length]? = some x → b[(lcp a b).length]? = some y → x ≠ y
  | [], b, x, y => by simp [lcp]
  | p :: a, [], x, y => by simp [lcp]
  | p :: a, q :: b, x, y => by
    by_cases h : p = q
    · simp only [lcp, h, if_true, List.length_cons, List.getElem?_cons_succ]
      exact lcp_maximal a b x y
    · simp only [lcp, h, if_false, List.length_nil, List.getElem?_cons_zero, Option.some.injEq]
      intro h1 h2; subst h1; subst h2; exact h

/-! ## search -/

/-- **find** = index of the first occurrence of the needle's content in the haystack's content, or none -/
theorem find_eq_naive (s o : List Nat) (hs : WFU s) (ho : WFU o) :
    find s o = .ok (naiveFind (content o) (content s)) := by
  obtain ⟨cs, rfl, _⟩ := (wfu_iff s).1 hs
  obtain ⟨co, rfl, h2⟩ := (wfu_iff o).1 ho
  simp only [content_snoc]
  unfold find
  split
  · rename_i hlen
    rw [naiveFind_short co cs (by simpa using hlen)]
  · rw [List.length_append, sub_le (by simp), bind_ok, if_pos (by simp), List.take_left' (by simp), bufFind_eq,
      naiveFind_content co h2 cs]

/-- **find_buf**, for every haystack and every needle (the empty needle is found at 0): first
occurrence in the raw bytes of `self` -/
theorem find_buf_eq_naive (s n : List Nat) : findBuf s n = .ok (naiveFind n s) := by
  unfold findBuf
  split
  · rw [naiveFind_short n s (by omega)]
  · exact bufFind_eq s n

/-- … which for a NUL-free needle is the first occurrence in the content -/
theorem find_buf_content (s n : List Nat) (hs : WFU s) (hn : 0 ∉ n) :
    findBuf s n = .ok (naiveFind n (content s)) := by
  obtain ⟨cs, rfl, _⟩ := (wfu_iff s).1 hs
  rw [find_buf_eq_naive, naiveFind_content n hn cs]; simp

/-- **ends_with** holds exactly for suffixes -/
theorem ends_with_iff_suffix (s o : List Nat) (hs : WFU s) (ho : WFU o) :
    ∃ b, endsWith s o = .ok b ∧ (b = true ↔ content o <:+ content s) := by
  obtain ⟨cs, rfl, _⟩ := (wfu_iff s).1 hs
  obtain ⟨co, rfl, _⟩ := (wfu_iff o).1 ho
  refine ⟨_, endsWith_eq _ _ (by simp), ?_⟩
  rw [isSuffix_terminated, isSuffix_iff]; simp

/-- **match_up_to** = length of the longest common prefix of the contents; both raw-pointer reads stay
inside their operands -/
theorem match_up_to_is_lcp (s o : List Nat) (hs : WFU s) (ho : WFU o) :
    matchUpTo s o = .ok (lcp (content s) (content o)).length := by
  obtain ⟨cs, rfl, h1⟩ := (wfu_iff s).1 hs
  obtain ⟨co, rfl, _⟩ := (wfu_iff o).1 ho
  simpa [matchUpTo] using matchLoop_eq cs co (cs ++ [0]) (co ++ [0]) (cs.length + 1 + 1) 0 h1 rfl ⟨[], rfl⟩ (by omega)

/-- **match_up_to_str** (after the fix) for every key, the empty one included: reads stay in bounds -/
theorem match_up_to_str_is_lcp (s k : List Nat) (hs : WFU s) :
    matchUpToStr s k = .ok (lcp (content s) k).length := by
  obtain ⟨cs, rfl, h1⟩ := (wfu_iff s).1 hs
  simpa [matchUpToStr] using matchStrLoop_eq cs k (cs ++ [0]) k (cs.length + 1 + 1) 0 h1 rfl rfl (Nat.zero_le _) (by omega)

/-! ## path operations -/

/-- **path_join**: exactly one separator at the boundary; an empty side gives the other side -/
theorem path_join_eq_spec (s e : List Nat) (hs : WFU s) (he : WFU e) :
    pathJoin s e = .ok (joinSpec (content s) (content e) ++ [0]) := by
  obtain ⟨cs, rfl, _⟩ := (wfu_iff s).1 hs
  obtain ⟨ce, rfl, _⟩ := (wfu_iff e).1 he
  simpa using pathJoin_eq cs ce

/-- **path_join_fmt** with NUL-free formatted bytes `p` -/
theorem path_join_fmt_eq_spec (s p : List Nat) (hs : WFU s) (hp : 0 ∉ p) :
    pathJoinFmt s p = .ok (joinSpec (content s) p ++ [0]) := by
  obtain ⟨cs, rfl, h1⟩ := (wfu_iff s).1 hs
  simpa using pathJoinFmt_eq cs p h1 hp

/-! ## `fmt::Arguments` shapes (literal format strings / run-time arguments) -/

/-- **path_join_fmt, every `Arguments` shape**: whether the extension is a literal format string, a
literal around one or two run-time arguments or arguments only, the result is the byte-string join
of the base with the RENDERED bytes -/
theorem path_join_fmt_args_eq_spec (s : List Nat) (sh : FmtShape) (l x y : List Nat) (hs : WFU s)
    (hl : 0 ∉ l) (hx : 0 ∉ x) (hy : 0 ∉ y) :
    pathJoinFmtArgs s sh l x y = .ok (joinSpec (content s) (render sh l x y) ++ [0]) :=
  path_join_fmt_eq_spec s _ hs (nulfree_render sh hl hx hy)

/-- **shape independence**: two `Arguments` that render to the same bytes give the same path, for
every base (well-formed or not, NULs or not) — in particular the literal `format_args!("there")` and
the run-time `format_args!("{}", "there")` cannot differ -/
theorem path_join_fmt_shape_independent (s : List Nat) (sh sh' : FmtShape) (l x y l' x' y' : List Nat)
    (h : render sh l x y = render sh' l' x' y') :
    pathJoinFmtArgs s sh l x y = pathJoinFmtArgs s sh' l' x' y' := by
  simp only [pathJoinFmtArgs, h]

/-- a literal-only extension is the `{}`-argument extension with the same text -/
theorem path_join_fmt_literal_eq_argument (s p : List Nat) :
    pathJoinFmtArgs s .lit p [] [] = pathJoinFmtArgs s .arg [] p [] ∧
    pathJoinFmtArgs s .lit p [] [] = pathJoinFmt s p :=
  ⟨rfl, rfl⟩

/-- **empty base**: joining the empty path with any non-empty NUL-free extension — of ANY shape — is
the extension itself, no separator appears (a relative path stays relative) -/
theorem path_join_fmt_args_empty_base (sh : FmtShape) (l x y : List Nat)
    (hl : 0 ∉ l) (hx : 0 ∉ x) (hy : 0 ∉ y) :
    pathJoinFmtArgs [0] sh l x y = .ok (render sh l x y ++ [0]) := by
  have h := path_join_fmt_args_eq_spec [0] sh l x y (wfu_snoc (c := []) (by simp)) hl hx hy
  rw [h]
  have hc : content [0] = [] := by simp [content]
  by_cases hr : render sh l x y = [] <;> simp [joinSpec, hc, hr]

/-- **parent_path** splits at the last separator (documented `None` cases in `parentSpec`) -/
theorem parent_eq_spec (s : List Nat) (hs : WFU s) :
    parentPath s = .ok ((parentSpec (content s)).map (· ++ [0])) := by
  obtain ⟨cs, rfl, _⟩ := (wfu_iff s).1 hs
  simpa using parentPath_eq cs

/-- **path_file_name** = the bytes after the last separator, `None` if there is none / nothing follows -/
theorem file_name_eq_spec (s : List Nat) (hs : WFU s) :
    pathFileName s = .ok ((fileNameSpec (content s)).map (· ++ [0])) := by
  obtain ⟨cs, rfl, _⟩ := (wfu_iff s).1 hs
  simpa using pathFileName_eq cs

/-- **no bound on the last component**: behind any prefix, a separator followed by a non-empty
separator-free component of ANY length (NAME_MAX = 255 and beyond included) — `path_file_name` is that
component -/
theorem file_name_any_component_length (pre comp : List Nat) (hcs : 47 ∉ comp) (hne : comp ≠ []) :
    pathFileName (pre ++ 47 :: comp ++ [0]) = .ok (some (comp ++ [0])) := by
  have h := pathFileName_eq (pre ++ 47 :: comp)
  simp only [fileNameSpec, (lastSlash_append comp hcs pre).2, hne, if_false, Option.map_some] at h
  simpa using h

/-- … and `parent_path` is the prefix, however long the component behind the last separator is -/
theorem parent_any_component_length (pre comp : List Nat) (hcs : 47 ∉ comp) (hne : comp ≠ [])
    (hp : pre ≠ []) (hl : pre.getLast? ≠ some 47) :
    parentPath (pre ++ 47 :: comp ++ [0]) = .ok (some (pre ++ [0])) := by
  have h := parentPath_eq (pre ++ 47 :: comp)
  have hlen : ¬ ((pre ++ 47 :: comp).length < 2) := by
    have : 0 < comp.length := List.length_pos_iff.2 hne
    simp; omega
  simp only [parentSpec, hlen, (lastSlash_append comp hcs pre).1, hl, hp, if_false, Option.map_some] at h
  simpa using h

/-- no separator at all: both are `None`, for every length -/
theorem no_separator_none (c : List Nat) (hcs : 47 ∉ c) :
    pathFileName (c ++ [0]) = .ok none ∧ parentPath (c ++ [0]) = .ok none := by
  refine ⟨?_, ?_⟩
  · have h := pathFileName_eq c
    simpa [fileNameSpec, (lastSlash_none c hcs).2] using h
  · have h := parentPath_eq c
    simp only [parentSpec, (lastSlash_none c hcs).1] at h
    by_cases hl : c.length < 2 <;> simpa [hl] using h

/-- what the split functions return really is a split at the LAST separator -/
theorem split_at_last_slash (c p r : List Nat) :
    (beforeLastSlash c = some p → ∃ t, c = p ++ 47 :: t ∧ 47 ∉ t) ∧
    (afterLastSlash c = some r → ∃ q, c = q ++ 47 :: r) :=
  lastSlash_some c p r

/-- no search or path operation panics, reads out of bounds or runs out of fuel -/
theorem no_panic_reads_in_bounds (s o k : List Nat) (hs : WFU s) (ho : WFU o) :
    (∃ v, find s o = .ok v) ∧ (∃ v, findBuf s k = .ok v) ∧ (∃ v, endsWith s o = .ok v) ∧
    (∃ v, matchUpTo s o = .ok v) ∧ (∃ v, matchUpToStr s k = .ok v) ∧ (∃ v, pathJoin s o = .ok v) ∧
    (0 ∉ k → ∃ v, pathJoinFmt s k = .ok v) ∧ (∃ v, parentPath s = .ok v) ∧ (∃ v, pathFileName s = .ok v) := by
  obtain ⟨b, hb, _⟩ := ends_with_iff_suffix s o hs ho
  exact ⟨⟨_, find_eq_naive s o hs ho⟩, ⟨_, find_buf_eq_naive s k⟩, ⟨b, hb⟩, ⟨_, match_up_to_is_lcp s o hs ho⟩,
    ⟨_, match_up_to_str_is_lcp s k hs⟩, ⟨_, path_join_eq_spec s o hs ho⟩,
    fun hk => ⟨_, path_join_fmt_eq_spec s k hs hk⟩, ⟨_, parent_eq_spec s hs⟩, ⟨_, file_name_eq_spec s hs⟩⟩

/-! ## the code before the fixes (Model `Legacy`): witnesses of the four defects -/

/-- before 83f816f `find` cut the needle at `len - 2`, one byte short: needle `"ab"` was found in `"ac"` at 0 because only
`"a"` was searched for -/
theorem find_ignores_last_byte_legacy :
    Legacy.find [97, 99, 0] [97, 98, 0] = .ok (some 0) ∧ naiveFind [97, 98] [97, 99] = none := by decide

/-- … and panicked for needles of one or zero characters -/
theorem find_panics_short_legacy :
    Legacy.find [97, 98, 0] [98, 0] = .panic ∧ Legacy.find [97, 98, 0] [0] = .panic := by decide

/-- before 0eddace `find_buf(b"")` indexed `other_buf[0]` -/
theorem find_buf_empty_panics_legacy : Legacy.findBuf [97, 0] [] = .panic := by decide

/-- before 76f9c9e `match_up_to_str("")` read one byte past the empty key -/
theorem match_up_to_str_empty_oob_legacy : Legacy.matchUpToStr [97, 0] [] = .oob := by decide

/-! ## non-vacuity -/

example : find [109, 121, 45, 115, 116, 0] [45, 115, 116, 0] = .ok (some 2) := by decide
example : find [97, 98, 0] [98, 0] = .ok (some 1) := by decide
example : find [97, 98, 0] [0] = .ok (some 0) := by decide
example : find [97, 98, 0] [97, 98, 99, 0] = .ok none := by decide
example : findBuf [97, 0] [] = .ok (some 0) := by decide
example : findBuf [97, 98, 0] [98, 0] = .ok (some 1) := by decide
example : endsWith [97, 98, 0] [98, 0] = .ok true := by decide
example : endsWith [97, 98, 0] [97, 0] = .ok false := by decide
example : matchUpTo [97, 98, 0] [97, 99, 0] = .ok 1 := by decide
example : matchUpToStr [97, 98, 0] [] = .ok 0 := by decide
example : matchUpToStr [97, 98, 0] [97, 98, 99] = .ok 2 := by decide
example : joinSpec [97, 47] [47, 98] = [97, 47, 98] := by decide
example : joinSpec [97, 47, 47] [47, 98] = [97, 47, 47, 98] := by decide
example : parentSpec [47, 97] = some [47] := by decide
example : parentSpec [97, 47, 47, 98] = none := by decide
example : fileNameSpec [97, 47] = none := by decide
/-- `UnixStr::EMPTY.path_join_fmt(format_args!("there"))` is `there`, in every shape that renders `there` -/
example : pathJoinFmtArgs [0] .lit [116, 104, 101, 114, 101] [] [] = .ok [116, 104, 101, 114, 101, 0] := by decide
example : pathJoinFmtArgs [0] .arg [] [116, 104, 101, 114, 101] [] = .ok [116, 104, 101, 114, 101, 0] := by decide
example : pathJoinFmtArgs [0] .argLitArg [104, 101] [116] [114, 101] = .ok [116, 104, 101, 114, 101, 0] := by decide
example : pathJoinFmtArgs [97, 47, 0] .litArg [47] [98] [] = .ok [97, 47, 98, 0] := by decide
example : render .litArgLit [47] [97] [] = [47, 97, 47] := by decide
/-- beyond the short range: `/tmp/<255-byte name>` and a 4096-byte component -/
example : pathFileName ([47, 116, 109, 112] ++ 47 :: List.replicate 255 120 ++ [0]) = .ok (some (List.replicate 255 120 ++ [0])) :=
  file_name_any_component_length _ _ (not_mem_replicate _ (by decide)) (replicate_ne_nil _ (by decide))
example : pathFileName ([] ++ 47 :: List.replicate 4096 120 ++ [0]) = .ok (some (List.replicate 4096 120 ++ [0])) :=
  file_name_any_component_length _ _ (not_mem_replicate _ (by decide)) (replicate_ne_nil _ (by decide))
example : parentPath ([47, 116, 109, 112] ++ 47 :: List.replicate 255 120 ++ [0]) = .ok (some [47, 116, 109, 112, 0]) :=
  parent_any_component_length _ _ (not_mem_replicate _ (by decide)) (replicate_ne_nil _ (by decide)) (by simp) (by simp)
/-- the parent of a path with a trailing separator is the path without it (split at the LAST separator);
the never-executed doc example in unix_str.rs claims `/home/gramar` for `/home/gramar/code/` -/
example : parentSpec [47, 97, 47, 98, 47] = some [47, 97, 47, 98] := by decide

end TinyVerif.UnixStr
