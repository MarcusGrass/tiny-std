/-
C02 — RwLock, the liveness clause: "every read()/write() call returns provided holders keep releasing, for any mix
of waiting readers and writers".

Model: `Model/RwLock.lean`.  Lemmas: `Proofs/RwLive.lean`.

What is proved here

1. `rw_can_always_acquire` (possibility form, every `Reachable` state, every number of threads): a thread anywhere
   inside `read()` / `write()` — fast path, spinning, about to set its waiting bit, about to wait, or parked in the
   kernel — can be driven to hold the guard it asked for.  The witnessing schedule is *honest* (`runH`): every load
   in it observes the current value and no weak CAS fails spuriously; it consists of
     (a) the guard holders running their critical sections and unlocking `fetch_sub`s (`release_all_holders`),
     (b) for a reader: the waiting bits being cleared by the threads whose job that is (`clear_bits`): a thread
         inside `wake_writer_or_readers` completes its pending CAS / `wake_writer`; a writer inside `write()` takes
         the unlocked word, releases it and runs the wake path itself,
     (c) the thread's own steps (`acquireR_when_clear` / `acquireW_when_unlocked`).
   A parked thread resumes (i) through the `futex_wake(&writer_notify, 1)` of `wake_writer` when the schedule runs a
   wake path that finds it parked (writers in (b)), and otherwise (ii) — as in C01 — through a futex return the kernel
   is always allowed to make (`Ev.spur false`): that is how the thread `t` itself resumes when it is parked, and how a
   parked writer resumes in (b) when no wake path is pending.  Under `ReachableW` (ii) is never *needed* for (b)
   (`rw_no_deadlock_sc`), but the proof does not avoid it.

2. the inductive invariant `LInv` behind (b), for all executions (`rw_waiting_bits_covered`): a waiting bit on an
   unlocked word is always somebody's job — a thread inside `wake_writer_or_readers` whose pending operation matches
   the word, or a writer inside `write()`.  In particular the situation "reader finds the lock unlocked with
   WRITERS_WAITING / READERS_WAITING set and nobody left to clear the bit" (in which `is_read_lockable` would refuse
   the reader forever) is unreachable.  Also `read_unlock`'s `debug_assert!` (`rw_read_unlock_assert`).

3. `rw_no_deadlock_sc` / `rw_no_deadlock_sc_partial` (for `ReachableW`, the relation for which both wake-up invariants
   hold): whenever some thread is parked, some thread is enabled and has a step; hence no state in which every
   unfinished thread is parked.  Uses `RInv`, `RQ2.rq`, `WQ.park` and the strict version of the cover invariant
   (`LInv true`: only writers that cannot go back to sleep count), which is inductive for `stepW`.
   "Each thread holds at most one guard at a time" is built into the model (one pc per thread, `Txn` = one
   acquire..release bracket), so it is not a hypothesis.
-/
import TinyVerif.Props.C02
import TinyVerif.Proofs.RwLive
set_option linter.unusedVariables false
namespace TinyVerif.RwLock

/-- thread record `t` is inside a blocking `read()` or `write()` call -/
def inAcquire (t : Th) : Bool := inRead t.pc || inWrite t.pc

/-! ## the invariants in every reachable state -/

theorem run_allinv (c : Cfg) (hc : c.Good) (s s' : St) (evs : List (Nat × Ev)) (h : run c s evs = some s')
    (hi : AllInv s) : AllInv s' :=
  runBy_preserves (step_allinv c hc) (run_eq c ▸ h) hi

theorem reachable_allinv (c : Cfg) (hc : c.Good) (s : St) (h : Reachable c s) : AllInv s := by
  obtain ⟨progs, evs, h⟩ := h
  exact run_allinv c hc _ s evs h ⟨init_inv progs, init_linv false progs⟩

theorem runW_linv (c : Cfg) (hc : c.Good) (s s' : St) (evs : List (Nat × Ev)) (h : runW c s evs = some s')
    (hinv : RInv s) (hl : LInv true s) : LInv true s' :=
  (runBy_preserves (P := fun s => RInv s ∧ LInv true s)
    (fun s s' i e hs hp => ⟨step_inv c hc s s' i e (stepW_step c s s' i e hs) hp.1, stepW_linv c s s' i e hs hp.1 hp.2⟩)
    (runW_eq c ▸ h) ⟨hinv, hl⟩).2

/-! ## 1. every read()/write() call can return once the holders release -/

/-- `read()`: honest-schedule form -/
theorem rw_read_can_always_acquire (c : Cfg) (hc : c.Good) (s : St) (h : Reachable c s) (t : Nat) (ht : t < s.n)
    (hin : inRead (s.ths t).pc = true) : ∃ evs s', runH c s evs = some s' ∧ holdsR (s'.ths t) = true :=
  can_acquire_read c hc s (reachable_allinv c hc s h) t ht hin

/-- `write()`: honest-schedule form -/
theorem rw_write_can_always_acquire (c : Cfg) (hc : c.Good) (s : St) (h : Reachable c s) (t : Nat) (ht : t < s.n)
    (hin : inWrite (s.ths t).pc = true) : ∃ evs s', runH c s evs = some s' ∧ holdsW (s'.ths t) = true :=
  can_acquire_write c hc s (reachable_allinv c hc s h) t ht hin

/-- **every `read()` / `write()` call can return provided the holders release** (liveness in possibility form): from
every reachable state, a thread anywhere inside a blocking `read()` (resp. `write()`) call can be driven to hold a
read (resp. the write) guard by a schedule in which only threads following their programs take steps: the guard
holders run to their unlocking `fetch_sub`; for a reader the waiting bits are then cleared by the wake path
(`wake_writer_or_readers` of a thread already inside it, or of a writer that takes and releases the lock); then the
thread itself proceeds.  Every load in the schedule observes the current value and no weak CAS fails spuriously
(`runH`).  Parked threads resume through the `futex_wake` of `wake_writer` where the schedule runs one that finds them,
and otherwise through a futex return the kernel is always allowed to make (`Ev.spur false`) — in particular the thread
`t` itself, when parked, resumes that way; that the *wake* also arrives is the content of the no-lost-wake-up
invariants and `rw_no_deadlock_sc`.  Under a fair scheduler this is what "every read()/write() returns provided
holders keep releasing" needs from the protocol; starvation by barging threads (and, for readers, by a stream of
writers, which this lock prefers) is not excluded. -/
theorem rw_can_always_acquire (c : Cfg) (hc : c.Good) (s : St) (h : Reachable c s) (t : Nat) (ht : t < s.n)
    (hin : inAcquire (s.ths t) = true) :
    ∃ evs s', run c s evs = some s' ∧
      (if inRead (s.ths t).pc then holdsR (s'.ths t) else holdsW (s'.ths t)) = true := by
  cases hr : inRead (s.ths t).pc with
  | true =>
    obtain ⟨evs, s', r, hh⟩ := rw_read_can_always_acquire c hc s h t ht hr
    exact ⟨evs, s', runH_run c s s' evs r, by simpa using hh⟩
  | false =>
    have hw : inWrite (s.ths t).pc = true := by simpa [inAcquire, hr] using hin
    obtain ⟨evs, s', r, hh⟩ := rw_write_can_always_acquire c hc s h t ht hw
    exact ⟨evs, s', runH_run c s s' evs r, by simpa using hh⟩

/-- the two building blocks, at property level: (a) all holders can release … -/
theorem rw_holders_can_release (c : Cfg) (hc : c.Good) (s : St) (h : Reachable c s) (t : Nat) (ht : t < s.n)
    (hin : inAcquire (s.ths t) = true) :
    ∃ evs s', run c s evs = some s' ∧ cnt s'.state = 0 ∧ inAcquire (s'.ths t) = true := by
  have hin' : inRead (s.ths t).pc = true ∨ inWrite (s.ths t).pc = true := by simpa [inAcquire] using hin
  obtain ⟨s', ⟨evs, r, _, fr⟩, h0⟩ := release_all_holders c hc t s (reachable_allinv c hc s h) hin'
  exact ⟨evs, s', runH_run c s s' evs r, h0, by unfold inAcquire; rw [fr.1, fr.2]; exact hin⟩

/-- … and (b) from an unlocked word the waiting bits can be cleared (so that `is_read_lockable` lets readers in) -/
theorem rw_waiting_bits_can_clear (c : Cfg) (hc : c.Good) (s : St) (h : Reachable c s) (t : Nat) (ht : t < s.n)
    (hin : inRead (s.ths t).pc = true) (h0 : cnt s.state = 0) :
    ∃ evs s', run c s evs = some s' ∧ s'.state = 0 ∧ inRead (s'.ths t).pc = true := by
  obtain ⟨s', ⟨evs, r, _, fr⟩, hz⟩ := clear_bits c hc t (Wc s) s (reachable_allinv c hc s h) hin (Nat.le_refl _) h0
  exact ⟨evs, s', runH_run c s s' evs r, hz, by rw [fr.1]; exact hin⟩

/-! ## 2. the invariant: a waiting bit on an unlocked word is always somebody's job -/

/-- in every reachable state with count field 0 and a waiting bit set, some live thread is inside
`wake_writer_or_readers` at a point whose pending CAS / wake matches the word, or is a writer inside `write()`.
(So a reader is never refused by `is_read_lockable` on an unlocked word with nobody left to clear the bits.) -/
theorem rw_waiting_bits_covered (c : Cfg) (hc : c.Good) (s : St) (h : Reachable c s)
    (h0 : cnt s.state = 0) (hb : hasRW s.state = true ∨ hasWW s.state = true) :
    ∃ j, j < s.n ∧ cov false s.state (s.ths j).pc = true := by
  have hi := reachable_allinv c hc s h
  have hne : s.state ≠ 0 := by
    intro hz; rw [hz] at hb; revert hb; decide
  obtain ⟨j, hj⟩ := hi.l.bc h0 hne
  exact ⟨j, cov_lt false s hi.r j hj, hj⟩

/-- `read_unlock`'s `debug_assert!(!has_readers_waiting(state) || has_writers_waiting(state))` holds -/
theorem rw_read_unlock_assert (c : Cfg) (hc : c.Good) (s : St) (h : Reachable c s) (i : Nat)
    (hpc : (s.ths i).pc = .unlock false) (hrw : hasRW (wsub s.state 1) = true) : hasWW (wsub s.state 1) = true := by
  have hi := reachable_allinv c hc s h
  obtain ⟨hnwl, hge1⟩ := reader_word hi.r (i := i) (by rw [hpc]; rfl)
  rw [hasRW_sub_one s.state hge1 hi.r.lt32] at hrw
  rw [hasWW_sub_one s.state hge1 hi.r.lt32]
  exact hi.l.ra (by omega) hnwl hrw

/-! ## 3. no deadlock, for hand-shake loads that observe current values -/

theorem reachableW_linv (c : Cfg) (hc : c.Good) (s : St) (h : ReachableW c s) : LInv true s := by
  obtain ⟨progs, evs, h⟩ := h
  exact runW_linv c hc _ s evs h (init_inv progs) (init_linv true progs)

/-- **no deadlock** (`ReachableW`): whenever some thread is parked in the kernel (on `state` or on `writer_notify`),
some thread is enabled — it is neither parked nor finished nor panicked — and its next step is defined.  The step is
one of `step`; `stepW` refuses it in one case only, `kNotify` with `writer_notify` about to wrap. -/
theorem rw_no_deadlock_sc (c : Cfg) (hc : c.Good) (s : St) (h : ReachableW c s)
    (hp : ∃ t, isParked (s.ths t) = true) :
    ∃ j, j < s.n ∧ enabled (s.ths j) = true ∧ ∃ e s', step c s j e = some s' := by
  have hl := reachableW_linv c hc s h
  have hi := reachable_allinv c hc s h.reachable
  obtain ⟨progs, evs, hr⟩ := h
  have hq := run_rq c hc _ s evs (runW_run c _ s evs hr) (init_inv progs) (init_rq2 progs)
  have hw := runW_wq c hc _ s evs hr (init_inv progs) (init_wq progs)
  obtain ⟨j, hj, he⟩ := parked_implies_enabled s hi.r hq hw hl hp
  exact ⟨j, hj, he, enabled_can_step c s hi.l j hj he⟩

/-- every unfinished thread is parked (and there is one) -/
def stuck (s : St) : Prop :=
  (∃ t, t < s.n ∧ finished (s.ths t) = false) ∧ ∀ t, t < s.n → finished (s.ths t) = true ∨ isParked (s.ths t) = true

/-- no `ReachableW` state is stuck.  (No "one guard at a time" hypothesis is needed: the
model gives each thread one program counter, so a thread holds at most one guard by construction.) -/
theorem rw_no_deadlock_sc_partial (c : Cfg) (hc : c.Good) (s : St) (h : ReachableW c s) : ¬ stuck s := by
  rintro ⟨⟨t, ht, hf⟩, hall⟩
  have hpt : isParked (s.ths t) = true := by
    rcases hall t ht with h1 | h1
    · rw [h1] at hf; cases hf
    · exact h1
  obtain ⟨j, hj, he, _⟩ := rw_no_deadlock_sc c hc s h ⟨t, hpt⟩
  unfold enabled at he
  rcases hall j hj with h1 | h1 <;> simp [h1] at he

/-- a restricted (`runW`) execution ending with writer 0 holding the lock, writer 1 parked on `writer_notify` and
reader 2 parked on `state` (both waiting bits set) -/
def parkBothTrace : List (Nat × Ev) :=
  parkTrace ++
  [(2, .call .read), (2, .load 0 (WRITE_LOCKED + WW)), (2, .load 0 (WRITE_LOCKED + WW)),
   (2, .cas 0 false (WRITE_LOCKED + WW) (WRITE_LOCKED + WW + RW) .ok), (2, .load 0 (WRITE_LOCKED + WW + RW)),
   (2, .fwait 0 (WRITE_LOCKED + WW + RW) true)]

def liveCfg : Cfg := { genCfg with spinMax := 0 }
def liveProgs : List (List Txn) := [[⟨.write, 0⟩], [⟨.write, 0⟩], [⟨.read, 0⟩]]

theorem liveCfg_good : liveCfg.Good := by decide

/-- hypotheses of `rw_can_always_acquire` and of `rw_no_deadlock_sc` are met in that state: a parked writer and a
parked reader, both inside their acquisition, while a writer holds the lock -/
example : (runW liveCfg (init liveProgs) parkBothTrace).map
    (fun s => decide (1 < s.n) && decide (2 < s.n) &&
      isParked (s.ths 1) && inWrite (s.ths 1).pc && inAcquire (s.ths 1) &&
      isParked (s.ths 2) && inRead (s.ths 2).pc && inAcquire (s.ths 2) &&
      holdsW (s.ths 0) && hasRW s.state && hasWW s.state) = some true := by decide

/-- … and the same trace is honest (`runH`), so the state is also a starting point for honest schedules -/
example : (runH liveCfg (init liveProgs) parkBothTrace).map (fun s => isParked (s.ths 1) && isParked (s.ths 2))
    = some true := by decide

/-- the theorems apply to it -/
example : ∃ s, ReachableW liveCfg s ∧ (∃ t, isParked (s.ths t) = true) ∧
    ∃ j, j < s.n ∧ enabled (s.ths j) = true ∧ ∃ e s', step liveCfg s j e = some s' := by
  have hsome : (runW liveCfg (init liveProgs) parkBothTrace).isSome = true := by decide
  obtain ⟨s, hs⟩ := Option.isSome_iff_exists.mp hsome
  have hr : ReachableW liveCfg s := ⟨liveProgs, parkBothTrace, hs⟩
  have hp : isParked (s.ths 1) = true := by
    have : (runW liveCfg (init liveProgs) parkBothTrace).map (fun s => isParked (s.ths 1)) = some true := by decide
    rw [hs] at this; simpa using this
  exact ⟨s, hr, ⟨1, hp⟩, rw_no_deadlock_sc liveCfg liveCfg_good s hr ⟨1, hp⟩⟩

/-- an unlocked word with a waiting bit and its coverer: after the holder's `fetch_sub` the word is `RW + WW` and the
unlocking thread sits at the matching CAS of `wake_writer_or_readers` -/
example : (runW liveCfg (init liveProgs) (parkBothTrace ++ [(0, .rel), (0, .fsub 0 WRITE_LOCKED (WRITE_LOCKED + WW + RW))])).map
    (fun s => decide (cnt s.state = 0) && hasRW s.state && hasWW s.state && cov true s.state (s.ths 0).pc)
    = some true := by decide

/-- a complete honest schedule from that state to the parked reader holding a read guard: the holder unlocks, its
wake path hands over to the parked writer (`futex_wake`), the writer takes the lock, releases it, finds no parked
writer, wakes the readers; the reader takes the lock -/
def handoverTrace : List (Nat × Ev) :=
  [(0, .rel), (0, .fsub 0 WRITE_LOCKED (WRITE_LOCKED + WW + RW)),
   (0, .cas 0 false (RW + WW) RW .ok), (0, .fadd 1 1 0), (0, .fwake 1 1 [1]),
   (1, .load 0 RW), (1, .cas 0 true RW (RW + WRITE_LOCKED + WW) .ok), (1, .acq), (1, .rel),
   (1, .fsub 0 WRITE_LOCKED (RW + WRITE_LOCKED + WW)),
   (1, .cas 0 false (RW + WW) RW .ok), (1, .fadd 1 1 1), (1, .fwake 1 1 []), (1, .cas 0 false RW 0 .ok),
   (1, .fwake 0 2147483647 [2]),
   (2, .load 0 0), (2, .cas 0 true 0 1 .ok)]

example : (runH liveCfg (init liveProgs) (parkBothTrace ++ handoverTrace)).map
    (fun s => holdsR (s.ths 2) && decide (s.state = 1)) = some true := by decide

example : Reachable genCfg (init [[⟨.read, 1⟩]]) := ⟨[[⟨.read, 1⟩]], [], rfl⟩

end TinyVerif.RwLock
