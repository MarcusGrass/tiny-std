import TinyVerif.Proofs.IoLemmas
import TinyVerif.Proofs.IoPrint
/-!
# C15 — Read/Write helpers are exact for any pattern of short transfers, EINTR, errors

Model: `Model/Io.lean` (mirror of tiny-std/src/io.rs + io/read_buf.rs, tied to the code by `checks/c15.py`).
Specification side (`Proofs/IoLemmas.lean`, independent of the loops): for a reader script,
`delivered` = concatenation of the data pieces before the first end-of-file / non-EINTR error,
`ending` = how it ends, `consumed` = number of responses up to and including that point,
`Conforming log script` = the reader never claimed more bytes than it was offered.

Every theorem quantifies over *all* scripts, initial contents, initial capacities `cap ≥ len` (exact fit
included) and all growth choices `caps` of the allocator.
-/
namespace TinyVerif.Io

theorem init_inv (init : List Nat) (cap : Nat) (caps : List Nat) (h : init.length ≤ cap) :
    Inv init.length false ⟨init, cap, 0, 0, caps, []⟩ :=
  ⟨h, Nat.le_refl _, Nat.le_refl _, Nat.zero_le _, by simp⟩

/-- **read_to_end_exact.** Unless the reader lied about a length (panic), the buffer is the initial content
followed by exactly the delivered bytes, the result is `Ok(appended count)` at the first end of file or the first
non-EINTR error (with everything delivered so far kept), and the reader is not called again afterwards. -/
theorem read_to_end_exact (init : List Nat) (cap : Nat) (caps : List Nat) (script : List RResp)
    (hcap : init.length ≤ cap) (hp : ∀ site, (readToEnd init cap caps script).res ≠ .panic site) :
    (readToEnd init cap caps script).buf = init ++ delivered script ∧
    (readToEnd init cap caps script).res =
      (match ending script with
       | none => .ok (delivered script).length
       | some e => .err e) ∧
    (readToEnd init cap caps script).used = consumed script := by
  have h := (rte_spec init.length cap script false _ (init_inv init cap caps hcap)).2.2 hp
  refine ⟨h.1, ?_, h.2.2⟩
  have := h.2.1
  simp only [expectRes] at this
  unfold readToEnd
  rw [this]
  cases ending script <;> simp

/-- **asserts unreachable for conforming readers**: a panic outcome (any `assert!`, slice index or subtraction
site of `ReadBuf` / the loop) implies that the reader claimed more bytes than the buffer it was offered. -/
theorem read_to_end_no_panic (init : List Nat) (cap : Nat) (caps : List Nat) (script : List RResp)
    (hcap : init.length ≤ cap) (hc : Conforming (readToEnd init cap caps script).log script) :
    ∀ site, (readToEnd init cap caps script).res ≠ .panic site := by
  intro site hx
  exact (rte_spec init.length cap script false _ (init_inv init cap caps hcap)).2.1 site hx hc

/-- **read_to_end_init_sound.** Whatever the reader does (even a lying one), every `assume_init(initialized)`,
`slice_assume_init_mut` and `set_len` is within the bytes that were really zeroed or written: the `initialized`
count carried into the next round never exceeds the initialised part of the spare capacity. -/
theorem read_to_end_init_sound (init : List Nat) (cap : Nat) (caps : List Nat) (script : List RResp)
    (hcap : init.length ≤ cap) : (readToEnd init cap caps script).unsound = false :=
  (rte_spec init.length cap script false _ (init_inv init cap caps hcap)).1

/-- the loop invariant behind the three theorems above is preserved by every step from every state
(main read and probe read alike), and every step is sound -/
theorem read_to_end_step_invariant (L C : Nat) (p : Bool) (s : St) (h : Inv L p s) (r : RResp) :
    StepOK L s r (step L C p s r) := step_ok C h r


/-- **read_to_string_exact** (`valid` = `str::from_utf8(..).is_ok()`, any decidable predicate): the UTF-8 check
looks at the appended bytes only; valid ⇒ exactly as `read_to_end`; invalid ⇒ `Err` (the reader's error if there
was one) and the String equal to its initial value. -/
theorem read_to_string_exact (valid : List Nat → Bool) (init : List Nat) (cap : Nat) (caps : List Nat)
    (script : List RResp) (hcap : init.length ≤ cap)
    (hp : ∀ site, (readToEnd init cap caps script).res ≠ .panic site) :
    (valid (delivered script) = true →
      (readToString valid init cap caps script).buf = init ++ delivered script ∧
      (readToString valid init cap caps script).res =
        (match ending script with
         | none => .ok (delivered script).length
         | some e => .err e)) ∧
    (valid (delivered script) = false →
      (readToString valid init cap caps script).buf = init ∧
      (readToString valid init cap caps script).res = .err ((ending script).getD .invalidUtf8)) := by
  obtain ⟨h1, h2, _⟩ := read_to_end_exact init cap caps script hcap hp
  have hlen : ¬ (init.length + (delivered script).length < init.length) := by omega
  unfold readToString
  -- at end of file and after a reader error alike: the guard's slice is in range, only the appended bytes are checked
  cases he : ending script <;> rw [he] at h2 <;>
    simp only [h2, h1, List.length_append, List.drop_left, List.take_left, hlen, if_false] <;>
    exact ⟨fun hv => by simp [hv, h1, h2], fun hv => by simp [hv]⟩

/-- **read_exact_exact.** With `n` bytes to fill: what was stored is exactly what the consumed responses
delivered, never more than `n`; `Ok` exactly when all `n` arrived (and the reader is then not called again);
otherwise the reader's first non-EINTR error, or the "failed to fill whole buffer" error at end of file. -/
theorem read_exact_exact (n : Nat) (script : List RResp)
    (hp : ∀ site, (readExact n script).res ≠ .panic site) :
    (readExact n script).written = delivered (script.take (readExact n script).used) ∧
    (readExact n script).written.length ≤ n ∧
    ((readExact n script).written.length = n → (readExact n script).res = .ok ()) ∧
    ((readExact n script).written.length < n →
      (readExact n script).used = consumed script ∧
      (readExact n script).res = .err ((ending script).getD .unexpectedEof)) := by
  induction script generalizing n with
  | nil => cases n <;> simp [readExact, delivered, consumed, ending]
  | cons r rest ih =>
    cases n with
    | zero => simp [readExact, delivered]
    | succ n =>
      -- a retried call offers the same buffer again and delivers nothing
      have retry : r.retry = true → readExact (n + 1) (r :: rest) = (readExact (n + 1) rest).push [] (n + 1) := by
        intro hr
        cases r with
        | eintr => rfl
        | err e => simp [readExact, show e = EINTR by simpa [RResp.retry] using hr]
        | _ => cases hr
      by_cases hr : r.retry = true
      · obtain ⟨_, d2, d3⟩ := spec_retry rest hr
        rw [retry hr] at hp ⊢
        obtain ⟨i1, i2, i3, i4⟩ := ih (n + 1) (fun site hx => hp site (by simpa [XOut.push] using hx))
        simp only [XOut.push, List.take_succ_cons, List.nil_append, d2, d3]
        exact ⟨i1.trans (spec_retry _ hr).1.symm, i2, i3, fun h => ⟨by have := (i4 h).1; omega, (i4 h).2⟩⟩
      · cases r with
        | data bs =>
          by_cases hz : bs.length = 0
          · simp [readExact, hz, delivered, consumed, ending]
          · by_cases hb : n + 1 < bs.length
            · exact absurd (by simp [readExact, hz, hb]) (hp .readExactSlice)
            · obtain ⟨i1, i2, i3, i4⟩ := ih (n + 1 - bs.length) (fun site hx => hp site (by
                simp [readExact, hz, hb, XOut.push, hx]))
              simp only [readExact, hz, hb, beq_iff_eq, if_false, XOut.push, List.take_succ_cons, delivered,
                consumed, ending, List.length_append]
              exact ⟨by rw [i1], by omega, fun h => i3 (by omega),
                fun h => ⟨by have := (i4 (by omega)).1; omega, (i4 (by omega)).2⟩⟩
        | err e =>
          have he : ¬ e = EINTR := by simpa [RResp.retry] using hr
          simp [readExact, he, delivered, consumed, ending]
        | eintr => simp [RResp.retry] at hr
        | _ => simp [readExact, delivered, consumed, ending]

/-- **write_all_exact.** The bytes the writer took are a prefix of the data in order, each once (`WSpec`):
all of them on `Ok`; on `Err e` strictly fewer, equal to the sum of the counts the writer accepted, and `e` is
the answer of the last call (the writer's own error, or the "wrote nothing" error for `Ok(0)`), every earlier
call having been a successful short write or EINTR. -/
theorem write_all_exact (data : List Nat) (script : List WResp)
    (hp : ∀ site, (writeAll data script).res ≠ .panic site) :
    WSpec data script (writeAll data script) := writeAll_spec script data hp


/-- **write_fmt_exact** (for formatting arguments that `fmt::write` turns into the `write_str` pieces `bss`):
the writer receives a prefix of the concatenation, in order, each byte once; all of it on `Ok`; strictly less on
`Err` (the error is the one `write_all` returned for the failing piece, see `write_all_exact`). -/
theorem write_fmt_exact (bss : List (List Nat)) (script : List WResp)
    (hp : ∀ site, (writeFmt (bss.map .str) script).res ≠ .panic site) :
    (writeFmt (bss.map .str) script).sink = bss.flatten.take (writeFmt (bss.map .str) script).sink.length ∧
    ((writeFmt (bss.map .str) script).res = .ok () → (writeFmt (bss.map .str) script).sink = bss.flatten) ∧
    (∀ e, (writeFmt (bss.map .str) script).res = .err e →
      (writeFmt (bss.map .str) script).sink.length < bss.flatten.length) := by
  induction bss generalizing script with
  | nil => simp [writeFmt]
  | cons bs rest ih =>
    simp only [List.map_cons, writeFmt] at hp ⊢
    cases h1 : (writeAll bs script).res with
    | panic site => exfalso; apply hp site; simp [h1]
    | err e =>
      have hp1 : ∀ site, (writeAll bs script).res ≠ .panic site := by intro site hx; rw [h1] at hx; cases hx
      obtain ⟨w1, _, _, w4⟩ := writeAll_spec script bs hp1
      obtain ⟨w5, _⟩ := w4 e h1
      simp only [h1, List.flatten_cons, List.length_append]
      refine ⟨?_, fun h => (by cases h), fun _ _ => by omega⟩
      rw [List.take_append_of_le_length (by omega)]
      exact w1
    | ok u =>
      have hp1 : ∀ site, (writeAll bs script).res ≠ .panic site := by intro site hx; rw [h1] at hx; cases hx
      obtain ⟨_, _, w3, _⟩ := writeAll_spec script bs hp1
      have w3 := w3 (by rw [h1])
      simp only [h1] at hp
      have hp2 : ∀ site, (writeFmt (rest.map .str) (writeAll bs script).rest).res ≠ .panic site := by
        intro site hx; apply hp site; simp [WOut.after, hx]
      obtain ⟨i1, i2, i3⟩ := ih _ hp2
      simp only [WOut.after, List.flatten_cons, List.length_append, w3]
      refine ⟨?_, fun h => by rw [i2 h], fun e h => by have := i3 e h; omega⟩
      rw [List.take_length_add_append, ← i1]


/-! ## The print macros' own `fmt::Write` adapter (tiny-std/src/unix/print.rs)

`tryPrint` mirrors `try_print` (the loop over the `write` system call behind `__UnixWriter::write_str` and
`__write_newline`), `printFmt` what `fmt::write` does with it, `printMacro` one expansion of
`print!`/`eprint!` (`ln = false`) or `println!`/`eprintln!` (`ln = true`), `printSeq` several expansions in a row
(`dbg!(a, b)`).  The kernel's answers are the script; `pos`/`isZero`/`isErr` classify an answer as a positive count,
`0`, or an error (EINTR included — `try_print` does not retry, it reports `fmt::Error`).  `o.calls script` pairs every
consumed answer with the size of the buffer that call offered (the model's log); a call is `failing` when its
answer is an error or `0` although a non-empty buffer was offered (`badZero`; `0` for a zero-length write — an empty
piece, `print!("")` — is the normal answer and is not a failure).

The statements hold for EVERY script of answers.  Before the `fix:` commit e1fd457 they were false for one input
class, a `write` answering `0` to a non-empty buffer: `try_print` then returned `Ok`, the rest of the piece was
dropped and later pieces still written (`Legacy.tryPrint`, witness `print_zero_return_loses_bytes`). -/

/-- **try_print_exact.** For every piece and every script of kernel answers: the descriptor receives a prefix of the
piece, in order, each byte once; the function never panics; `Ok` means that the whole piece was delivered; it returns
`Err` exactly when the last answer it consumed was an error or `0` for a non-empty rest, every earlier answer having
been a positive (short) count, and it issues no `write` after that answer.  Unconsumed answers are left for the next
call. -/
theorem try_print_exact (data : List Nat) (script : List WResp) :
    PSpec data script (tryPrint data script) := tryPrint_spec script data

/-- the result of `try_print` is decided by the calls alone: `Ok` exactly when no call failed -/
theorem try_print_ok_iff (data : List Nat) (script : List WResp) :
    (tryPrint data script).res = .ok () ↔ ∀ c ∈ (tryPrint data script).calls script, failing c = false :=
  (tryPrint_spec script data).ok_iff

/-- **print_fmt_exact.** `fmt::write` into the `__UnixWriter`, for every sequence of `write_str` pieces and every
script: the descriptor receives a prefix of the concatenated pieces, in order, each byte once — all of it when the
result is `Ok`; the result is `Err` exactly when some call failed, and then that call is the first failing one and
the last `write` issued: neither the rest of its piece nor any later piece is written. -/
theorem print_fmt_exact (bss : List (List Nat)) (script : List WResp) :
    FSpec bss script (printFmt (bss.map .str) script) := printFmt_spec bss script

theorem print_fmt_ok_iff (bss : List (List Nat)) (script : List WResp) :
    (printFmt (bss.map .str) script).res = .ok () ↔
      ∀ c ∈ (printFmt (bss.map .str) script).calls script, failing c = false :=
  (printFmt_spec bss script).ok_iff

/-- **print_exact** (`print!`/`eprint!`).  For every script: what reaches the descriptor is a prefix of the rendered
message, in order, each byte once; and it is the whole message, unless a `write` failed or answered `0` for a
non-empty buffer — in which case `write_fmt` reports the error (the macro discards it), that call is the first such
call and the last call made: nothing is written after it. -/
theorem print_exact (bss : List (List Nat)) (script : List WResp) :
    (printMacro false (bss.map .str) script).sink =
      bss.flatten.take (printMacro false (bss.map .str) script).sink.length ∧
    ((printMacro false (bss.map .str) script).sink = bss.flatten ∨
      ((printMacro false (bss.map .str) script).res = .err .formatter ∧
       (printMacro false (bss.map .str) script).log.length = (printMacro false (bss.map .str) script).used ∧
       ∃ p c, (printMacro false (bss.map .str) script).calls script = p ++ [c] ∧ failing c = true ∧
         ∀ x ∈ p, failing x = false)) := by
  have s := printFmt_spec bss script
  have e : printMacro false (bss.map .str) script = printFmt (bss.map .str) script := by simp [printMacro]
  rw [e]
  refine ⟨s.pre, ?_⟩
  rcases s.noPanic with h | h
  · exact .inl (s.complete h)
  · exact .inr ⟨h, s.err _ h⟩

/-- **println_exact** (`println!`/`eprintln!` with arguments), the code as it is: the message part is what
`write_fmt` delivered (`print_fmt_exact`: a prefix of the message, complete unless a call failed), and
`__write_newline` is called WHATEVER `write_fmt` returned — exactly one more `write`, of one byte: the newline
follows the (possibly cut) message if the next answer is a positive count or the script is exhausted, and is lost if
that answer is an error or `0`. -/
theorem println_exact (bss : List (List Nat)) (script : List WResp) :
    FSpec bss script (printFmt (bss.map .str) script) ∧
    (printMacro true (bss.map .str) script).sink =
      (printFmt (bss.map .str) script).sink ++ nlPart (printFmt (bss.map .str) script).rest ∧
    (printMacro true (bss.map .str) script).log = (printFmt (bss.map .str) script).log ++ [1] ∧
    (printMacro true (bss.map .str) script).used =
      (printFmt (bss.map .str) script).used + min 1 (printFmt (bss.map .str) script).rest.length := by
  have t := tryPrint_nl (printFmt (bss.map .str) script).rest
  simp only [printMacro, if_true, WOut.after]
  rw [t.1, t.2.1, t.2.2.1]
  exact ⟨printFmt_spec bss script, rfl, rfl, rfl⟩

/-- **print_macro_in_order.** One `print!`/`println!`/`eprint!`/`eprintln!`, every script: what reaches the
descriptor is a prefix of the rendered message followed by a prefix of the newline (for the `ln` forms) — never bytes
out of order, never a byte twice, never a hole inside the message. -/
theorem print_macro_in_order (ln : Bool) (bss : List (List Nat)) (script : List WResp) :
    ∃ n m, (printMacro ln (bss.map .str) script).sink = bss.flatten.take n ++ (nlOf ln).take m := by
  have s := printFmt_spec bss script
  cases ln with
  | false =>
    refine ⟨(printFmt (bss.map .str) script).sink.length, 0, ?_⟩
    simp only [printMacro]
    simpa using s.pre
  | true =>
    have t := tryPrint_spec (printFmt (bss.map .str) script).rest NL
    refine ⟨(printFmt (bss.map .str) script).sink.length,
      (tryPrint NL (printFmt (bss.map .str) script).rest).sink.length, ?_⟩
    simp only [printMacro, if_true, WOut.after, nlOf]
    rw [← s.pre, ← t.pre]

/-- **print_macro_complete.** If no call failed (no error, no `0` for a non-empty buffer; any pattern of short
writes, `0` answered to the zero-length writes of empty pieces), the descriptor receives exactly the rendered
message and the newline. -/
theorem print_macro_complete (ln : Bool) (bss : List (List Nat)) (script : List WResp)
    (h : ∀ c ∈ (printMacro ln (bss.map .str) script).calls script, failing c = false) :
    (printMacro ln (bss.map .str) script).sink = bss.flatten ++ nlOf ln :=
  printMacro_complete ln bss script h

/-- **print_macro_short_writes_exact.** Under a kernel that only ever takes fewer bytes than offered (any pattern of
positive counts, no error, no `0`), the descriptor receives exactly the rendered message and the newline, whatever
the lengths of the pieces. -/
theorem print_macro_short_writes_exact (ln : Bool) (bss : List (List Nat)) (script : List WResp)
    (h : ∀ r ∈ script.take (printMacro ln (bss.map .str) script).used, r.pos = true) :
    (printMacro ln (bss.map .str) script).sink = bss.flatten ++ nlOf ln :=
  printMacro_complete ln bss script (pos_calls_ok h)

/-- the same for a sequence of expansions on one descriptor (`dbg!(a, b)`), which continue on the rest of the script -/
theorem print_seq_complete (ms : List (Bool × List (List Nat))) (script : List WResp)
    (h : ∀ c ∈ (printSeq (seqItems ms) script).calls script, failing c = false) :
    (printSeq (seqItems ms) script).sink = seqRender ms := by
  induction ms generalizing script with
  | nil => simp [printSeq, seqItems, seqRender]
  | cons m more ih =>
    obtain ⟨ln, bss⟩ := m
    have hc := Str.calls_after (printMacro_str ln bss script) (printSeq_str more (printMacro ln (bss.map .str) script).rest)
    simp only [seqItems, List.map_cons, printSeq, seqRender] at h hc ⊢
    rw [hc] at h
    simp only [WOut.after]
    rw [printMacro_complete ln bss script (fun c hx => h c (List.mem_append_left _ hx))]
    have := ih (printMacro ln (bss.map .str) script).rest (fun c hx => h c (List.mem_append_right _ hx))
    simp only [seqItems] at this
    rw [this]

theorem print_seq_short_writes_exact (ms : List (Bool × List (List Nat))) (script : List WResp)
    (h : ∀ r ∈ script.take (printSeq (seqItems ms) script).used, r.pos = true) :
    (printSeq (seqItems ms) script).sink = seqRender ms :=
  print_seq_complete ms script (pos_calls_ok h)

/-- **the defect repaired by e1fd457** (witness on the code before the fix, `Legacy`): a `write` returning `0` for a
non-empty buffer made `try_print` report `Ok`, drop the rest of that piece and carry on with the next piece —
"abc" "de" under the answers 1, 0 reached the descriptor as "ade" with result `Ok`.  The code as it is now stops
there: "a" reaches the descriptor, `write_fmt` reports the error, the third answer is left unconsumed. -/
theorem print_zero_return_loses_bytes :
    ((Legacy.printFmt [.str [0x61, 0x62, 0x63], .str [0x64, 0x65]] [.accept 1, .accept 0, .accept 2]).sink = [0x61, 0x64, 0x65] ∧
     (Legacy.printFmt [.str [0x61, 0x62, 0x63], .str [0x64, 0x65]] [.accept 1, .accept 0, .accept 2]).res = .ok ()) ∧
    ((printFmt [.str [0x61, 0x62, 0x63], .str [0x64, 0x65]] [.accept 1, .accept 0, .accept 2]).sink = [0x61] ∧
     (printFmt [.str [0x61, 0x62, 0x63], .str [0x64, 0x65]] [.accept 1, .accept 0, .accept 2]).res = .err .formatter ∧
     (printFmt [.str [0x61, 0x62, 0x63], .str [0x64, 0x65]] [.accept 1, .accept 0, .accept 2]).rest = [.accept 2]) := by
  decide

/-- the code before the fix does not satisfy `print_fmt_exact` / `print_macro_in_order`: its output on the witness
is not a prefix of the message (and not of the form prefix ++ newline prefix for `println!`) -/
theorem legacy_print_not_exact :
    ¬ FSpec [[0x61, 0x62, 0x63], [0x64, 0x65]] [.accept 1, .accept 0]
      (Legacy.printFmt ([[0x61, 0x62, 0x63], [0x64, 0x65]].map .str) [.accept 1, .accept 0]) ∧
    ¬ ∃ n m, (Legacy.printMacro true ([[0x61, 0x62, 0x63], [0x64, 0x65]].map .str) [.accept 1, .accept 0]).sink =
      ([[0x61, 0x62, 0x63], [0x64, 0x65]] : List (List Nat)).flatten.take n ++ (nlOf true).take m := by
  constructor
  · intro h
    have := h.pre
    revert this
    decide
  · have e : (Legacy.printMacro true ([[0x61, 0x62, 0x63], [0x64, 0x65]].map .str) [.accept 1, .accept 0]).sink =
        [0x61, 0x64, 0x65, 10] := by decide
    rw [e]
    rintro ⟨n, m, h⟩
    have h1 : ([[0x61, 0x62, 0x63], [0x64, 0x65]] : List (List Nat)).flatten = [0x61, 0x62, 0x63, 0x64, 0x65] := by decide
    rw [h1] at h
    match n, h with
    | 0, h => cases m <;> simp [nlOf, NL] at h
    | 1, h => cases m <;> simp [nlOf, NL] at h
    | n + 2, h => simp at h

/-- `filled ≤ initialized ≤ capacity` -/
def ReadBuf.WF (b : ReadBuf) : Prop := b.filled ≤ b.init ∧ b.init ≤ b.cap

/-- **readbuf_invariant.** `uninit`, `assume_init`, `initialize_unfilled_to` and `add_filled` keep
`filled ≤ initialized ≤ capacity`, `remaining` does not underflow; under the invariant the
`assert!`s and slice indices of `initialize_unfilled(_to)` cannot fire when `n ≤ remaining()`, and `add_filled(n)`
fires its assert exactly when `n` exceeds the initialised-but-unfilled bytes (a reader claiming more than it was
offered). -/
theorem readbuf_invariant (b : ReadBuf) (h : b.WF) :
    (ReadBuf.uninit b.cap b.ginit).WF ∧
    (∀ n, b.filled + n ≤ b.cap → (b.assumeInit n).WF ∧ (b.assumeInit n).filled = b.filled ∧ (b.assumeInit n).cap = b.cap) ∧
    (b.remaining = .ok (b.cap - b.filled)) ∧
    (∀ n, n ≤ b.cap - b.filled → ∃ b', b.initializeUnfilledTo n = .ok b' ∧ b'.WF ∧ b'.filled = b.filled ∧
        b'.cap = b.cap ∧ b.filled + n ≤ b'.init) ∧
    (∀ n, n ≤ b.init - b.filled → ∃ b', b.addFilled n = .ok b' ∧ b'.WF ∧ b'.filled = b.filled + n) ∧
    (∀ n, b.init - b.filled < n → b.addFilled n = .panic .setFilledAssert) := by
  obtain ⟨h1, h2⟩ := h
  refine ⟨?_, ?_, ?_, ?_, ?_, ?_⟩
  · simp [ReadBuf.WF, ReadBuf.uninit]
  · intro n hn
    refine ⟨⟨?_, ?_⟩, rfl, rfl⟩ <;> simp only [ReadBuf.assumeInit] <;> omega
  · have : b.filled ≤ b.cap := by omega
    simp [ReadBuf.remaining, this]
  · intro n hn
    have hf : b.filled ≤ b.cap := by omega
    have h3 : ¬ (b.cap - b.filled < n) := by omega
    have h4 : ¬ (b.init < b.filled) := by omega
    have h5 : ¬ (b.cap < b.init) := by omega
    by_cases hx : n > b.init - b.filled
    · have h6 : ¬ (b.cap - b.init < n - (b.init - b.filled)) := by omega
      have h7 : ¬ (b.cap < max b.init (b.filled + n)) := by omega
      have h8 : ¬ (max b.init (b.filled + n) < b.filled + n) := by omega
      simp only [ReadBuf.initializeUnfilledTo, ReadBuf.remaining, hf, if_true, h3, h4, h5, h6, if_false, hx,
        ReadBuf.assumeInit, h7, h8]
      refine ⟨_, rfl, ?_, rfl, rfl, ?_⟩
      · simp only [ReadBuf.WF]; omega
      · simp only []; omega
    · have h8 : ¬ (b.init < b.filled + n) := by omega
      simp only [ReadBuf.initializeUnfilledTo, ReadBuf.remaining, hf, if_true, h3, h4, h5, if_false, hx, h8]
      refine ⟨_, rfl, ?_, rfl, rfl, ?_⟩
      · simp only [ReadBuf.WF]; omega
      · simp only []; omega
  · intro n hn
    have : b.filled + n ≤ b.init := by omega
    simp only [ReadBuf.addFilled, ReadBuf.setFilled, this, if_true]
    refine ⟨_, rfl, ?_, rfl⟩
    simp only [ReadBuf.WF]; omega
  · intro n hn
    have : ¬ (b.filled + n ≤ b.init) := by omega
    simp [ReadBuf.addFilled, ReadBuf.setFilled, this]

/-! ## non-vacuity: concrete scripts exercising every hypothesis set (evaluated by the kernel) -/

/-- exact-fit capacity 3: main read, probe read (32 offered), growth to 5 by `extend_from_slice`, immediate second
growth by `reserve(32)`, EINTR, a hard error after 4 delivered bytes; 0x0b is never asked for -/
example : (readToEnd [1, 2] 3 [] [.data [3], .data [4, 5], .eintr, .data [6], .err 5, .data [0x0b]]).buf = [1, 2, 3, 4, 5, 6] ∧
    (readToEnd [1, 2] 3 [] [.data [3], .data [4, 5], .eintr, .data [6], .err 5, .data [0x0b]]).res = .err (.os 5) ∧
    (readToEnd [1, 2] 3 [] [.data [3], .data [4, 5], .eintr, .data [6], .err 5, .data [0x0b]]).used = 5 ∧
    (readToEnd [1, 2] 3 [] [.data [3], .data [4, 5], .eintr, .data [6], .err 5, .data [0x0b]]).grown = [5, 37] := by
  decide
example : ∀ site, (readToEnd [1, 2] 3 [] [.data [3], .data [4, 5], .eintr, .data [6], .err 5, .data [0x0b]]).res ≠ .panic site := by
  have h : (readToEnd [1, 2] 3 [] [.data [3], .data [4, 5], .eintr, .data [6], .err 5, .data [0x0b]]).res = .err (.os 5) := by decide
  rw [h]; intro site hx; cases hx

/-- the hypotheses of `read_to_end_no_panic` hold for a real run, and fail for a lying reader -/
example : Conforming (readToEnd [] 0 [40] [.data [7, 8], .eof]).log [.data [7, 8], .eof] ∧
    (readToEnd [] 0 [40] [.data [7, 8], .eof]).res = .ok 2 := by
  have h : (readToEnd [] 0 [40] [.data [7, 8], .eof]).log = [⟨false, 40, 0⟩, ⟨false, 38, 38⟩] := by decide
  rw [h]
  exact ⟨by simp [Conforming], by decide⟩
example : (readToEnd [9] 2 [] [.data [7, 8]]).res = .panic .setFilledAssert ∧
    (readToEnd [9] 2 [] [.data [7, 8]]).unsound = false := by decide

/-- the carried-over `initialized` is really used (30 bytes carried into the second read) -/
example : (readToEnd [] 0 [] [.data [1, 2], .eof]).log = [⟨false, 32, 0⟩, ⟨false, 30, 30⟩] := by decide

/-- read_to_string: a 2-byte scalar split across two reads is accepted; a truncated one restores the String -/
example : (readToString utf8Valid [0x41] 4 [] [.data [0xc3], .data [0xa9], .eof]).buf = [0x41, 0xc3, 0xa9] ∧
    (readToString utf8Valid [0x41] 4 [] [.data [0xc3], .data [0xa9], .eof]).res = .ok 2 := by decide
example : (readToString utf8Valid [0x41] 4 [] [.data [0xc3], .eof]).buf = [0x41] ∧
    (readToString utf8Valid [0x41] 4 [] [.data [0xc3], .eof]).res = .err .invalidUtf8 := by decide

example : (readExact 4 [.data [1], .eintr, .data [2, 3], .eof]).res = .err .unexpectedEof ∧
    (readExact 4 [.data [1], .eintr, .data [2, 3], .eof]).written = [1, 2, 3] ∧
    (readExact 2 [.data [1], .data [2], .data [3]]).used = 2 := by decide

example : (writeAll [1, 2, 3, 4, 5] [.accept 2, .eintr, .accept 0]).res = .err .writeZero ∧
    (writeAll [1, 2, 3, 4, 5] [.accept 2, .eintr, .accept 0]).sink = [1, 2] ∧
    (writeAll [1, 2, 3] [.accept 1, .err 4, .accept 2, .err 9]).res = .ok () ∧
    (writeAll [1, 2, 3] [.accept 4]).res = .panic .writeAllSlice := by decide

example : (writeFmt [.str [0x5b], .str [1, 2], .str [], .str [0x5d]] [.accept 1, .accept 1, .err 28]).res = .err (.os 28) ∧
    (writeFmt [.str [0x5b], .str [1, 2], .str [], .str [0x5d]] [.accept 1, .accept 1, .err 28]).sink = [0x5b, 1] ∧
    (writeFmt [.str [1], .fail, .str [2]] []).res = .err .formatter := by decide

/-- print path: short writes over pieces of different lengths (the empty piece's zero-length write is answered `0`), then
the newline; the script of the second conjunct and of the next example has positive counts only, which is the
hypothesis of `print_macro_short_writes_exact` -/
example : (printMacro true [.str [1, 2, 3], .str [], .str [4, 5]] [.accept 2, .accept 5, .accept 0, .accept 1]).sink = [1, 2, 3, 4, 5, 10] ∧
    (printMacro true [.str [1, 2, 3], .str [4, 5]] [.accept 2, .accept 5, .accept 1]).used = 3 := by decide
example : ∀ r ∈ ([.accept 2, .accept 5, .accept 1] : List WResp).take
    (printMacro true ([[1, 2, 3], [4, 5]].map .str) [.accept 2, .accept 5, .accept 1]).used, r.pos = true := by decide

/-- the hypothesis of `print_macro_complete` / `print_seq_complete` (no failing call) holds for a script with short
writes and a `0` answered to the zero-length write of an empty piece — the whole message and the newline arrive —
and fails for an EINTR and for a `0` answered to a non-empty buffer -/
example : (∀ c ∈ (printMacro true ([[1, 2], [], [3, 4]].map .str) [.accept 1, .accept 1, .accept 0, .accept 1, .accept 1, .accept 1]).calls
      [.accept 1, .accept 1, .accept 0, .accept 1, .accept 1, .accept 1], failing c = false) ∧
    (printMacro true ([[1, 2], [], [3, 4]].map .str) [.accept 1, .accept 1, .accept 0, .accept 1, .accept 1, .accept 1]).sink = [1, 2, 3, 4, 10] ∧
    ¬ (∀ c ∈ (printMacro true ([[1, 2], [], [3, 4]].map .str) [.accept 1, .accept 1, .accept 0, .eintr, .accept 1]).calls
      [.accept 1, .accept 1, .accept 0, .eintr, .accept 1], failing c = false) ∧
    ¬ (∀ c ∈ (printMacro false ([[1, 2]].map .str) [.accept 0]).calls [.accept 0], failing c = false) := by decide

/-- the second alternative of `print_exact` is taken by real runs: `0` answered to the non-empty rest of a piece ends
the message there with `Err`, the failing call is the last one, the later piece is not written and its answer stays
unconsumed; `0` answered to an empty piece is `Ok` and the message goes on -/
example : (printMacro false ([[1, 2, 3], [4]].map .str) [.accept 1, .accept 0, .accept 1]).sink = [1] ∧
    (printMacro false ([[1, 2, 3], [4]].map .str) [.accept 1, .accept 0, .accept 1]).res = .err .formatter ∧
    (printMacro false ([[1, 2, 3], [4]].map .str) [.accept 1, .accept 0, .accept 1]).calls [.accept 1, .accept 0, .accept 1] =
      [(3, .accept 1), (2, .accept 0)] ∧
    (printMacro false ([[1, 2, 3], [4]].map .str) [.accept 1, .accept 0, .accept 1]).rest = [.accept 1] ∧
    (printMacro false ([[], [4]].map .str) [.accept 0, .accept 1]).sink = [4] ∧
    (printMacro false ([[], [4]].map .str) [.accept 0, .accept 1]).res = .ok () := by decide

/-- `println_exact` on real runs: after a message cut by a `0` (or an EINTR — not retried) the newline is still
written ("prefix, then newline"); it is lost when its own answer is `0` or an error;
`print!("")` issues one zero-length write; a failing `Display` impl stops the message without a write -/
example : (printMacro true [.str [1, 2, 3], .str [4]] [.accept 1, .accept 0, .accept 1]).sink = [1, 10] ∧
    (printMacro true [.str [1, 2, 3], .str [4]] [.accept 1, .accept 0, .accept 1]).log = [3, 2, 1] ∧
    (printMacro true [.str [1, 2, 3], .str [4]] [.accept 1, .eintr, .accept 1]).sink = [1, 10] ∧
    (printFmt [.str [1, 2, 3], .str [4]] [.accept 1, .eintr, .accept 1]).res = .err .formatter ∧
    (printMacro true [.str [1, 2, 3], .str [4]] [.accept 3, .accept 1, .accept 0]).sink = [1, 2, 3, 4] ∧
    (printMacro true [.str [1, 2, 3], .str [4]] [.accept 1, .accept 0, .err 5]).sink = [1] ∧
    (printMacro false [.str []] [.err 5]).used = 1 ∧
    (printMacro true [.str [1], .fail, .str [2]] []).sink = [1, 10] := by decide

/-- `dbg!(a, b)`: two `eprintln!` expansions sharing the script -/
example : (printSeq [(true, [.str [0x5b], .str [1]]), (true, [.str [0x5b], .str [2]])] [.accept 1, .accept 1, .accept 1, .accept 1]).sink =
    [0x5b, 1, 10, 0x5b, 2, 10] := by decide

example : (⟨10, 3, 5, 5, false⟩ : ReadBuf).WF := ⟨by decide, by decide⟩

end TinyVerif.Io
