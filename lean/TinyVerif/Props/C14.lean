import TinyVerif.Proofs.FsLemmas
/-!
# C14 — file-system post-conditions

Model: `TinyVerif/Model/Fs.lean` (kernel contract = assumption; byte-level mirrors of tiny-std/src/fs.rs).
Every theorem quantifies over every tree `st.root`, every working directory, every path byte string of the
modelled domain (relative/absolute, any number of components, repeated and trailing separators, any existing
prefix, any length: the 512-byte stack/heap split has both arms, PATH_MAX is part of `parsePath`), and every
environment input: scripts of short `write` / `copy_file_range` counts, and the split of a directory's records
over successive `getdents64` answers.  `view root q` is what an observer sees at location `q`
(kind + content, directories without their children), so "`∀ q ≠ loc, view … q = view … q`" says that nothing
but the named location changed — symlink targets included.
-/
namespace TinyVerif.Fs.C14
open TinyVerif.Fs

/-- std's `OpenOptions::get_access_mode`/`get_creation_mode` (library/std/src/sys/fs/unix.rs), written as
boolean conditions instead of the match tables the code uses; `none` = EINVAL -/
def stdFlags (o : Opts) : Option Nat :=
  if !o.read && !o.write && !o.append then none
  else if !o.write && !o.append && (o.truncate || o.create || o.createNew) then none
  else if o.append && o.truncate && !o.createNew then none
  else
    let acc := if o.append then (if o.read then O_RDWR else O_WRONLY) ||| O_APPEND
               else if o.read && o.write then O_RDWR else if o.write then O_WRONLY else O_RDONLY
    let cre := if o.createNew then O_CREAT ||| O_EXCL
               else (if o.create then O_CREAT else 0) ||| (if o.truncate then O_TRUNC else 0)
    some (O_CLOEXEC ||| acc ||| cre)

/-- every one of the 64 `OpenOptions` combinations maps to std's flag set or to the documented error -/
theorem open_flags_table :
    ∀ r w a t c n : Bool, openFlags ⟨r, w, a, t, c, n⟩ 0 = stdFlags ⟨r, w, a, t, c, n⟩ := by decide

/-- `fs::write` opens with O_WRONLY|O_CREAT|O_TRUNC|O_CLOEXEC; the repaired `File::copy` destination likewise -/
theorem write_and_copy_flags :
    openFlags writeOpts 0 = some (O_CLOEXEC ||| O_WRONLY ||| O_CREAT ||| O_TRUNC) ∧
    openFlags ⟨false, true, false, true, true, false⟩ 0 = some (O_CLOEXEC ||| O_WRONLY ||| O_CREAT ||| O_TRUNC) := by decide

/-- **write_post**: whenever `fs::write(p, data)` returns Ok — for every tree, path and pattern of short writes —
the path names a regular file holding exactly `data`, `fs::read(p)` returns `data`, and no other location changed. -/
theorem write_post (st st' : FS) (p data : Bytes) (script : List Nat)
    (h : fsWrite st p data script = (st', .ok ())) :
    ∃ loc, parsePath st p = .ok (loc, false) ∧
      getAt st'.root loc = some (.file data) ∧
      (∀ q, q ≠ loc → view st'.root q = view st.root q) ∧
      fsRead st' p = .ok data := by
  simp only [fsWrite, optsOpen, writeOpts, openFlags_write] at h
  cases hop : openat st p F_WCT with
  | mk st1 r =>
    rw [hop] at h
    cases r with
    | error e => simp at h
    | ok hd =>
      obtain ⟨hpp, hnames, hcwd, inv0, hdir, hfl, hoff⟩ := openat_wct_ok st st1 p hd hop
      obtain ⟨inv, hc⟩ := writeAll_ok st.root script st1 st' hd [] data inv0 hdir hfl (by simp [hoff]) h
      rw [List.nil_append] at inv
      refine ⟨hd.loc, hpp, inv.here, inv.frame, fsRead_file st' p hd.loc data ?_ hnames inv.here⟩
      rw [parsePath_cwd st st' p (hc.trans hcwd)]
      exact hpp

/-- **copy_post**: whenever `copy_file(src, dst)` returns Ok — for EVERY prior state of the destination (absent,
shorter, longer, equal) and every pattern of short `copy_file_range` counts — the destination holds exactly the
source's bytes, and no other location changed (the source included). -/
theorem copy_post (st st' : FS) (src dst : Bytes) (script : List Nat)
    (h : copyFile st src dst script = (st', .ok ())) :
    ∃ sloc dloc s, (∃ tr, parsePath st src = .ok (sloc, tr)) ∧ parsePath st dst = .ok (dloc, false) ∧
      getAt st.root sloc = some (.file s) ∧
      getAt st'.root dloc = some (.file s) ∧
      (∀ q, q ≠ dloc → view st'.root q = view st.root q) := by
  simp only [copyFile, copyFileG, optsOpen, openFlags_read] at h
  cases hop : openat st src F_RD with
  | mk st0 r =>
    rw [hop] at h
    cases r with
    | error e => simp at h
    | ok hs =>
      obtain ⟨rfl, hpp, ⟨hdir, s, hsg⟩ | ⟨hdir, _⟩⟩ := openat_rd_ok st st0 src hs hop
      · simp only [hdir, fileCopy, fstatSize, hsg, optsOpen, openFlags_write] at h
        cases hop2 : openat st0 dst F_WCT with
        | mk st1 r2 =>
          rw [hop2] at h
          cases r2 with
          | error e => simp at h
          | ok hd =>
            obtain ⟨hpp2, _, _, inv0, _⟩ := openat_wct_ok st0 st1 dst hd hop2
            have inv := copyLoop_ok st0.root s hs script st1 st' hd 0 inv0 (Nat.zero_le _)
              (by simp [view, hsg, Node.kind]) h
            exact ⟨hs.loc, hd.loc, s, hpp, hpp2, hsg, inv.here, inv.frame⟩
      · simp [hdir] at h

/-- **remove_dir_all_post** (on a file system that fills in `d_type` and on one that reports DT_UNKNOWN alike): whenever
`remove_dir_all(p)` returns Ok, `p` named a directory, nothing is left at or
below it, and every location that is not below it — symlink targets, siblings, ancestors — looks exactly as
before. -/
theorem remove_dir_all_post (exact : Bool) (st st' : FS) (p : Bytes) (h : removeDirAllOn exact st p = (st', .ok ())) :
    ∃ loc, (∃ tr, parsePath st p = .ok (loc, tr)) ∧ loc ≠ [] ∧
      (∃ es, getAt st.root loc = some (.dir es)) ∧
      (∀ q, loc <+: q → getAt st'.root q = none) ∧
      (∀ q, ¬ loc <+: q → view st'.root q = view st.root q) := by
  unfold removeDirAllOn at h
  rw [show (O_CLOEXEC ||| O_RDONLY) = F_RD from by decide] at h
  cases hop : openat st p F_RD with
  | mk st0 r =>
    rw [hop] at h
    cases r with
    | error e => simp at h
    | ok hd =>
      obtain ⟨rfl, ⟨tr, hpp⟩, hkind⟩ := openat_rd_ok st st0 p hd hop
      cases hg : getAt st0.root hd.loc with
      | none => simp [hg] at h
      | some d =>
        cases hr : removeAllN exact (depth d + 1) d with
        | mk d' res =>
          cases res with
          | error e => simp [hg, hr] at h
          | ok u =>
            simp only [hg, hr] at h
            -- the final `rmdir` resolves the same path in a state with the same working directory
            obtain ⟨loc, tr2, hpp2, hne, _, hroot, _⟩ := unlinkat_rmdir_ok _ st' p h
            rw [parsePath_cwd st0 ⟨setAt st0.root hd.loc (some d'), st0.cwd⟩ p rfl, hpp] at hpp2
            obtain ⟨rfl, _⟩ : hd.loc = loc ∧ tr = tr2 := by simpa using hpp2
            refine ⟨hd.loc, ⟨tr, hpp⟩, hne, ?_, ?_, ?_⟩
            · rcases hkind with ⟨_, b, hb⟩ | ⟨_, hes⟩
              · obtain rfl : Node.file b = d := by simpa [hb] using hg
                exact absurd (congrArg Prod.snd hr) (removeAllN_file _ _ b)
              · exact hes
            · rintro q ⟨m, rfl⟩
              rw [hroot, getAt_append, getAt_setAt_none _ _ hne]
              rfl
            · intro q hq
              have hqne : q ≠ hd.loc := by rintro rfl; exact hq (List.prefix_refl _)
              rw [hroot, view_setAt_other _ _ _ _ hqne hq, view_setAt_other _ _ _ _ hqne hq]

/-- **create_dir_all, existing content untouched** (full strength, for EVERY outcome — Ok, any error — every tree
and every path): every location that held something before holds exactly the same thing afterwards; the call can
only have added directories. -/
theorem create_dir_all_untouched (st : FS) (p : Bytes) :
    (createDirAll st p).1.cwd = st.cwd ∧
    ∀ q k, view st.root q = some k → view (createDirAll st p).1.root q = some k :=
  createDirAll_mono st p

/-- **create_dir_all_post** (EVERY path: absolute, relative, repeated separators, any number of trailing separators,
any existing prefix, any length): on Ok the location the path names and every one of its ancestors is a directory,
everything that existed is unchanged, the path is in the modelled domain, and — whenever the path is one the kernel
accepts at all (shorter than PATH_MAX) — it resolves to exactly that location.
`hroot` (the root of the tree is a directory) is needed for the single path `/`, for which the code makes no system
call at all (`create_dir_all_root_needed`). -/
theorem create_dir_all_post (st st' : FS) (p : Bytes) (hroot : ∃ es, st.root = .dir es)
    (h : createDirAll st p = (st', .ok ())) :
    (∀ l, l <+: pathLoc st p → ∃ es, getAt st'.root l = some (.dir es)) ∧
    (∀ q k, view st.root q = some k → view st'.root q = some k) ∧
    (comps p).any isDots = false ∧
    (p.length < PATH_MAX → ∃ tr, parsePath st p = .ok (pathLoc st p, tr)) := by
  have hm := createDirAll_mono st p
  rw [h] at hm
  obtain ⟨⟨es, hg⟩, hdots, hpp⟩ := createDirAll_dirAt st st' p hroot h
  exact ⟨prefixes_are_dirs _ _ es hg, hm.2, hdots, hpp⟩

/-- paths not ending in a separator need no assumption on the root, and Ok implies the kernel accepts the path -/
theorem create_dir_all_post_no_trailing (st st' : FS) (p : Bytes)
    (h : createDirAll st p = (st', .ok ())) (hl : p.getLast? ≠ some SLASH) :
    ∃ loc tr, parsePath st p = .ok (loc, tr) ∧
      (∀ l, l <+: loc → ∃ es, getAt st'.root l = some (.dir es)) ∧
      (∀ q k, view st.root q = some k → view st'.root q = some k) := by
  obtain ⟨q, tr, es, hq, hpp, hg⟩ := createDirAll_ok_resolves st st' p (by rintro rfl; simp at hl) h
  obtain rfl : q = p := by
    rcases hq with rfl | ⟨_, rfl⟩
    · rfl
    · simp at hl
  have hm := createDirAll_mono st q
  rw [h] at hm
  exact ⟨_, tr, hpp, prefixes_are_dirs _ _ es hg, hm.2⟩

/-- **readdir_exactly_once** — for EVERY directory content `rs` and EVERY way the kernel may split it over
successive `getdents64(fd, buf, 512)` calls (`chunks`: any partition of `rs` into non-empty runs of records that fit
the 512-byte buffer, followed by the answer 0; whatever the script holds after that is never asked for), the iterator
yields every entry exactly once, in order, with its exact type and name — names of 0..255 bytes, `.` and `..` like any
other entry — and then `None` for every one of the `k` further calls, for every `k`. -/
theorem readdir_exactly_once (rs : List Rec) (chunks : List (List Rec)) (tail : List Dents) (k : Nat)
    (hsplit : chunks.flatten = rs) (hok : ∀ c ∈ chunks, ChunkOk c) :
    (ReadDir.new (chunks.map Dents.recs ++ .eod :: tail)).run (rs.length + k) =
      rs.map entryOf ++ List.replicate k Item.done := by
  subst hsplit
  obtain ⟨s', hrun, h1, h2, _, h4⟩ := run_new_chunks chunks (.eod :: tail) k hok
  rw [hrun, run_at_eod s' k h1 h2 (.inr ⟨tail, h4⟩)]

/-- the same when the directory stream simply ends (script exhausted) -/
theorem readdir_exactly_once_exhausted (rs : List Rec) (chunks : List (List Rec)) (k : Nat)
    (hsplit : chunks.flatten = rs) (hok : ∀ c ∈ chunks, ChunkOk c) :
    (ReadDir.new (chunks.map Dents.recs)).run (rs.length + k) = rs.map entryOf ++ List.replicate k Item.done := by
  subst hsplit
  obtain ⟨s', hrun, h1, h2, _, h4⟩ := run_new_chunks chunks [] k hok
  rw [List.append_nil] at hrun
  rw [hrun, run_at_eod s' k h1 h2 (.inl h4)]

/-- an error answer (EINTR, EIO, …) at any point: `ReadDir::next` does NOT retry — the entries of the chunks received
so far, exactly once and in order, then that error once, then `None` forever -/
theorem readdir_error_answer (rs : List Rec) (chunks : List (List Rec)) (e : Nat) (tail : List Dents) (k : Nat)
    (hsplit : chunks.flatten = rs) (hok : ∀ c ∈ chunks, ChunkOk c) :
    (ReadDir.new (chunks.map Dents.recs ++ .err e :: tail)).run (rs.length + (k + 1)) =
      rs.map entryOf ++ Item.err (.os e) :: List.replicate k Item.done := by
  subst hsplit
  obtain ⟨s', hrun, h1, h2, _, h4⟩ := run_new_chunks chunks (.err e :: tail) (k + 1) hok
  rw [hrun, run_at_err s' k e tail h1 h2 h4]

/-- every directory content has a legal split: the kernel's own (as many whole records as fit, each time); and over
it the drained iterator (`readDirAll`, what `remove_all` consumes) returns every record exactly once, in order -/
theorem readdir_kernel_split (rs : List Rec) (hok : ∀ r ∈ rs, RecOk r) :
    (∃ chunks : List (List Rec), kernelDents 512 rs.length rs = chunks.map Dents.recs ++ [.eod] ∧
      chunks.flatten = rs ∧ ∀ c ∈ chunks, ChunkOk c) ∧
    readDirAll rs = .ok (rs.map fun r => (r.dtype, r.name)) :=
  ⟨kernelDents_chunks rs.length rs (Nat.le_refl _) hok, readDirAll_exact rs hok⟩

/-- `DirEntry::is_relative_reference` singles out exactly `.` and `..` -/
theorem is_relative_reference_iff (n : Name) : isRelRef n = true ↔ n = [DOT] ∨ n = [DOT, DOT] := by
  simp [isRelRef]

/-- **readdir_record_exact** (the per-record step under the theorems above): `Dirent::try_from_bytes` applied to a
buffer that starts with one `linux_dirent64` record returns exactly that record's length, type and name, whatever
follows (next records or stale bytes of an earlier refill). -/
theorem readdir_record_exact (r : Rec) (tail : Bytes)
    (hv : r.name.length ≤ 255) (hz : ∀ b ∈ r.name, b ≠ 0) :
    tryFromBytes (encode r ++ tail) = .some ⟨reclen r, r.dtype, r.name⟩ ∧
    20 + r.name.length ≤ reclen r ∧ reclen r ≤ 280 ∧ reclen r % 8 = 0 :=
  ⟨tryFromBytes_encode r tail hv hz, reclen_bounds r hv⟩

def demoStream : List Rec :=
  [⟨1, 1, 4, [46]⟩, ⟨2, 2, 4, [46, 46]⟩, ⟨3, 3, 8, List.replicate 255 97⟩, ⟨4, 4, 10, [98]⟩,
   ⟨5, 5, 1, List.replicate 200 99⟩, ⟨6, 6, 8, List.replicate 236 100⟩, ⟨7, 7, 4, List.replicate 100 101⟩,
   ⟨8, 8, 8, [102, 103]⟩, ⟨9, 9, 8, List.replicate 255 104⟩, ⟨10, 10, 8, List.replicate 254 105⟩]

def okList (o : Out (List (Nat × Name))) : Option (List (Nat × Name)) := Except.toOption o

theorem demoStream_ok : ∀ r ∈ demoStream, RecOk r := by decide +kernel

/-- ten records (names of 1, 2, 100, 200, 236, 254, 255 bytes; all four types): the kernel's split of them is
4-2-3-1, one fill of the 512-byte buffer and three refills; the drained iterator yields every one exactly once, in
order, with its exact name and type -/
theorem readdir_three_refills :
    okList (readDirAll demoStream) = some (demoStream.map fun r => (r.dtype, r.name)) := by
  rw [readDirAll_exact demoStream demoStream_ok]
  rfl

/-- three legal splits of the same ten records: one record per call, 3-2-1-2-1-1 and 2-1-1-1-1-3-1 (the kernel's own
split of them is 4-2-3-1) -/
def demoSplits : List (List (List Rec)) :=
  [demoStream.map (fun r => [r]),
   [demoStream.take 3, (demoStream.drop 3).take 2, (demoStream.drop 5).take 1, (demoStream.drop 6).take 2,
    (demoStream.drop 8).take 1, demoStream.drop 9],
   [demoStream.take 2, (demoStream.drop 2).take 1, (demoStream.drop 3).take 1, (demoStream.drop 4).take 1,
    (demoStream.drop 5).take 1, (demoStream.drop 6).take 3, demoStream.drop 9]]

/-- the script of `copyLoop` ranges over EVERY legal return value of `copy_file_range`: any `0 < w ≤ requested` is
produced by the script entry `w`, and no entry produces anything else (0 is returned only at the end of the source,
which `File::copy` never asks beyond: it requests `st_size - offset` bytes) -/
theorem copy_counts_cover (want : Nat) :
    (∀ w, 0 < w → w ≤ want → clamp w want = w) ∧ (∀ k, clamp k want ≤ want) ∧ (∀ k, 0 < want → 0 < clamp k want) :=
  ⟨fun w h1 h2 => by unfold clamp; split <;> omega, fun k => clamp_le k want, fun k h => clamp_pos k want h⟩

/-! ## defects of the code before the `fix:` commits (model-level witnesses; replayed on the real code by checks/c14.py) -/

def demo : FS :=
  ⟨.dir [([100], .file [48, 49, 50, 51, 52, 53, 54, 55, 56, 57]), ([115], .file [97, 98, 99]), ([101], .dir [])], []⟩

def readAfter (r : FS × Out Unit) (p : Bytes) : Option Bytes :=
  Except.toOption <| match r with
    | (st, .ok ()) => fsRead st p
    | (_, .error e) => .error e

def viewAfter (r : FS × Out Unit) (q : List Name) : Option (Option Kind) :=
  match r with
  | (st, .ok ()) => some (view st.root q)
  | (_, .error _) => none

def errOf (r : FS × Out Unit) : Option E :=
  match r with
  | (_, .ok ()) => none
  | (_, .error e) => some e

/-- DESIGN §4 #14: `abc` copied over `0123456789` left `abc3456789` (no O_TRUNC) -/
theorem old_copy_keeps_tail :
    readAfter (copyFileOld demo [115] [100] []) [100] = some [97, 98, 99, 51, 52, 53, 54, 55, 56, 57] := by decide

/-- the repaired code on the same input -/
theorem copy_replaces_longer : readAfter (copyFile demo [115] [100] []) [100] = some [97, 98, 99] := by decide

/-- offsets passed by value: after a short first `copy_file_range` the second call faulted (EFAULT = 14) -/
theorem old_copy_short_count_efault : errOf (copyFileOld demo [100] [110] [4]) = some (.os 14) := by decide

theorem copy_short_count_ok :
    readAfter (copyFile demo [100] [110] [4, 1, 1]) [110] = some [48, 49, 50, 51, 52, 53, 54, 55, 56, 57] := by decide

/-- DESIGN §4 #15a: `create_dir_all("e/n")` with `e` existing returned Ok and created nothing -/
theorem old_create_dir_all_existing_prefix :
    viewAfter (createDirAllOld demo [101, 47, 110]) [[101], [110]] = some none := by decide

/-- DESIGN §4 #15b: `create_dir_all("n")` (no separator) returned Ok and created nothing -/
theorem old_create_dir_all_single :
    viewAfter (createDirAllOld demo [110]) [[110]] = some none := by decide

/-- a repeated separator made the upward phase trip over its own directory (EEXIST) -/
theorem old_create_dir_all_repeated_slash :
    errOf (createDirAllOld demo [120, 47, 97, 47, 47, 98]) = some (.os EEXIST) := by decide

/-- a path longer than 512 bytes panicked (empty heap slice) -/
theorem old_create_dir_all_long_panics (st : FS) (p : Bytes) (h : p.length > 512) :
    errOf (createDirAllOld st p) = some .panic := by
  have h0 : p.length ≠ 0 := by omega
  simp [createDirAllOld, h0, h, errOf]

theorem create_dir_all_existing_prefix :
    viewAfter (createDirAll demo [101, 47, 110]) [[101], [110]] = some (some .dir) := by decide

theorem create_dir_all_single : viewAfter (createDirAll demo [110]) [[110]] = some (some .dir) := by decide

theorem create_dir_all_repeated_slash :
    viewAfter (createDirAll demo [120, 47, 97, 47, 47, 98]) [[120], [97], [98]] = some (some .dir) := by decide

/-- a regular file in the way is reported, not taken for the directory -/
theorem create_dir_all_file_in_the_way : errOf (createDirAll demo [100]) = some (.os EEXIST) := by decide

/-- THE EXCEPTION CLASS of "Ok ⇒ the path resolves": a path of exactly PATH_MAX = 4096 bytes that ends in a
separator.  The code only ever hands the kernel the path WITHOUT its last separator (4095 bytes: accepted), and when
that `mkdir` creates the directory it returns Ok without the final `stat` of the whole path — which the kernel (and
std::fs::create_dir_all) refuses with ENAMETOOLONG.  The directory named lexically does exist (first conjunct of
`create_dir_all_post`).  Witness: `a` followed by 4095 separators. -/
def pathMaxTrailing : Bytes := 97 :: List.replicate 4095 SLASH

def statErrAfter (r : FS × Out Unit) (p : Bytes) : Option E :=
  match r with
  | (st, .ok ()) => (match stat st p with | .error e => some e | .ok _ => none)
  | (_, .error _) => none

theorem create_dir_all_path_max_trailing :
    pathMaxTrailing.length = PATH_MAX ∧ errOf (createDirAll demo pathMaxTrailing) = none ∧
    viewAfter (createDirAll demo pathMaxTrailing) [[97]] = some (some .dir) ∧
    statErrAfter (createDirAll demo pathMaxTrailing) pathMaxTrailing = some (.os ENAMETOOLONG) := by
  have h : createDirAll demo pathMaxTrailing = _ :=
    createDirAll_name_slashes demo 97 4095 (by decide) (by decide) (by decide) (by decide) rfl
  have hl : pathMaxTrailing.length = PATH_MAX := by rw [pathMaxTrailing, List.length_cons, List.length_replicate]
  rw [h]
  refine ⟨hl, rfl, by decide, ?_⟩
  rw [statErrAfter, stat, parsePath_too_long _ _ (Nat.le_of_eq hl.symm)]

/-- one byte shorter, the same shape resolves -/
theorem create_dir_all_below_path_max_trailing :
    errOf (createDirAll demo (97 :: List.replicate 4094 SLASH)) = none ∧
    statErrAfter (createDirAll demo (97 :: List.replicate 4094 SLASH)) (97 :: List.replicate 4094 SLASH) = none := by
  rw [createDirAll_name_slashes demo 97 4094 (by decide) (by decide) (by decide) (by decide) rfl]
  refine ⟨rfl, ?_⟩
  rw [statErrAfter, stat, parsePath_name_slashes _ 97 4094 (by decide) (by decide) (by decide)]
  rfl

/-- `create_dir_all("/")` makes no system call and returns Ok: in a model state whose root is not a directory the
conclusion fails, hence `hroot` (a real root always is a directory) -/
theorem create_dir_all_root_needed :
    errOf (createDirAll ⟨.file [], []⟩ [SLASH]) = none ∧ view (createDirAll ⟨.file [], []⟩ [SLASH]).1.root [] = some (.file []) := by
  decide

/-! ## every kind of node (sockets, character and block devices next to files, directories, symlinks, fifos) -/

/-- `Metadata::is_dir / is_file / is_symlink` (masked comparison of `st_mode`) recognise exactly their own file type,
for EVERY kind of node -/
theorem metadata_predicates_exact (k : Kind) :
    (metaIsDir k.stMode = true ↔ k = .dir) ∧ (metaIsFile k.stMode = true ↔ ∃ b, k = .file b) ∧
    (metaIsSymlink k.stMode = true ↔ ∃ t, k = .symlink t) :=
  ⟨metaIsDir_stMode k, metaIsFile_stMode k, metaIsSymlink_stMode k⟩

/-- why the comparison must be masked-and-equal: the file-type field is an enumeration; an any-bit test against
S_IFDIR (`mode.contains(S_IFDIR)`) also fires for sockets (0o140000) and block devices (0o060000) -/
theorem is_dir_any_bit_test_wrong :
    (Kind.special .sock).stMode &&& S_IFDIR ≠ 0 ∧ (Kind.special .blk).stMode &&& S_IFDIR ≠ 0 ∧
    metaIsDir (Kind.special .sock).stMode = false ∧ metaIsDir (Kind.special .blk).stMode = false := by decide

/-- **metadata_post**: what `fs::metadata(p)` reports through `is_dir`/`is_file`/`is_symlink`/`len` is exactly the
kind of the node the path resolves to (symlinks are followed, so `is_symlink` is false), for every kind of node -/
theorem metadata_post (st : FS) (p : Bytes) (d f l : Bool) (len : Option Nat) (hp : p ≠ [])
    (h : fsMetadata st p = .ok (d, f, l, len)) :
    ∃ loc tr n, parsePath st p = .ok (loc, tr) ∧ getAt st.root loc = some n ∧
      (d = true ↔ ∃ es, n = .dir es) ∧ (f = true ↔ ∃ b, n = .file b) ∧ l = false ∧
      (∀ b, n = .file b → len = some b.length) := by
  unfold fsMetadata statE at h
  simp only [hp, if_false] at h
  cases hs : stat st p with
  | error e => rw [hs] at h; simp at h
  | ok k =>
    rw [hs] at h
    simp only [Except.ok.injEq, Prod.mk.injEq] at h
    obtain ⟨hd, hf, hl, hlen⟩ := h
    obtain ⟨loc, tr, n, hpp, hg, hk, hns⟩ := stat_ok st p k hs
    refine ⟨loc, tr, n, hpp, hg, ?_, ?_, ?_, ?_⟩
    · rw [← hd, metaIsDir_stMode, ← hk]; cases n <;> simp [Node.kind]
    · rw [← hf, metaIsFile_stMode, ← hk]; cases n <;> simp [Node.kind]
    · rw [← hl]
      cases hsl : metaIsSymlink k.stMode with
      | false => rfl
      | true =>
        obtain ⟨t, ht⟩ := (metaIsSymlink_stMode k).mp hsl
        rw [← hk] at ht
        cases n <;> simp [Node.kind] at ht
        exact absurd rfl (hns _)
    · intro b hb
      subst hb
      simp [Node.kind] at hk
      subst hk
      exact hlen.symm

/-- `fs::exists(p)` answers true only when the path resolves to a node -/
theorem exists_post (st : FS) (p : Bytes) (hp : p ≠ []) (h : fsExists st p = .ok true) :
    ∃ loc tr n, parsePath st p = .ok (loc, tr) ∧ getAt st.root loc = some n := by
  unfold fsExists statE at h
  simp only [hp, if_false] at h
  cases hs : stat st p with
  | ok k =>
    obtain ⟨loc, tr, n, hpp, hg, _, _⟩ := stat_ok st p k hs
    exact ⟨loc, tr, n, hpp, hg⟩
  | error e =>
    rw [hs] at h
    simp only at h
    split at h <;> simp at h

/-- FINDING (known_findings.d/C14.jsonl): `rusl::unistd::stat` always passes AT_EMPTY_PATH, so for the EMPTY path
`fs::metadata("")` is Ok and describes the working directory and `fs::exists("")` is `Ok(true)` — std::fs answers
ENOENT / false, and the doc comment of `exists` promises a false negative.  Hence `p ≠ []` in the two theorems above. -/
theorem metadata_empty_path_is_cwd :
    (match fsMetadata demo [] with | .ok r => some r | .error _ => none) = some (true, false, false, none) ∧
    (match fsExists demo [] with | .ok b => some b | .error _ => none) = some true ∧
    (match stat demo [] with | .ok _ => none | .error e => some e) = some (.os ENOENT) := by decide

def demoKinds : FS :=
  ⟨.dir [([115, 107], .special .sock), ([99], .special .chr), ([98], .special .blk), ([112], .fifo), ([102], .file [1]),
         ([100], .dir [([115], .special .sock), ([98], .special .blk), ([120], .dir [([99], .special .chr)])])], []⟩

/-- a socket, a block device, a character device, a fifo already at the path (with or without a trailing separator,
or as an intermediate component): `create_dir_all` reports it — `create_dir_all_post` (Ok ⇒ every prefix is a
DIRECTORY node) holds for trees with every kind of node, and these are the inputs on which an `is_dir` that is not a
masked comparison returns Ok -/
theorem create_dir_all_special_in_the_way :
    errOf (createDirAll demoKinds [115, 107]) = some (.os EEXIST) ∧ errOf (createDirAll demoKinds [98]) = some (.os EEXIST) ∧
    errOf (createDirAll demoKinds [99]) = some (.os EEXIST) ∧ errOf (createDirAll demoKinds [112]) = some (.os EEXIST) ∧
    errOf (createDirAll demoKinds [115, 107, 47]) = some (.os ENOTDIR) ∧
    errOf (createDirAll demoKinds [98, 47, 120]) = some (.os ENOTDIR) ∧
    errOf (createDirAll demoKinds [100, 47, 115]) = some (.os EEXIST) := by decide

/-- `remove_dir_all` over a tree holding sockets and device nodes: they are unlinked (never opened or descended into) -/
theorem remove_dir_all_with_specials :
    errOf (removeDirAll demoKinds [100]) = none ∧ viewAfter (removeDirAll demoKinds [100]) [[100]] = some none ∧
    viewAfter (removeDirAll demoKinds [100]) [[115, 107]] = some (some (.special .sock)) := by decide +kernel

/-! ## the file system under the tree: what `getdents64` reports as `d_type` (exact type, or DT_UNKNOWN) -/

/-- `d_type` of an entry on a file system that fills it in names the node's kind: never Unknown, Directory exactly for
directories, Symlink exactly for symlinks -/
theorem file_type_exact (n : Node) :
    fileType n.dtype ≠ .unknown ∧ (fileType n.dtype = .dir ↔ ∃ es, n = .dir es) ∧
    (fileType n.dtype = .lnk ↔ ∃ t, n = .symlink t) := by
  cases n with
  | special s => cases s <;> simp [Node.dtype] <;> decide
  | dir es => simp [Node.dtype]; decide
  | file b => simp [Node.dtype]; decide
  | symlink t => simp [Node.dtype]; decide
  | fifo => simp [Node.dtype]; decide

/-- **readdir_type_sound**: on BOTH kinds of file system the directory stream carries every entry with its exact NAME,
and a type that is the exact one or Unknown — never a wrong definite type.  Together with `readdir_exactly_once` (the
iterator yields the stream's records exactly once, in order, name and `d_type` untouched) and `fileType` (`file_type()`
maps DT_UNKNOWN to `FileType::Unknown` and consults nothing else) this is the statement for the iteration. -/
theorem readdir_type_sound (exact : Bool) (es : List (Name × Node)) :
    (dirRecsOn exact es).length = (dirRecs es).length ∧
    ∀ p ∈ (dirRecsOn exact es).zip (dirRecs es),
      p.1.name = p.2.name ∧ (fileType p.1.dtype = fileType p.2.dtype ∨ fileType p.1.dtype = .unknown) := by
  cases exact with
  | true =>
    refine ⟨by simp [dirRecsOn], ?_⟩
    intro p hp
    have := zip_map_left (fun r : Rec => r) (dirRecs es) p (by simpa [dirRecsOn] using hp)
    rw [this]; exact ⟨rfl, Or.inl rfl⟩
  | false =>
    refine ⟨by simp [dirRecsOn], ?_⟩
    intro p hp
    have := zip_map_left (fun r : Rec => { r with dtype := DT_UNKNOWN }) (dirRecs es) p (by simpa [dirRecsOn] using hp)
    rw [this]; exact ⟨rfl, Or.inr (show fileType DT_UNKNOWN = .unknown from by decide)⟩

/-- **remove_dir_all on a DT_UNKNOWN mount** (current code): it never succeeds — every entry is `FileType::Unknown`,
so `.`, the first entry, is handed to the plain `unlinkat`, which answers EISDIR — and the directory is left exactly as
it was.  The property speaks of a remove_dir_all that SUCCEEDS (`remove_dir_all_post`, proved for both kinds of mount);
failing is allowed, damaging is not: nothing was touched, inside or outside. -/
theorem remove_all_unknown_mount_fails (fuel : Nat) (es : List (Name × Node))
    (hn : ∀ e ∈ es, e.1.length ≤ 255 ∧ ∀ b ∈ e.1, b ≠ 0) :
    removeAllN false (fuel + 1) (.dir es) = (.dir es, .error (.os EISDIR)) := by
  have hok : ∀ r ∈ dirRecsOn false es, RecOk r := by
    intro r hr
    simp only [dirRecsOn, Bool.false_eq_true, if_false, dirRecs, List.map_cons, List.map_map, List.mem_cons, List.mem_map] at hr
    rcases hr with rfl | rfl | ⟨e, he, rfl⟩
    · exact ⟨by decide, by decide⟩
    · exact ⟨by decide, by decide⟩
    · exact hn e he
  simp only [removeAllN, readDirAll_exact (dirRecsOn false es) hok]
  simp only [dirRecsOn, Bool.false_eq_true, if_false, dirRecs, List.map_cons]
  unfold removeEntries
  simp only [show ¬ fileType DT_UNKNOWN = FType.dir from by decide, if_false, unlinkatN,
    show isDots [DOT] = true from by decide, if_true, Bool.false_eq_true]

def demoLinks : FS :=
  ⟨.dir [([107], .dir [([112], .file [1])]),                                      -- k/p   (outside the tree)
         ([116], .dir [([108], .symlink [46, 46, 47, 107]), ([102], .file [2])])], []⟩   -- t/l -> ../k, t/f

/-- the same tree on the two kinds of mount: removed on one, EISDIR and untouched on the other; `k/p` untouched on both -/
theorem remove_dir_all_two_mounts :
    errOf (removeDirAllOn true demoLinks [116]) = none ∧ viewAfter (removeDirAllOn true demoLinks [116]) [[116]] = some none ∧
    viewAfter (removeDirAllOn true demoLinks [116]) [[107], [112]] = some (some (.file [1])) ∧
    errOf (removeDirAllOn false demoLinks [116]) = some (.os EISDIR) ∧
    view (removeDirAllOn false demoLinks [116]).1.root [[116], [108]] = some (.symlink [46, 46, 47, 107]) ∧
    view (removeDirAllOn false demoLinks [116]).1.root [[107], [112]] = some (.file [1]) := by decide +kernel

/-- a `file_type()` that answers DT_UNKNOWN with a stat that FOLLOWS symlinks (`statat(dir_fd, name)`; rusl has no
lstat): `follow name` = the node the name resolves to through links -/
def fileTypeStatFollow (follow : Name → Option Node) (t : Nat) (name : Name) : FType :=
  if t = DT_UNKNOWN then (match follow name with | some n => fileType n.dtype | none => .unknown) else fileType t

/-- WITNESS: such a fallback violates type soundness and link safety.  For `t/l -> ../k` on a DT_UNKNOWN mount it
reports Directory — a definite type that is wrong (the entry is a Symlink), and exactly the value on which
`Directory::remove_all` opens the name (following the link) and recurses: into `k`, outside the tree. -/
theorem stat_follow_fallback_unsound :
    let follow : Name → Option Node := fun n => if n = [108] then getAt demoLinks.root [[107]] else none
    fileTypeStatFollow follow DT_UNKNOWN [108] = .dir ∧
    fileType (Node.symlink [46, 46, 47, 107]).dtype = .lnk ∧ fileType DT_UNKNOWN = .unknown ∧
    ¬ (fileTypeStatFollow follow DT_UNKNOWN [108] = fileType (Node.symlink [46, 46, 47, 107]).dtype ∨
       fileTypeStatFollow follow DT_UNKNOWN [108] = .unknown) := by decide

example : errOf (createDirAll demo [101, 47, 47, 110, 47, 109]) = none ∧ ([101, 47, 47, 110, 47, 109] : Bytes).getLast? ≠ some SLASH := by decide
example : okList (fsMetadata demoKinds [115, 107] |>.map fun _ => []) = some [] ∧ errOf (createDirAll demoKinds [100, 47, 110, 47]) = none := by decide
example : (match fsExists demoKinds [98] with | .ok b => some b | .error _ => none) = some true := by decide
-- create_dir_all_post: `e//n/m//` (existing prefix, repeated and trailing separators), `/x/` absolute, and `//`
example : (∃ es, demo.root = .dir es) ∧ errOf (createDirAll demo [101, 47, 47, 110, 47, 109, 47, 47]) = none ∧
    viewAfter (createDirAll demo [101, 47, 47, 110, 47, 109, 47, 47]) [[101], [110], [109]] = some (some .dir) :=
  ⟨⟨_, rfl⟩, by decide, by decide⟩
example : errOf (createDirAll demo [47, 120, 47]) = none ∧ errOf (createDirAll demo [47, 47]) = none ∧
    errOf (createDirAll demo [47]) = none := by decide
-- a regular file with a trailing separator is reported (ENOTDIR from the final stat), not taken for a directory
example : errOf (createDirAll demo [100, 47]) = some (.os ENOTDIR) := by decide
-- readdir_exactly_once: every one of the three splits is a legal partition of the ten records (names up to 255 bytes)
example : ∀ chunks ∈ demoSplits, chunks.flatten = demoStream ∧ ∀ c ∈ chunks, ChunkOk c := by decide +kernel
example : ∀ r ∈ demoStream, RecOk r := demoStream_ok
-- readdir_error_answer: EINTR after the first two chunks of the second split
example : ((demoSplits.getD 1 []).take 2).flatten = demoStream.take 5 ∧ ∀ c ∈ (demoSplits.getD 1 []).take 2, ChunkOk c := by
  decide +kernel
example : errOf (removeDirAll ⟨.dir [([118], .dir [([108], .symlink [46, 46, 47, 116]), ([100], .dir [([102], .file [1])])]), ([116], .file [7])], []⟩ [118, 47]) = none := by decide +kernel

example : errOf (fsWrite demo [101, 47, 47, 102] [1, 2, 3] [2]) = none := by decide
example : errOf (copyFile demo [115] [100] [1, 1]) = none := by decide

end TinyVerif.Fs.C14
