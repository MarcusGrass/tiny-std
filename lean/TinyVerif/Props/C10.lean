/-
C10 — every UnixStr/UnixString produced by a safe constructor, conversion or path operation is
NUL-terminated exactly once; unrepresentable inputs are rejected with an error, never a panic.

Theorems about `Model/UnixStr.lean` (tied to rusl/src/string/unix_str.rs by the correspondence run
of `bin/check C10`: raw `as_slice()` bytes of the real functions vs. these definitions), for byte
lists of ANY length.  `WFU l` = raw bytes non-empty, last byte NUL, no other NUL.
-/
import TinyVerif.Model.UnixStr
import TinyVerif.Model.UnixStrSpec
import TinyVerif.Proofs.UnixStrLemmas
namespace TinyVerif.UnixStr

/-- an interior NUL: the first NUL is followed by at least one more byte -/
def InteriorNul (s : List Nat) : Prop := ∃ pre post, s = pre ++ 0 :: post ∧ 0 ∉ pre ∧ post ≠ []

/-- the definition of DESIGN C10, unfolded -/
theorem wfu_def (l : List Nat) : WFU l ↔ l ≠ [] ∧ l.getLast? = some 0 ∧ 0 ∉ l.dropLast := Iff.rfl

/-- equivalent form used in the proofs: content ++ [0] with NUL-free content -/
theorem wfu_iff_content (l : List Nat) : WFU l ↔ ∃ c, l = c ++ [0] ∧ 0 ∉ c := wfu_iff l

/-- the three input classes are exhaustive and mutually exclusive, so the next two theorems state
"ok exactly when …, err exactly when …" -/
theorem input_classes_exclusive (s : List Nat) :
    ¬ (0 ∉ s ∧ WFU s) ∧ ¬ (0 ∉ s ∧ InteriorNul s) ∧ ¬ (WFU s ∧ InteriorNul s) := by
  refine ⟨?_, ?_, ?_⟩
  · rintro ⟨h0, hw⟩
    obtain ⟨c, rfl, _⟩ := (wfu_iff s).1 hw
    simp at h0
  · rintro ⟨h0, pre, post, rfl, _, _⟩
    simp at h0
  · rintro ⟨hw, pre, post, rfl, _, hpost⟩
    exact not_wfu_nul_inside pre hpost hw

/-- **borrowed constructors** (`UnixStr::try_from_bytes`, `try_from_str`): never panic (incl. the empty
input, where `len - 1` is never evaluated); `Ok` exactly for well-formed input, returned unchanged;
"not null terminated" exactly when there is no NUL; "out of place" exactly for an interior NUL. -/
theorem try_from_borrowed_sound (s : List Nat) :
    (0 ∉ s ∧ tryFromBorrowed s = .err .noterm) ∨
    (WFU s ∧ tryFromBorrowed s = .ok s) ∨
    (InteriorNul s ∧ tryFromBorrowed s = .err .interior) := by
  unfold tryFromBorrowed
  rcases scanNul_spec s.length s 0 (by simp) with ⟨h1, h2⟩ | ⟨h1, pre, h2, h3⟩ | ⟨h1, pre, post, h2, h3, h4⟩
  · left; exact ⟨h2, by rw [h1]⟩
  · right; left; exact ⟨(wfu_iff s).2 ⟨pre, h2, h3⟩, by rw [h1]⟩
  · right; right; exact ⟨⟨pre, post, h2, h3, h4⟩, by rw [h1]⟩

/-- **owned constructors** (`UnixString::try_from_bytes/_vec/_str/_string`, `FromStr`): never panic;
NUL-free input gets exactly one terminator appended (content = input), well-formed input is kept
(content = input without its trailing NUL), an interior NUL is the only error. -/
theorem try_from_owned_sound (s : List Nat) :
    (0 ∉ s ∧ tryFromOwned s = .ok (s ++ [0])) ∨
    (WFU s ∧ tryFromOwned s = .ok s) ∨
    (InteriorNul s ∧ tryFromOwned s = .err .interior) := by
  unfold tryFromOwned
  rcases scanNul_spec s.length s 0 (by simp) with ⟨h1, h2⟩ | ⟨h1, pre, h2, h3⟩ | ⟨h1, pre, post, h2, h3, h4⟩
  · left; exact ⟨h2, by rw [h1]⟩
  · right; left; exact ⟨(wfu_iff s).2 ⟨pre, h2, h3⟩, by rw [h1]⟩
  · right; right; exact ⟨⟨pre, post, h2, h3, h4⟩, by rw [h1]⟩

/-- every value an owned constructor returns is well-formed and carries the input's content -/
theorem try_from_owned_ok_wfu (s u : List Nat) (h : tryFromOwned s = .ok u) :
    WFU u ∧ (content u = s ∨ (u = s ∧ content u ++ [0] = s)) := by
  rcases try_from_owned_sound s with ⟨h0, h1⟩ | ⟨hw, h1⟩ | ⟨_, h1⟩
  · rw [h1] at h; cases h
    exact ⟨wfu_snoc h0, Or.inl (by simp)⟩
  · rw [h1] at h; cases h
    obtain ⟨c, rfl, hc⟩ := (wfu_iff s).1 hw
    exact ⟨hw, Or.inr ⟨rfl, by simp⟩⟩
  · rw [h1] at h; cases h

/-- every value a borrowed constructor returns is well-formed -/
theorem try_from_borrowed_ok_wfu (s u : List Nat) (h : tryFromBorrowed s = .ok u) : WFU u ∧ u = s := by
  rcases try_from_borrowed_sound s with ⟨_, h1⟩ | ⟨hw, h1⟩ | ⟨_, h1⟩
  · rw [h1] at h; cases h
  · rw [h1] at h; cases h; exact ⟨hw, rfl⟩
  · rw [h1] at h; cases h

/-- **position- and length-independence of the rejection**: a NUL at ANY index other than the last one —
whatever precedes it, however long the operand is, and whether or not a terminator is present as well
(`post` may end in NUL) — is the "out of place" error of both constructor families.  There is no
window of positions, and no operand length, for which an interior NUL is accepted. -/
theorem nul_anywhere_rejected (pre post : List Nat) (hpost : post ≠ []) :
    tryFromBorrowed (pre ++ 0 :: post) = .err .interior ∧ tryFromOwned (pre ++ 0 :: post) = .err .interior := by
  -- neither of the other two classes
  have h0 : ¬ (0 ∉ pre ++ 0 :: post) := by simp
  have hw := not_wfu_nul_inside pre hpost
  exact ⟨(((try_from_borrowed_sound _).resolve_left (h0 ·.1)).resolve_left (hw ·.1)).2,
    (((try_from_owned_sound _).resolve_left (h0 ·.1)).resolve_left (hw ·.1)).2⟩

/-- … and a well-formed string of any length is accepted unchanged (content of `n` arbitrary non-NUL bytes) -/
theorem long_content_accepted (c : List Nat) (hc : 0 ∉ c) :
    tryFromBorrowed (c ++ [0]) = .ok (c ++ [0]) ∧ tryFromOwned (c ++ [0]) = .ok (c ++ [0]) ∧
    tryFromOwned c = .ok (c ++ [0]) := by
  have hw := wfu_snoc hc
  have hx := input_classes_exclusive (c ++ [0])
  exact ⟨(((try_from_borrowed_sound _).resolve_left (hx.1 ⟨·.1, hw⟩)).resolve_right (hx.2.2 ⟨hw, ·.1⟩)).2,
    (((try_from_owned_sound _).resolve_left (hx.1 ⟨·.1, hw⟩)).resolve_right (hx.2.2 ⟨hw, ·.1⟩)).2,
    ((try_from_owned_sound c).resolve_right fun h =>
      h.elim ((input_classes_exclusive c).1 ⟨hc, ·.1⟩) ((input_classes_exclusive c).2.1 ⟨hc, ·.1⟩)).2⟩

/-- **const validator** behind `from_str_checked` / `unix_lit!`: accepts exactly the well-formed byte
strings; its only other outcome is the (compile-time) panic -/
theorem const_validate_iff (s : List Nat) :
    (constValidate s = .ok () ↔ WFU s) ∧ (constValidate s = .ok () ∨ constValidate s = .panic) := by
  rcases List.eq_nil_or_concat s with rfl | ⟨c, b, rfl⟩
  · refine ⟨⟨fun h => by simp [constValidate] at h, fun h => absurd rfl h.1⟩, Or.inr (by simp [constValidate])⟩
  · rw [List.concat_eq_append, constValidate_snoc]
    by_cases h : b = 0 ∧ 0 ∉ c
    · simp only [h, and_self, not_false_eq_true, if_true, true_iff, true_or, and_true]
      obtain ⟨rfl, hc⟩ := h
      exact wfu_snoc hc
    · simp only [h, if_false, reduceCtorEq, false_iff, or_true, and_true]
      intro hw
      obtain ⟨c', hc', h0⟩ := (wfu_iff _).1 hw
      have := List.append_inj' hc' (by simp)
      apply h
      refine ⟨by simpa using this.2, by rw [this.1]; exact h0⟩

/-- `unix_lit!(lit)` for a NUL-free literal is `lit ++ [0]` -/
theorem unix_lit_wf (c : List Nat) (hc : 0 ∉ c) : unixLit c = .ok (c ++ [0]) ∧ WFU (c ++ [0]) := by
  refine ⟨?_, wfu_snoc hc⟩
  have := ((const_validate_iff (c ++ [0])).1).2 (wfu_snoc hc)
  simp [unixLit, fromStrChecked, this]

/-- `from_format`: NUL-free payload ⇒ payload + one NUL; already terminated payload kept as is -/
theorem from_format_wf (p : List Nat) :
    (0 ∉ p → fromFormat p = .ok (p ++ [0]) ∧ WFU (p ++ [0])) ∧
    (WFU p → fromFormat p = .ok p) := by
  refine ⟨fun h => ⟨by simp [fromFormat, ensureNul_nulfree h], wfu_snoc h⟩, fun hw => ?_⟩
  obtain ⟨c, rfl, _⟩ := (wfu_iff p).1 hw
  simp [fromFormat, ensureNul_terminated]

/-- `path_join` of two UnixStr is a UnixStr -/
theorem path_join_wf (s e : List Nat) (hs : WFU s) (he : WFU e) : ∃ u, pathJoin s e = .ok u ∧ WFU u := by
  obtain ⟨cs, rfl, h1⟩ := (wfu_iff s).1 hs
  obtain ⟨ce, rfl, h2⟩ := (wfu_iff e).1 he
  exact ⟨_, pathJoin_eq cs ce, wfu_snoc (joinSpec_nulfree cs ce h1 h2)⟩

/-- `path_join_fmt` with a NUL-free formatted payload is a UnixStr -/
theorem path_join_fmt_wf (s p : List Nat) (hs : WFU s) (hp : 0 ∉ p) : ∃ u, pathJoinFmt s p = .ok u ∧ WFU u := by
  obtain ⟨cs, rfl, h1⟩ := (wfu_iff s).1 hs
  exact ⟨_, pathJoinFmt_eq cs p h1 hp, wfu_snoc (joinSpec_nulfree cs p h1 hp)⟩

/-- `from_format` for every `Arguments` shape (literal format string, literal around run-time
arguments, arguments only): NUL-free pieces ⇒ the rendered bytes + one NUL, a UnixStr -/
theorem from_format_args_wf (sh : FmtShape) (l x y : List Nat) (hl : 0 ∉ l) (hx : 0 ∉ x) (hy : 0 ∉ y) :
    fromFormatArgs sh l x y = .ok (render sh l x y ++ [0]) ∧ WFU (render sh l x y ++ [0]) :=
  (from_format_wf _).1 (nulfree_render sh hl hx hy)

/-- … and a literal that carries its own terminator (`format_args!("…\0")`, the documented use) is kept as is -/
theorem from_format_terminated_literal (c : List Nat) (hc : 0 ∉ c) :
    fromFormatArgs .lit (c ++ [0]) [] [] = .ok (c ++ [0]) :=
  (from_format_wf _).2 (wfu_snoc hc)

/-- `path_join_fmt` for every `Arguments` shape with NUL-free pieces is a UnixStr -/
theorem path_join_fmt_args_wf (s : List Nat) (sh : FmtShape) (l x y : List Nat) (hs : WFU s)
    (hl : 0 ∉ l) (hx : 0 ∉ x) (hy : 0 ∉ y) : ∃ u, pathJoinFmtArgs s sh l x y = .ok u ∧ WFU u :=
  path_join_fmt_wf s _ hs (nulfree_render sh hl hx hy)

/-- the shape of the `Arguments` is not an input of either entry point: equal renderings, equal results -/
theorem fmt_shape_independent (s : List Nat) (sh sh' : FmtShape) (l x y l' x' y' : List Nat)
    (h : render sh l x y = render sh' l' x' y') :
    fromFormatArgs sh l x y = fromFormatArgs sh' l' x' y' ∧
    pathJoinFmtArgs s sh l x y = pathJoinFmtArgs s sh' l' x' y' := by
  simp only [fromFormatArgs, pathJoinFmtArgs, h, and_self]

/-- `path_file_name` re-slices `[ind+1..]`, keeping the terminator -/
theorem file_name_wf (s : List Nat) (hs : WFU s) :
    ∃ o, pathFileName s = .ok o ∧ ∀ u, o = some u → WFU u := by
  obtain ⟨c, rfl, hc⟩ := (wfu_iff s).1 hs
  refine ⟨_, pathFileName_eq c, fun u hu => ?_⟩
  obtain ⟨r, hr, rfl⟩ := Option.map_eq_some_iff.1 hu
  unfold fileNameSpec at hr
  split at hr
  · cases hr
  · rename_i r' ha
    obtain ⟨p, rfl⟩ := (lastSlash_some c [] r').2 ha
    split at hr <;> cases hr
    exact wfu_snoc fun e => hc (by simp [e])

/-- `parent_path` (after the fix) returns a UnixString — FALSE for the code before the fix, see
`parent_path_not_terminated_legacy` -/
theorem parent_path_wf (s : List Nat) (hs : WFU s) :
    ∃ o, parentPath s = .ok o ∧ ∀ u, o = some u → WFU u := by
  obtain ⟨c, rfl, hc⟩ := (wfu_iff s).1 hs
  refine ⟨_, parentPath_eq c, fun u hu => ?_⟩
  obtain ⟨q, hq, rfl⟩ := Option.map_eq_some_iff.1 hu
  unfold parentSpec at hq
  split at hq
  · cases hq
  · split at hq
    · cases hq
    · rename_i p hb
      obtain ⟨r, rfl, _⟩ := (lastSlash_some c p []).1 hb
      split at hq
      · cases hq
      · split at hq <;> cases hq
        · exact wfu_snoc (c := [47]) (by simp)
        · exact wfu_snoc fun e => hc (by simp [e])

/-- the code before commit 9938ed5: the parent of `"a/b\0"` was the three raw bytes `a/b`… cut to
`"a/"` — ending in `'/'`, no terminator -/
theorem parent_path_not_terminated_legacy :
    Legacy.parentPath [97, 47, 98, 0] = .ok (some [97, 47]) ∧ ¬ WFU [97, 47] := by
  refine ⟨by decide, ?_⟩
  rintro ⟨_, h, _⟩
  simp at h

/-- `DirEntry::file_unix_name`: the name is the buffer up to and including its first NUL (hence
well-formed, and a prefix of the buffer: no byte outside `d_name` is exposed); the only other outcome
is the "not null terminated" error, exactly when the buffer has no NUL -/
theorem file_unix_name_wf (buf : List Nat) :
    (0 ∉ buf ∧ fileUnixName buf = .err .noterm) ∨
    (∃ u, fileUnixName buf = .ok u ∧ WFU u ∧ u <+: buf) := by
  rcases bufStrlenLoop_spec buf 0 with ⟨h1, h2⟩ | ⟨pre, post, rfl, h2, h3⟩
  · exact Or.inl ⟨h1, by simp [fileUnixName, bufStrlen, h2, R.bind]⟩
  · refine Or.inr ⟨pre ++ [0], ?_, wfu_snoc h2, post, by simp⟩
    simp only [fileUnixName, bufStrlen, h3, bind_ok, Nat.zero_add]
    rw [if_pos (by simp), List.take_append, List.take_of_length_le (by omega)]
    simp

/-- no constructor, conversion or path operation panics, reads out of bounds or runs out of model
fuel on any input it can be given by safe code -/
theorem no_panic_all_ops (s e p : List Nat) (hs : WFU s) (he : WFU e) :
    (∃ v, tryFromBorrowed p = .ok v ∨ ∃ k, tryFromBorrowed p = .err k) ∧
    (∃ v, tryFromOwned p = .ok v ∨ ∃ k, tryFromOwned p = .err k) ∧
    (∃ v, fromFormat p = .ok v) ∧
    (fileUnixName p = .err .noterm ∨ ∃ v, fileUnixName p = .ok v) ∧
    (∃ v, pathJoin s e = .ok v) ∧
    (0 ∉ p → ∃ v, pathJoinFmt s p = .ok v) ∧
    (∃ v, pathFileName s = .ok v) ∧
    (∃ v, parentPath s = .ok v) := by
  refine ⟨?_, ?_, ⟨_, rfl⟩, ?_, ?_, ?_, ?_, ?_⟩
  · rcases try_from_borrowed_sound p with ⟨_, h⟩ | ⟨_, h⟩ | ⟨_, h⟩
    · exact ⟨[], Or.inr ⟨_, h⟩⟩
    · exact ⟨p, Or.inl h⟩
    · exact ⟨[], Or.inr ⟨_, h⟩⟩
  · rcases try_from_owned_sound p with ⟨_, h⟩ | ⟨_, h⟩ | ⟨_, h⟩
    · exact ⟨_, Or.inl h⟩
    · exact ⟨_, Or.inl h⟩
    · exact ⟨[], Or.inr ⟨_, h⟩⟩
  · rcases file_unix_name_wf p with ⟨_, h⟩ | ⟨u, h, _⟩
    · exact Or.inl h
    · exact Or.inr ⟨u, h⟩
  · obtain ⟨u, h, _⟩ := path_join_wf s e hs he; exact ⟨u, h⟩
  · intro hp; obtain ⟨u, h, _⟩ := path_join_fmt_wf s p hs hp; exact ⟨u, h⟩
  · obtain ⟨o, h, _⟩ := file_name_wf s hs; exact ⟨o, h⟩
  · obtain ⟨o, h, _⟩ := parent_path_wf s hs; exact ⟨o, h⟩

/-! ## non-vacuity: concrete non-trivial instances of every hypothesis set / outcome class -/

example : WFU [47, 97, 0] := wfu_snoc (c := [47, 97]) (by decide)
example : ¬ WFU [] := fun h => h.1 rfl
example : InteriorNul [97, 0, 98] := ⟨[97], [98], rfl, by decide, by decide⟩
example : tryFromBorrowed [] = .err .noterm := by decide
example : tryFromOwned [] = .ok [0] := by decide
example : tryFromBorrowed [97, 0, 0] = .err .interior := by decide
example : tryFromOwned [97, 0xff, 0] = .ok [97, 0xff, 0] := by decide
example : constValidate [97, 0, 98, 0] = .panic := by decide
example : constValidate [97, 98, 0] = .ok () := by decide
example : pathJoin [97, 47, 0] [47, 98, 0] = .ok [97, 47, 98, 0] := by decide
example : pathJoinFmt [97, 0] [98] = .ok [97, 47, 98, 0] := by decide
example : parentPath [47, 97, 0] = .ok (some [47, 0]) := by decide
example : parentPath [97, 47, 98, 0] = .ok (some [97, 0]) := by decide
example : pathFileName [97, 47, 98, 0] = .ok (some [98, 0]) := by decide
example : fileUnixName [97, 0, 98, 0xff] = .ok [97, 0] := by decide
/-- beyond the short range: a NUL at index 8 of an 18-byte terminated operand, and at index 300 of a 4097-byte one -/
example : tryFromBorrowed (List.replicate 8 97 ++ 0 :: (List.replicate 8 97 ++ [0])) = .err .interior :=
  (nul_anywhere_rejected _ _ (snoc_ne_nil _ _)).1
example : tryFromBorrowed (List.replicate 300 97 ++ 0 :: (List.replicate 3795 97 ++ [0])) = .err .interior :=
  (nul_anywhere_rejected _ _ (snoc_ne_nil _ _)).1
example : tryFromBorrowed (List.replicate 4096 97 ++ [0]) = .ok (List.replicate 4096 97 ++ [0]) :=
  (long_content_accepted _ (not_mem_replicate _ (by decide))).1
/-- an interior NUL coming out of a format argument passes through `from_format` (outside the property:
"for NUL-free inputs") — recorded, not hidden -/
example : fromFormat [97, 0, 98] = .ok [97, 0, 98, 0] := by decide
example : fromFormatArgs .lit [] [] [] = .ok [0] := by decide
example : fromFormatArgs .litArgArg [47] [97] [98] = .ok [47, 97, 98, 0] := by decide
example : fromFormatArgs .lit [97, 0] [] [] = .ok [97, 0] := by decide
example : pathJoinFmtArgs [0] .lit [97] [] [] = .ok [97, 0] := by decide

end TinyVerif.UnixStr
