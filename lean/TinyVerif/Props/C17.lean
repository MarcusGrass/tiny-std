/-
C17 — io_uring rings: exactly-once, in-order hand-over both ways, across index wrap.

Everything here is about `Model/Ring.lean` run with `Code.fixed` (= /repo's current
`get_next_sqe_slot` / `flush_submission_queue` / `get_next_cqe`, tied to the code by the
correspondence of checks/c17.py), for
  * every ring size 2^k (k ≤ 30; the kernel allows at most 2^15 / 2^16 entries),
  * every index shift (SQE128 / CQE32 flags),
  * EVERY initial counter value c, cc < 2^32 (so the 32-bit wrap is covered without 2^32 steps),
  * every interleaving of application steps {get+fill, flush, reap, reread} and kernel steps
    {consume k, post vs} at call granularity (induction over the op list) — and, for the content of a
    reaped completion, BELOW call granularity: since /repo bc63d9e `get_next_cqe` gives the slot of the
    entry it returned back to the kernel only on the next call (`release_pending`; the kernel-visible
    head lags by at most one, `cq_head_lag`), so the entry may be read through the returned reference
    after any number of kernel steps (`cq_content_held`, op `reread`).
The `orig_*` theorems at the end show, on the model of the code *before* the C17 repairs (`Code.orig`)
and before that last repair (`Code.eagerRelease`), that the repairs were necessary (the same witnesses
were observed on the real code through harness/c17 / harness/c18 before the repairs; see
known_findings.d/C17.jsonl and C18.jsonl).
-/
import TinyVerif.Proofs.RingInv
import TinyVerif.Proofs.RingDrain
import TinyVerif.Gen.RingBorrow
namespace TinyVerif.Ring

/-- the state reached from a fresh ring by an arbitrary interleaving `ops` -/
def reached (flags k kc c cc : Nat) (ops : List Op) : St :=
  (run .fixed (init flags k kc c cc) ops).1

/-- hypotheses shared by all theorems: ring sizes and initial counters are representable -/
structure Params (k kc c cc : Nat) : Prop where
  hk : k ≤ 30
  hkc : kc ≤ 30
  hc : c < W
  hcc : cc < W

theorem reached_inv {k kc c cc : Nat} (p : Params k kc c cc) (flags : Nat) (ops : List Op) :
    ∃ inq unpub cinq hold, Inv k kc c cc (reached flags k kc c cc ops) inq unpub cinq hold :=
  inv_run ops (inv_init flags k kc c cc p.hk p.hkc p.hc p.hcc)

/-- Every submission the kernel consumed is, in order and with identical slot and content, a
submission the application published, and everything published was filled by the application:
`consumed` is a prefix of `flushed`, which is a prefix of `filled` (nothing lost, duplicated,
reordered or altered). -/
theorem sq_in_order_once {k kc c cc : Nat} (p : Params k kc c cc) (flags : Nat) (ops : List Op) :
    (reached flags k kc c cc ops).consumed <+: (reached flags k kc c cc ops).flushed ∧
    (reached flags k kc c cc ops).flushed <+: (reached flags k kc c cc ops).filled := by
  obtain ⟨inq, unpub, cinq, hold, h⟩ := reached_inv p flags ops
  exact ⟨⟨inq, h.flushed_eq.symm⟩, ⟨unpub, h.filled_eq.symm⟩⟩

/-- A slot handed out by `get_next_sqe_slot` is not the slot of any entry that was filled and not
yet consumed by the kernel. -/
theorem sq_no_reuse {k kc c cc : Nat} (p : Params k kc c cc) (flags : Nat) (ops : List Op)
    (v i : Nat) (hs : (step .fixed (reached flags k kc c cc ops) (.get v)).2 = .slot i) :
    ∀ e ∈ (reached flags k kc c cc ops).filled.drop (reached flags k kc c cc ops).consumed.length,
      e.slot ≠ i := by
  obtain ⟨inq, unpub, cinq, hold, h⟩ := reached_inv p flags ops
  generalize reached flags k kc c cc ops = s at *
  obtain ⟨h1, h2⟩ := inv_get h v
  by_cases hlt : inq.length + unpub.length < 2 ^ k
  · have hi := (h1 hlt).1
    rw [hi] at hs
    injection hs with hs
    intro e he
    have hd : s.filled.drop s.consumed.length = inq ++ unpub := by
      rw [h.filled_eq, h.flushed_eq, List.append_assoc, List.drop_left]
    rw [hd] at he
    obtain ⟨j, hj, hsl⟩ := good_mem k (sqShift s) s.sqMem _ _ h.sqGood e he
    rw [hsl, ← hs, h.filled_len]
    simp only [List.length_append] at hj
    exact slotOf_ne k (sqShift s) _ _ (by omega) (by omega)
  · rw [h2 hlt] at hs
    cases hs

/-- `get_next_sqe_slot` returns `None` exactly when a full ring of entries is in flight. -/
theorem sq_capacity {k kc c cc : Nat} (p : Params k kc c cc) (flags : Nat) (ops : List Op) (v : Nat) :
    (reached flags k kc c cc ops).consumed.length ≤ (reached flags k kc c cc ops).filled.length ∧
    ((step .fixed (reached flags k kc c cc ops) (.get v)).2 = .noSlot ↔
      (reached flags k kc c cc ops).filled.length - (reached flags k kc c cc ops).consumed.length = 2 ^ k) := by
  obtain ⟨inq, unpub, cinq, hold, h⟩ := reached_inv p flags ops
  generalize reached flags k kc c cc ops = s at *
  obtain ⟨h1, h2⟩ := inv_get h v
  have hl := h.filled_len
  have hcap := h.cap
  refine ⟨by omega, ?_⟩
  by_cases hlt : inq.length + unpub.length < 2 ^ k
  · rw [(h1 hlt).1]
    constructor
    · intro hx; cases hx
    · intro hx; omega
  · rw [h2 hlt]
    constructor
    · intro _; omega
    · intro _; rfl

/-- The pointer handed out stays inside the entry array (the code does unchecked pointer arithmetic). -/
theorem sq_slot_in_bounds {k kc c cc : Nat} (p : Params k kc c cc) (flags : Nat) (ops : List Op)
    (v i : Nat) (hs : (step .fixed (reached flags k kc c cc ops) (.get v)).2 = .slot i) :
    i < 2 ^ k * 2 ^ sqShift (reached flags k kc c cc ops) := by
  obtain ⟨inq, unpub, cinq, hold, h⟩ := reached_inv p flags ops
  generalize reached flags k kc c cc ops = s at *
  obtain ⟨h1, h2⟩ := inv_get h v
  by_cases hlt : inq.length + unpub.length < 2 ^ k
  · rw [(h1 hlt).1] at hs
    injection hs with hs
    rw [← hs]; exact slotOf_lt _ _ _
  · rw [h2 hlt] at hs; cases hs

/-- `flush_submission_queue` returns the number of filled entries the kernel has not consumed. -/
theorem sq_flush_count {k kc c cc : Nat} (p : Params k kc c cc) (flags : Nat) (ops : List Op) :
    (step .fixed (reached flags k kc c cc ops) .flush).2 =
      .flushed ((reached flags k kc c cc ops).filled.length - (reached flags k kc c cc ops).consumed.length) := by
  obtain ⟨inq, unpub, cinq, hold, h⟩ := reached_inv p flags ops
  generalize reached flags k kc c cc ops = s at *
  rw [(inv_flush h).1, h.filled_len]
  congr 1; omega

/-- Every completion the application reaped is, in order and with identical slot and content, a
completion the kernel posted: `reaped` is a prefix of `posted`. -/
theorem cq_in_order_once {k kc c cc : Nat} (p : Params k kc c cc) (flags : Nat) (ops : List Op) :
    (reached flags k kc c cc ops).reaped <+: (reached flags k kc c cc ops).posted := by
  obtain ⟨inq, unpub, cinq, hold, h⟩ := reached_inv p flags ops
  exact ⟨cinq, h.posted_eq.symm⟩

/-- `get_next_cqe` returns `None` exactly when every posted completion has been reaped. -/
theorem cq_progress {k kc c cc : Nat} (p : Params k kc c cc) (flags : Nat) (ops : List Op) :
    (step .fixed (reached flags k kc c cc ops) .reap).2 = .noCqe ↔
      (reached flags k kc c cc ops).posted = (reached flags k kc c cc ops).reaped := by
  obtain ⟨inq, unpub, cinq, hold, h⟩ := reached_inv p flags ops
  generalize reached flags k kc c cc ops = s at *
  obtain ⟨h1, h2⟩ := inv_reap h
  cases hc : cinq with
  | nil =>
    rw [(h1 hc).1, h.posted_eq, hc]
    simp
  | cons e rest =>
    rw [(h2 e rest hc).1, h.posted_eq, hc]
    constructor
    · intro hx; cases hx
    · intro hx
      have := congrArg List.length hx
      simp at this

/-- When `get_next_cqe` returns an entry, what the application reads from it is the content of the
oldest posted-and-unreaped completion. -/
theorem cq_content {k kc c cc : Nat} (p : Params k kc c cc) (flags : Nat) (ops : List Op) (v : Nat)
    (hs : (step .fixed (reached flags k kc c cc ops) .reap).2 = .cqe v) :
    ((reached flags k kc c cc ops).posted[(reached flags k kc c cc ops).reaped.length]?).map Ent.val
      = some v := by
  obtain ⟨inq, unpub, cinq, hold, h⟩ := reached_inv p flags ops
  generalize reached flags k kc c cc ops = s at *
  obtain ⟨h1, h2⟩ := inv_reap h
  cases hc : cinq with
  | nil => rw [(h1 hc).1] at hs; cases hs
  | cons e rest =>
    rw [(h2 e rest hc).1] at hs
    injection hs with hs
    rw [h.posted_eq, hc]
    simp [hs]

/-- **cq_content below call granularity** (what was false before /repo bc63d9e): the entry `get_next_cqe` returned a
reference to is not overwritten by ANY later step — kernel posts included, with the completion ring full or not —
until `get_next_cqe` is called again: reading through the reference at any later moment (`reread`) yields the
completion that was handed out. -/
theorem cq_content_held {k kc c cc : Nat} (p : Params k kc c cc) (flags : Nat) (ops : List Op) (v : Nat)
    (hs : (step .fixed (reached flags k kc c cc ops) .reap).2 = .cqe v)
    (later : List Op) (hl : ∀ op ∈ later, op ≠ .reap) :
    ∃ e, (step .fixed (reached flags k kc c cc ops) .reap).1.reaped = (reached flags k kc c cc ops).reaped ++ [e] ∧
      e.val = v ∧
      (run .fixed (step .fixed (reached flags k kc c cc ops) .reap).1 later).1.cqMem e.slot = v ∧
      (step .fixed (run .fixed (step .fixed (reached flags k kc c cc ops) .reap).1 later).1 .reread).2 = .cqe v := by
  obtain ⟨inq, unpub, cinq, hold, h⟩ := reached_inv p flags ops
  generalize reached flags k kc c cc ops = s at *
  obtain ⟨h1, h2⟩ := inv_reap h
  cases hc : cinq with
  | nil => rw [(h1 hc).1] at hs; cases hs
  | cons e rest =>
    obtain ⟨a1, a2, _, a4⟩ := h2 e rest hc
    rw [a1] at hs
    injection hs with hs
    obtain ⟨_, _, _, b1, b2⟩ := inv_run_hold later hl a4
    have hm := b1.held_content e (by simp)
    refine ⟨e, a2, hs, by rw [hm, hs], ?_⟩
    rw [step_reread, b2, a2, List.getLast?_concat]
    simp only [hm, hs]

/-- **borrow_contract_holds** — the ASSUMPTION of `cq_content_held` (and of C18's split-reap theorems) that is not
behaviour but type: `later` contains no `get_next_cqe` although the caller still reads through the reference, i.e. a
completion reference is dead at the next `get_next_cqe` call, there is at most one, no other `&mut` ring method runs
while it lives, and it does not outlive the ring.  Extracted fact: the borrow checker rejects every program of
harness/c17/borrow-probes that violates one of these (regenerated on every run into Gen/RingBorrow.lean). -/
theorem borrow_contract_holds : genBorrowContract.holds = true := by decide +kernel

/-- why the contract is needed — with TWO outstanding references the content guarantee FAILS on the current code: ring
of 2 completion entries, the caller keeps the reference to completion 1 (slot 0) across the `get_next_cqe` call that
returns completion 2; that call releases slot 0, the kernel's third completion lands there: the first reference now
shows 3 (completion 1 is lost, 3 will be seen twice).  This is the history the borrow `&mut self` rules out. -/
theorem two_references_break_content :
    (run .fixed (init 0 1 1 0 0) [.post [1, 2], .reap, .reap, .post [3]]).2 = [.posted 2, .cqe 1, .cqe 2, .posted 1] ∧
    (run .fixed (init 0 1 1 0 0) [.post [1, 2], .reap, .reap, .post [3]]).1.reaped = [⟨0, 1⟩, ⟨1, 2⟩] ∧
    (run .fixed (init 0 1 1 0 0) [.post [1, 2], .reap, .reap, .post [3]]).1.cqMem 0 = 3 ∧
    -- with the single reference the API allows (completion 1 read before the next call) the post finds no room in slot 0
    (run .fixed (init 0 1 1 0 0) [.post [1, 2], .reap, .post [3], .reread]).2 = [.posted 2, .cqe 1, .posted 0, .cqe 1] := by
  decide +kernel

/-- the kernel-visible completion head lags behind what the application reaped by at most one entry: the one
whose reference may still be alive (`release_pending`) -/
theorem cq_head_lag {k kc c cc : Nat} (p : Params k kc c cc) (flags : Nat) (ops : List Op) :
    (reached flags k kc c cc ops).cqKHead =
      (cc + ((reached flags k kc c cc ops).reaped.length - if (reached flags k kc c cc ops).relPending then 1 else 0)) % W ∧
    ((reached flags k kc c cc ops).relPending = true → (reached flags k kc c cc ops).reaped ≠ []) := by
  obtain ⟨inq, unpub, cinq, hold, h⟩ := reached_inv p flags ops
  generalize reached flags k kc c cc ops = s at *
  have hl := h.hold_len
  have hle := h.hold_le
  refine ⟨by rw [h.ckhead_eq, hl], ?_⟩
  intro hp hnil
  rw [if_pos hp] at hl
  rw [hnil, hl] at hle
  simp at hle

/-- Draining.  From every reachable state, calling `get_next_cqe` as many times as there are
posted-and-unreaped completions returns exactly those completions, oldest first, each with the content the kernel
posted (nothing skipped at any fill level — an exactly full ring and a wrapped counter included); afterwards
everything posted has been reaped exactly once (`reaped = posted`) and one further call answers `None`. -/
theorem cq_drain {k kc c cc : Nat} (p : Params k kc c cc) (flags : Nat) (ops : List Op) :
    let s := reached flags k kc c cc ops
    let r := run .fixed s (List.replicate (s.posted.length - s.reaped.length) .reap)
    r.2 = (s.posted.drop s.reaped.length).map (fun e => Out.cqe e.val) ∧
    r.1.reaped = s.posted ∧ r.1.posted = s.posted ∧
    (step .fixed r.1 .reap).2 = .noCqe := by
  obtain ⟨inq, unpub, cinq, hold, h⟩ := reached_inv p flags ops
  generalize reached flags k kc c cc ops = s at *
  have hn : s.posted.length - s.reaped.length = cinq.length := by
    rw [h.posted_eq, List.length_append]; omega
  have hd : s.posted.drop s.reaped.length = cinq := by
    rw [h.posted_eq]; simp
  obtain ⟨d1, d2, d3, hold', d4⟩ := drain_inv cinq h
  simp only [hn, hd]
  refine ⟨d2, by rw [d1, h.posted_eq], d3, ((inv_reap d4).1 rfl).1⟩

/-- the kernel side of the same statement: a kernel that consumes without running out of budget takes exactly the
published-and-unconsumed submissions, in order, and then `consumed = flushed` (every published submission reaches
the kernel exactly once) -/
theorem sq_drain {k kc c cc : Nat} (p : Params k kc c cc) (flags : Nat) (ops : List Op) (n : Nat)
    (hn : (reached flags k kc c cc ops).flushed.length - (reached flags k kc c cc ops).consumed.length ≤ n) :
    (step .fixed (reached flags k kc c cc ops) (.consume n)).2 =
      .consumed ((reached flags k kc c cc ops).flushed.drop (reached flags k kc c cc ops).consumed.length) ∧
    (step .fixed (reached flags k kc c cc ops) (.consume n)).1.consumed = (reached flags k kc c cc ops).flushed ∧
    (step .fixed (reached flags k kc c cc ops) (.consume n)).1.flushed = (reached flags k kc c cc ops).flushed := by
  obtain ⟨inq, unpub, cinq, hold, h⟩ := reached_inv p flags ops
  generalize reached flags k kc c cc ops = s at *
  have hl : inq.length ≤ n := by
    rw [h.flushed_eq, List.length_append] at hn; omega
  have hd : s.flushed.drop s.consumed.length = inq := by
    rw [h.flushed_eq]; simp
  obtain ⟨c1, c2, c3, _⟩ := consume_all n h hl
  rw [step_consume, hd]
  exact ⟨by rw [c1], by rw [c2, h.flushed_eq], c3⟩

/-- non-vacuity: an exactly full completion ring (4 of 4) whose counters wrap is drained completely -/
example :
    (run .fixed (reached 0 1 2 0 4294967294 [.post [5, 6, 7, 8]]) (List.replicate 4 .reap)).2 =
      [.cqe 5, .cqe 6, .cqe 7, .cqe 8] := by decide +kernel

/-- Room.  What the lazy slot release costs, exactly: on every reachable state the kernel can post
`cq_entries − (posted − reaped) − (1 if a reference is outstanding)` further completions and not one more — the
application's held entry keeps ONE slot from the kernel and nothing else does; the stamps posted are the first
that many offered, appended in order. -/
theorem cq_post_room {k kc c cc : Nat} (p : Params k kc c cc) (flags : Nat) (ops : List Op) (vs : List Nat) :
    let s := reached flags k kc c cc ops
    (step .fixed s (.post vs)).2 =
      .posted (min vs.length (2 ^ kc - ((s.posted.length - s.reaped.length) + if s.relPending then 1 else 0))) ∧
    ∀ n, (step .fixed s (.post vs)).2 = .posted n →
      (step .fixed s (.post vs)).1.posted.map (·.val) = s.posted.map (·.val) ++ vs.take n := by
  obtain ⟨inq, unpub, cinq, hold, h⟩ := reached_inv p flags ops
  generalize reached flags k kc c cc ops = s at *
  obtain ⟨c1, c2, _⟩ := inv_post_count vs h
  have hn : s.posted.length - s.reaped.length = cinq.length := by
    rw [h.posted_eq, List.length_append]; omega
  simp only [step_post, hn]
  refine ⟨?_, ?_⟩
  · rw [c1, h.hold_len, Nat.add_comm]
  · intro n hnn
    cases hnn
    exact c2

/-- non-vacuity: ring of 4, one reference outstanding, one unreaped: room for 2 of the 5 offered -/
example : (step .fixed (reached 0 1 2 0 4294967295 [.post [1, 2], .reap]) (.post [3, 4, 5, 6, 7])).2 = .posted 2 := by
  decide +kernel

/-- `needs_wakeup` answers exactly whether the kernel set IORING_SQ_NEED_WAKEUP, whatever the other bits of the SQ
flags word (CQ overflow, task-run) are (what an application following the wake-up protocol of an SQPOLL ring gets
from that answer is `wake_protocol` in Props/C18.lean) -/
theorem needs_wakeup_iff (other : Nat) (b : Bool) :
    needsWakeup (2 * other + (if b then 1 else 0)) = b := by
  cases b <;> simp [needsWakeup, Nat.add_mod]

example : needsWakeup 3 = true ∧ needsWakeup 2 = false ∧ needsWakeup 1 = true := by decide +kernel

/-- No call of the three methods panics, from any state, in any interleaving (so debug and release
builds behave alike). -/
theorem no_panic (s : St) (ops : List Op) : Out.panic ∉ (run .fixed s ops).2 := by
  induction ops generalizing s with
  | nil => simp [run]
  | cons op ops ih =>
    simp only [run, List.mem_cons, not_or]
    exact ⟨fun hx => step_fixed_no_panic s op hx.symm, ih _⟩

/-! ### the code before the repairs (commits "fix: io_uring submission ring counters…" and
"fix: get_next_cqe must test…"): `no_panic` and `cq_progress` were false -/

/-- debug build: `tail + 1` overflows when the submission tail is u32::MAX -/
theorem orig_debug_panics_at_wrap :
    (run (.orig false) (init 0 1 1 4294967295 0) [.get 1]).2 = [.panic] := by decide +kernel

/-- either build: a completion posted when the CQ tail wraps to 0 is never returned
(`tail <= head` with tail = 0, head = u32::MAX) although posted ≠ reaped -/
theorem orig_hides_completion_after_wrap (release : Bool) :
    (run (.orig release) (init 0 1 1 0 4294967295) [.post [5], .reap]).2 = [.posted 1, .noCqe] := by
  cases release <;> decide

/-- before /repo bc63d9e (`Code.eagerRelease`): `get_next_cqe` had already released the slot when it returned the
reference; on a full completion ring (here: 1 entry) the kernel's next post lands in the entry the caller is
still holding — reading through the reference afterwards shows completion 2 instead of 1.  `cq_content_held` is
the negation of this for the current code: the second post finds no room (`posted 0`) and the reference still
shows 1. -/
theorem orig_held_entry_overwritten :
    (run .eagerRelease (init 0 1 0 0 0) [.post [1], .reap, .post [2], .reread]).2 =
      [.posted 1, .cqe 1, .posted 1, .cqe 2] ∧
    (run .fixed (init 0 1 0 0 0) [.post [1], .reap, .post [2], .reread, .reap, .post [2], .reread, .reap]).2 =
      [.posted 1, .cqe 1, .posted 0, .cqe 1, .noCqe, .posted 1, .cqe 2, .cqe 2] := by decide +kernel

/-- the same inputs on the current code -/
theorem fixed_at_wrap :
    (run .fixed (init 0 1 1 4294967295 0) [.get 1]).2 = [.slot 1] ∧
    (run .fixed (init 0 1 1 0 4294967295) [.post [5], .reap]).2 = [.posted 1, .cqe 5] := by decide +kernel

/-! ### non-vacuity -/

/-- the parameter set is inhabited at the wrap boundary -/
example : Params 3 3 4294967294 4294967295 := ⟨by decide, by decide, by decide, by decide⟩

/-- a concrete interleaving crossing the 32-bit wrap on both rings, ring full on the way:
slots are handed out 1,0,(none),1 (the start counter is odd); the kernel consumes them in order; completions come back in order -/
example :
    (run .fixed (init 0 1 1 4294967295 4294967295)
      [.get 11, .get 12, .get 13, .flush, .consume 1, .get 13, .flush, .consume 5,
       .post [21, 22, 23], .reap, .reap, .reap]).2 =
    [.slot 1, .slot 0, .noSlot, .flushed 2, .consumed [⟨1, 11⟩], .slot 1, .flushed 2,
     .consumed [⟨0, 12⟩, ⟨1, 13⟩], .posted 2, .cqe 21, .cqe 22, .noCqe] := by decide +kernel

/-- with 128-byte SQEs / 32-byte CQEs the index is shifted -/
example :
    (run .fixed (init 3072 2 2 4294967294 4294967294)
      [.get 1, .get 2, .get 3, .flush, .consume 2, .post [7, 8, 9], .reap]).2 =
    [.slot 4, .slot 6, .slot 0, .flushed 3, .consumed [⟨4, 1⟩, ⟨6, 2⟩], .posted 3, .cqe 7] := by decide +kernel

end TinyVerif.Ring
