/-
C02 — RwLock: writer exclusion, reader sharing, visibility, try_read/try_write — for every number of
threads, every reader/writer program mix and every schedule (incl. wake hand-off choices, spurious futex
returns, spurious weak-CAS failures, arbitrary/stale values observed by relaxed loads).

Model: `Model/RwLock.lean`; inductive invariant: `Proofs/RwInv.lean`, `Proofs/RwStep.lean` (`step_inv`, by cases on
the transition relation `Step`).  Ties on every run of `bin/check C02`:
 * C: the real rwlock.rs runs under the deterministic scheduler shim and every trace must be accepted by
   `step` (driver `drv_c02`, which replays each RMW with the ordering the running code actually passed), with
   exclusion / try / deadlock / lost-update / livelock oracles on the implementation;
 * T (static): `Gen/SyncSites.lean` regenerated from rwlock.rs, every RMW of `state` with a *role* derived from
   what it does to the word (`acquire` = may raise the count field / set WRITE_LOCKED, `release` = `fetch_sub`,
   `keep` = provably leaves the count alone or zero).  Position-independent obligations: every acquiring RMW is
   Acquire or stronger, every releasing RMW Release or stronger, no plain store to `state`, the bit constants have
   the model's values, wait and wake use the same futex key kind.  The per-function site list is not pinned (C
   pins the operation sequence);
 * T (observed): `Gen/RwObs.lean` regenerated from the traces (orderings of the RMWs that returned a guard /
   began a guard's drop, spin budget, futex operation words of the real rusl::futex): must be good in any case,
   and is what the configuration rests on when the static table was not understood.

Wake-up: the reader-queue half is proved for every execution of the model (`rw_readers_no_lost_wakeup_partial`,
invariant `RQ2` in `Proofs/RwWake.lean`).  The writer-queue half is proved (`rw_writers_no_lost_wakeup_sc_partial`,
invariant `WQ` in `Proofs/RwWakeW.lean`) for the executions in which the two loads of `write_contended`'s hand-shake
(Acquire load of `writer_notify`, then the re-read of `state`) observe current values and `writer_notify` does not
wrap; every other load may still observe any value.  The derived no-deadlock statement is proved for those executions
(`rw_no_deadlock_sc` in `Props/C02Live.lean`) and NOT for all of `Reachable`: the full statement is kept below as a
comment (`rw_no_lost_wakeup`), the schedule exploration of the implementation with its deadlock and livelock oracles is
the supporting (not substituting) evidence.
-/
import TinyVerif.Model.RwLock
import TinyVerif.Proofs.RwStep
import TinyVerif.Proofs.RwWake
import TinyVerif.Proofs.RwWakeW
import TinyVerif.Gen.SyncSites
import TinyVerif.Gen.RwObs
namespace TinyVerif.RwLock
open TinyVerif.Gen.Sync

/-! ## tie T: position-independent obligations on the regenerated site table and on the observation -/

def isAcq : Ord → Bool
  | .acquire | .acqrel | .seqcst => true
  | _ => false
def isRel : Ord → Bool
  | .release | .acqrel | .seqcst => true
  | _ => false

/-- the RMW sites of rwlock.rs on the lock word (the extractor gives the roles `acquire` / `release` / `keep` /
`both` only to RMWs of the lock word, which it identifies by what is done to it, not by its field name) -/
def stateSites : List Site :=
  rwlockSites.filter (fun s => s.role == "acquire" || s.role == "release" || s.role == "keep" || s.role == "both")
def needsAcq (s : Site) : Bool := s.role == "acquire" || s.role == "both"
def needsRel (s : Site) : Bool := s.role == "release" || s.role == "both"
def succOrd (s : Site) : Ord := s.ords.getD 0 .unknown

/-- the static table was understood: every atomic operation has literal (or aliased) orderings -/
def staticUnderstood : Bool :=
  rwlockSites.all (fun s => s.role == "wait" || s.role == "wake" || (!s.ords.isEmpty && s.ords.all (· != .unknown)))
/-- every RMW of `state` that may create a guard is Acquire or stronger (and there is one) -/
def staticAcqOk : Bool := stateSites.any needsAcq && stateSites.all (fun s => !needsAcq s || isAcq (succOrd s))
/-- every RMW of `state` that gives a guard up is Release or stronger (and there is one) -/
def staticRelOk : Bool := stateSites.any needsRel && stateSites.all (fun s => !needsRel s || isRel (succOrd s))
/-- both atomics are only ever written by RMWs -/
def noStore : Bool := rwlockSites.all (fun s => s.op != "store")

def obsAcqOk : Bool :=
  Gen.RwObs.observed.any (fun r => r.2.1 == "acquire") &&
  Gen.RwObs.observed.all (fun r => r.2.1 != "acquire" || isAcq r.2.2)
def obsRelOk : Bool :=
  Gen.RwObs.observed.any (fun r => r.2.1 == "release") &&
  Gen.RwObs.observed.all (fun r => r.2.1 != "release" || isRel r.2.2)

def constVal (n : String) : Option Nat := (rwConsts.find? (·.1 == n)).map (·.2)
/-- the bit layout of the model is the bit layout of rwlock.rs: the model's values all occur among the file's
constants, and each constant that still goes by its name has the model's value -/
def constsOk : Bool :=
  [1, MASK, MAX_READERS, RW, WW].all (fun v => rwConsts.any (·.2 == v)) &&
  (constVal "READ_LOCKED").all (· == 1) && (constVal "MASK").all (· == MASK) &&
  (constVal "WRITE_LOCKED").all (· == WRITE_LOCKED) && (constVal "MAX_READERS").all (· == MAX_READERS) &&
  (constVal "READERS_WAITING").all (· == RW) && (constVal "WRITERS_WAITING").all (· == WW)

def futexKeyOk : Bool :=
  Gen.RwObs.futexWaitPrivate == Gen.RwObs.futexWakePrivate &&
  (!futexKeyUnderstood || (futexWaitPrivate == Gen.RwObs.futexWaitPrivate && futexWakePrivate == Gen.RwObs.futexWakePrivate))

def genShapeOk : Bool := noStore && constsOk && futexKeyOk

theorem gen_shape_ok : genShapeOk = true := by decide

/-- the model configuration: a bit is set iff *all* RMWs of that kind are strong enough, in the observation and
(when understood) in the source -/
def genCfg : Cfg :=
  let a := obsAcqOk && (!staticUnderstood || staticAcqOk)
  let r := obsRelOk && (!staticUnderstood || staticRelOk)
  { readAcq := a, writeAcq := a, readRel := r, writeRel := r, spinMax := Gen.RwObs.spinBudget }

theorem gen_cfg_good : genCfg.Good := by decide

def Reachable (c : Cfg) (s : St) : Prop := ∃ progs evs, run c (init progs) evs = some s

theorem run_inv (c : Cfg) (hc : c.Good) (s s' : St) (evs : List (Nat × Ev)) (h : run c s evs = some s')
    (hinv : RInv s) : RInv s' :=
  runBy_preserves (step_inv c hc) (run_eq c ▸ h) hinv

theorem reachable_inv (c : Cfg) (hc : c.Good) (s : St) (h : Reachable c s) : RInv s := by
  obtain ⟨progs, evs, h⟩ := h
  exact run_inv c hc _ s evs h (init_inv progs)

/-- **a write guard excludes every other guard** -/
theorem rw_writer_excludes_all (c : Cfg) (hc : c.Good) (s : St) (h : Reachable c s) (i j : Nat)
    (hi : holdsW (s.ths i) = true) (hij : j ≠ i) : holdsW (s.ths j) = false ∧ holdsR (s.ths j) = false := by
  have inv := reachable_inv c hc s h
  constructor
  · cases hj : holdsW (s.ths j) with
    | false => rfl
    | true => exact absurd (inv.uniqW j i hj hi) hij
  · exact nR_zero_no_reader s inv (inv.noRW ⟨i, hi⟩) j

/-- **read guards coexist only with read guards** -/
theorem rw_readers_only_with_readers (c : Cfg) (hc : c.Good) (s : St) (h : Reachable c s) (i j : Nat)
    (hi : holdsR (s.ths i) = true) : holdsW (s.ths j) = false := by
  have inv := reachable_inv c hc s h
  cases hj : holdsW (s.ths j) with
  | false => rfl
  | true =>
    have := nR_zero_no_reader s inv (inv.noRW ⟨j, hj⟩) i
    rw [hi] at this; cases this

/-- the count field of `state` is exactly the number of read guards, or `WRITE_LOCKED` iff a write guard exists -/
theorem rw_state_counts_guards (c : Cfg) (hc : c.Good) (s : St) (h : Reachable c s) :
    (cnt s.state = WRITE_LOCKED ↔ ∃ i, holdsW (s.ths i) = true) ∧
    (cnt s.state ≠ WRITE_LOCKED → cnt s.state = nR s) := by
  have inv := reachable_inv c hc s h
  exact ⟨inv.wl, inv.cntR⟩

/-- **visibility**: no guarded access ever races: a write under a write guard happens-after every earlier
guarded access, a read under a read guard happens-after every earlier guarded write (needs Acquire on every
acquiring RMW and Release on both unlocks: `c.Good`, re-checked against the source by `gen_cfg_good`) -/
theorem rw_visibility (c : Cfg) (hc : c.Good) (s : St) (h : Reachable c s) : s.raced = false :=
  (reachable_inv c hc s h).nrace

/-- the asserts of `write_unlock` / `wake_writer_or_readers` (`is_unlocked(state)` after a writer leaves)
hold: after a write unlock the count field is 0 -/
theorem rw_write_unlock_leaves_unlocked (c : Cfg) (hc : c.Good) (s : St) (h : Reachable c s) (i : Nat)
    (hi : (s.ths i).pc = .unlock true) : cnt (wsub s.state WRITE_LOCKED) = 0 := by
  have inv := reachable_inv c hc s h
  have hw : holdsW (s.ths i) = true := by simp [holdsW, hi]
  have := inv.wl.mpr ⟨i, hw⟩
  have hlt := inv.lt32
  unfold wsub
  simp only [cnt, WRITE_LOCKED, RW, TWO32] at *
  omega

/-- **try_read / try_write never block**: from their load or CAS the only successors are another CAS
attempt, success, or failure — never a futex wait -/
theorem try_nonblocking (c : Cfg) (s s' : St) (i : Nat) (e : Ev) (w : Bool)
    (hpc : (s.ths i).pc = .tLoad w ∨ ∃ st, (s.ths i).pc = .tCas w st) (h : step c s i e = some s') :
    (∃ st, (s'.ths i).pc = .tCas w st) ∨ (s'.ths i).pc = .acquired w ∨ (s'.ths i).pc = .tryFailed := by
  obtain ⟨_, hs⟩ := step_sound h
  have hnext : ∀ v, (∃ st, ((setPc s i (tNext w v)).ths i).pc = .tCas w st) ∨
      ((setPc s i (tNext w v)).ths i).pc = .tryFailed := fun v =>
    (tNext_cases w v).imp (fun h => ⟨v, by simp [setPc, h]⟩) fun h => by simp [setPc, h]
  rcases hpc with hpc | ⟨st, hpc⟩ <;> rw [hpc] at hs <;> cases hs
  · exact (hnext _).imp_right Or.inr
  · exact Or.inr (Or.inl (by simp [rmwState]))
  · exact (hnext _).imp_right Or.inr

/-- **try_write succeeds only when the lock is free, try_read only when no writer holds it**: the winning CAS
read a `state` that admits the request -/
theorem try_succeeds_only_if_admitted (c : Cfg) (hc : c.Good) (s s' : St) (i : Nat) (e : Ev) (w : Bool) (st : Nat)
    (hr : Reachable c s) (hpc : (s.ths i).pc = .tCas w st) (h : step c s i e = some s')
    (hok : (s'.ths i).pc = .acquired w) :
    (∀ j, holdsW (s.ths j) = false) ∧ (w = true → ∀ j, holdsR (s.ths j) = false) := by
  have inv := reachable_inv c hc s hr
  have hwf : PcWf (.tCas w st) := inv.wf_at hpc
  obtain ⟨_, hs⟩ := step_sound h
  rw [hpc] at hs
  cases hs with
  | tCasOk hst =>
    subst hst
    cases w <;> simp only [PcWf, Bool.false_eq_true, if_false, if_true] at hwf
    · obtain ⟨h1, _, _⟩ := (readLockable_iff _).mp hwf
      exact ⟨no_writer_of_cnt s inv (by simp only [cnt, RW, WRITE_LOCKED]; omega), nofun⟩
    · have hu := (unlocked_iff _).mp hwf
      have hnwl : cnt s.state ≠ WRITE_LOCKED := by simp only [cnt, RW, WRITE_LOCKED]; omega
      have h0 : nR s = 0 := by have := inv.cntR hnwl; simp only [cnt, RW] at this; omega
      exact ⟨no_writer_of_cnt s inv hnwl, fun _ => nR_zero_no_reader s inv h0⟩
  | tCasFail =>
    rcases tNext_cases w s.state with h | h <;> simp [setPc, h] at hok

/-! ## wake-up: the reader queue (every execution) and the writer queue (hand-shake loads that observe current values) -/

theorem run_rq (c : Cfg) (hc : c.Good) (s s' : St) (evs : List (Nat × Ev)) (h : run c s evs = some s')
    (hinv : RInv s) (hq : RQ2 s) : RQ2 s' :=
  (runBy_preserves (P := fun s => RInv s ∧ RQ2 s)
    (fun s s' i e hs hp => ⟨step_inv c hc s s' i e hs hp.1, step_rq c s s' i e hs hp.1 hp.2⟩) (run_eq c ▸ h) ⟨hinv, hq⟩).2

/-- **no lost wake-up for readers** (partial wake-up result): in every reachable state, whenever a reader is
parked on `state`, the readers-waiting bit is still set in the lock word — so the thread that makes the word
unlocked sees it and runs `wake_writer_or_readers` — or a thread is already about to issue the wake-all.  (That a
reader only ever sleeps on an expected value that carries the bit is the `wf` half of the invariant `RQ2`.) -/
theorem rw_readers_no_lost_wakeup_partial (c : Cfg) (hc : c.Good) (s : St) (h : Reachable c s)
    (hp : ∃ i, parkedOn (s.ths i) 0 = true) :
    hasRW s.state = true ∨ ∃ j, (s.ths j).pc = .kWakeR := by
  obtain ⟨progs, evs, h⟩ := h
  exact (run_rq c hc _ s evs h (init_inv progs) (init_rq2 progs)).rq hp

/-! ### the writer queue, for hand-shake loads that observe current values -/

theorem runW_run (c : Cfg) (s s' : St) (evs : List (Nat × Ev)) (h : runW c s evs = some s') : run c s evs = some s' := by
  rw [run_eq]; rw [runW_eq] at h; exact runBy_mono (stepW_step c) h

theorem runW_wq (c : Cfg) (hc : c.Good) (s s' : St) (evs : List (Nat × Ev)) (h : runW c s evs = some s')
    (hinv : RInv s) (hq : WQ s) : WQ s' :=
  (runBy_preserves (P := fun s => RInv s ∧ WQ s)
    (fun s s' i e hs hp => ⟨step_inv c hc s s' i e (stepW_step c s s' i e hs) hp.1, step_wq c s s' i e hs hp.1 hp.2⟩)
    (runW_eq c ▸ h) ⟨hinv, hq⟩).2

/-- reachable by steps in which the load of `writer_notify` that samples the sequence number and the following re-read
of `state` (both in `write_contended`) return the current value, and `writer_notify` stays below 2^32 -/
def ReachableW (c : Cfg) (s : St) : Prop := ∃ progs evs, runW c (init progs) evs = some s

theorem ReachableW.reachable {c : Cfg} {s : St} (h : ReachableW c s) : Reachable c s := by
  obtain ⟨progs, evs, h⟩ := h
  exact ⟨progs, evs, runW_run c _ s evs h⟩

/-- **no lost wake-up for writers** (partial: see `ReachableW`): whenever a writer is parked on `writer_notify`,
the writers-waiting bit is still set in the lock word (so whoever makes the word unlocked runs
`wake_writer_or_readers`), or a `wake_writer` is already under way (`writer_notify` about to be bumped, or the
futex wake about to be issued), or an awake writer exists that carries `other_writers_waiting = true` and puts the
bit back when it takes the lock.  And a writer that is about to sleep, or sleeps, on the *current* value of
`writer_notify` is covered by the bit or by a `wake_writer` that has not bumped the counter yet
(`rw_writer_sleeps_covered`). -/
theorem rw_writers_no_lost_wakeup_sc_partial (c : Cfg) (hc : c.Good) (s : St) (h : ReachableW c s)
    (hp : ∃ i, parkedOn (s.ths i) 1 = true) :
    hasWW s.state = true ∨ (∃ j, pendW (s.ths j).pc = true) ∨ (∃ j, owing (s.ths j).pc = true) := by
  obtain ⟨progs, evs, h⟩ := h
  obtain ⟨i, hi⟩ := hp
  rw [parkedOn1_eq] at hi
  exact (runW_wq c hc _ s evs h (init_inv progs) (init_wq progs)).park ⟨i, hi⟩

theorem rw_writer_sleeps_covered (c : Cfg) (hc : c.Good) (s : St) (h : ReachableW c s) (i : Nat)
    (hp : preSleep (s.ths i).pc = some s.notify) :
    hasWW s.state = true ∨ ∃ k, pendA (s.ths k).pc = true := by
  obtain ⟨progs, evs, h⟩ := h
  exact (runW_wq c hc _ s evs h (init_inv progs) (init_wq progs)).pre i s.notify hp rfl

/-- non-vacuity: a restricted execution that ends with a writer parked on `writer_notify` (and the bit set) -/
def parkTrace : List (Nat × Ev) :=
  [(0, .call .write), (0, .cas 0 true 0 WRITE_LOCKED .ok), (0, .acq),
   (1, .call .write), (1, .cas 0 true 0 WRITE_LOCKED (.fail WRITE_LOCKED)), (1, .load 0 WRITE_LOCKED),
   (1, .cas 0 false WRITE_LOCKED (WRITE_LOCKED + WW) .ok), (1, .load 1 0), (1, .load 0 (WRITE_LOCKED + WW)),
   (1, .load 1 0), (1, .fwait 1 0 true)]

example : (runW { genCfg with spinMax := 0 } (init [[⟨.write, 0⟩], [⟨.write, 0⟩]]) parkTrace).map
    (fun s => parkedOn (s.ths 1) 1 && hasWW s.state && preSleep (s.ths 1).pc == some s.notify) = some true := by decide

/-- why the restriction: with a *stale* re-read of `state` after the sequence number was sampled (which the
Acquire load of `writer_notify` forbids in the real memory model, and `stepW` excludes) the unrestricted model
reaches a state with a writer asleep on the current `writer_notify`, the word 0 and nobody left to wake it -/
def staleTrace : List (Nat × Ev) :=
  [(0, .call .write), (0, .cas 0 true 0 WRITE_LOCKED .ok), (0, .acq),
   (1, .call .write), (1, .cas 0 true 0 WRITE_LOCKED (.fail WRITE_LOCKED)), (1, .load 0 WRITE_LOCKED),
   (1, .cas 0 false WRITE_LOCKED (WRITE_LOCKED + WW) .ok),
   (0, .rel), (0, .fsub 0 WRITE_LOCKED (WRITE_LOCKED + WW)), (0, .cas 0 false WW 0 .ok), (0, .fadd 1 1 0), (0, .fwake 1 1 []),
   (1, .load 1 1), (1, .load 0 (WRITE_LOCKED + WW)), (1, .load 1 1), (1, .fwait 1 1 true)]

theorem writer_half_needs_current_state_load :
    (run { genCfg with spinMax := 0 } (init [[⟨.write, 0⟩], [⟨.write, 0⟩]]) staleTrace).map
      (fun s => parkedOn (s.ths 1) 1 && s.state == 0 && (s.ths 0).pc == .idle) = some true := by decide
theorem stale_trace_not_in_restricted_relation :
    runW { genCfg with spinMax := 0 } (init [[⟨.write, 0⟩], [⟨.write, 0⟩]]) staleTrace = none := by decide

/-
`rw_no_lost_wakeup` (full statement kept; the reader half and, under `ReachableW`, the writer half are proved):
  Reachable c s →
    ((∃ i, parkedOn (s.ths i) 0) → hasRW s.state ∨ ∃ j, (s.ths j).pc = .kWakeR)                       -- proved
    ∧ ((∃ i, parkedOn (s.ths i) 1) → hasWW s.state ∨ (∃ j, wake pending at j) ∨ ∃ j, awake writer contender j)  -- proved for ReachableW only
  and hence: whenever a thread is parked some other thread can step (`rw_no_deadlock`)   -- proved for ReachableW only (`rw_no_deadlock_sc`)
For all of `Reachable` the writer half needs the release/acquire argument on `writer_notify` (sequence sampled with
Acquire before the relaxed re-read of `state`), i.e. a model in which relaxed loads of `state` are bounded by the
thread's view; the present model lets a relaxed load observe any value, under which the writer half is false
(`ReachableW` restricts exactly those two loads to current values = the sequentially consistent reading of them).
-/

/-! ## the orderings are necessary: model-level races with a weakened ordering -/

def badRel : Cfg := { genCfg with writeRel := false }
def badAcq : Cfg := { genCfg with readAcq := false }

def raceTrace : List (Nat × Ev) :=
  [(0, .call .write), (0, .cas 0 true 0 WRITE_LOCKED .ok), (0, .acq), (0, .data), (0, .rel),
   (0, .fsub 0 WRITE_LOCKED WRITE_LOCKED),
   (1, .call .read), (1, .load 0 0), (1, .cas 0 true 0 1 .ok), (1, .acq), (1, .data)]

def racedOf (c : Cfg) : Option Bool :=
  (run c (init [[⟨.write, 1⟩], [⟨.read, 1⟩]]) raceTrace).map (·.raced)

theorem relaxed_write_unlock_races : racedOf badRel = some true := by decide
theorem relaxed_read_acquire_races : racedOf badAcq = some true := by decide
theorem good_cfg_same_trace_no_race : racedOf genCfg = some false := by decide

/-! ## the defect repaired by /repo commit "fix: try_read/try_write compute the new lock word lazily":
`bool::then_some(s + READ_LOCKED)` evaluated the sum even for a non-lockable `s`; with both waiting bits set on a
write-locked word the u32 addition overflows (debug builds panic).  The model mirrors the repaired, lazy code. -/

theorem old_try_read_eager_add_overflows :
    isReadLockable (WRITE_LOCKED + RW + WW) = false ∧ WRITE_LOCKED + RW + WW + 1 = TWO32 := by decide
theorem old_try_write_eager_add_overflows :
    isUnlocked (1 + RW + WW) = false ∧ 1 + RW + WW + WRITE_LOCKED = TWO32 := by decide

/-- two readers hold the lock at once (reader sharing is reachable) -/
def twoReaders : Option (Nat × Bool × Bool) :=
  (run genCfg (init [[⟨.read, 0⟩], [⟨.read, 0⟩]])
    [(0, .call .read), (0, .load 0 0), (0, .cas 0 true 0 1 .ok),
     (1, .call .read), (1, .load 0 1), (1, .cas 0 true 1 2 .ok)]).map
    (fun s => (s.state, holdsR (s.ths 0), holdsR (s.ths 1)))

example : twoReaders = some (2, true, true) := by decide

/-- a reachable state with a reader parked on `state` while a writer holds the lock and the RW bit is set -/
def parkedReader : Option (Bool × Bool × Bool) :=
  (run { genCfg with spinMax := 0 } (init [[⟨.write, 0⟩], [⟨.read, 0⟩]])
    [(0, .call .write), (0, .cas 0 true 0 WRITE_LOCKED .ok),
     (1, .call .read), (1, .load 0 WRITE_LOCKED), (1, .load 0 WRITE_LOCKED),
     (1, .cas 0 false WRITE_LOCKED (WRITE_LOCKED + RW) .ok), (1, .load 0 (WRITE_LOCKED + RW)),
     (1, .fwait 0 (WRITE_LOCKED + RW) true)]).map
    (fun s => (parkedOn (s.ths 1) 0, hasRW s.state, holdsW (s.ths 0)))

example : parkedReader = some (true, true, true) := by decide
example : Reachable genCfg (init [[⟨.write, 1⟩]]) := ⟨[[⟨.write, 1⟩]], [], rfl⟩
example : genCfg.Good := gen_cfg_good

end TinyVerif.RwLock
