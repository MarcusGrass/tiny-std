/-
C08 — memcpy / memmove / memset / memcmp / bcmp match C for every length, alignment and overlap and
never write a byte outside the destination range.

Property theorems about `TinyVerif.Model.MemFns`, the executable mirror of
tiny-start/src/symbols/mem.rs (tied to the code by the correspondence run of `bin/check C08`).

Every theorem quantifies over *every* memory `m` (any arena, any content), *every* length `n`, *every*
destination/source address (hence every alignment) and, where it applies, every overlap.  Addresses are
`Nat`s; the only place where the 64-bit width of `usize` matters is memmove's direction test on the
wrapping pointer difference, and there C's precondition "the objects do not wrap the address space"
(`dest + n ≤ 2^64`, `src + n ≤ 2^64`) is assumed.  The other theorems hold for all `Nat` addresses (so in
particular under that precondition).

`Blit m m' d s n` (Proofs/MemFnsLemmas.lean) says: `m'.bad = m.bad` (no misaligned word dereference, no
`usize` underflow, no loop out of fuel happened), every byte `d+i`, `i<n`, of `m'` is the *original* byte
`s+i` of `m` (memmove semantics), every address outside `[d, d+n)` reads the same in `m'` as in `m`, and
(`Acc`) every address the call LOADED lies in `[s, s+n)` and every address it STORED to lies in `[d, d+n)` —
the model logs each byte address of each load in `Mem.rlog` and of each store in `Mem.wlog` (a word access = its
8 byte addresses).  `Filled` is the same for memset (no load at all).  `CmpAcc` is the access statement of the
compare loop: only `s1[i]`, `s2[i]`, `i < n` are loaded, nothing is stored.  The `*_reads_in_bounds` /
`*_writes_in_bounds` theorems below are "the functions access no memory outside `[s, s+n)` of any operand".
All statements are at full strength; nothing here is `…_partial`.
-/
import TinyVerif.Model.MemFns
import TinyVerif.Proofs.MemFnsLemmas
namespace TinyVerif.MemFns

/-! ## copy_forward / copy_backward -/

/-- **copy_forward** is a correct copy whenever going forwards is safe: `dest ≤ src` (overlapping or not)
or `dest` at/after the end of the source.  All `n` (below and above the word threshold), all alignments. -/
theorem copy_forward_spec (m : Mem) (dest src n : Nat) (hz : dest ≤ src ∨ src + n ≤ dest) :
    Blit m (copyForward m dest src n) dest src n := by
  unfold copyForward
  split
  · next hn =>
    have hn : 16 ≤ n := hn
    obtain ⟨hal, hlt⟩ := fwd_mis dest
    generalize wrappingNeg dest &&& WORD_MASK = mis at hal hlt ⊢
    simp only [andNotMask_eq, and_mask]
    obtain ⟨t, ht⟩ := split_words (show mis ≤ n by omega)
    generalize (n - mis) / 8 = q at ht ⊢
    subst ht
    rw [if_neg (Nat.not_lt.2 (Nat.le_add_right mis _)), Nat.add_sub_cancel_left, Nat.add_sub_cancel_left]
    refine Blit.fwd_comp (copyForwardBytes_spec m dest src mis)
      (Blit.fwd_comp (fun hz' => ?_) (copyForwardBytes_spec _ _ _ t)) hz
    split
    · next hs => exact copyForwardAlignedWords_spec _ _ _ q ⟨hal, hs⟩ hz'
    · exact copyForwardMisalignedWords_spec _ _ _ q hal hz'
  · exact copyForwardBytes_spec m dest src n hz

/-- **copy_backward** is a correct copy whenever going backwards is safe: `src ≤ dest` or `src` at/after the
end of the destination. -/
theorem copy_backward_spec (m : Mem) (dest src n : Nat) (hz : src ≤ dest ∨ dest + n ≤ src) :
    Blit m (copyBackward m dest src n) dest src n := by
  unfold copyBackward
  simp only []
  split
  · next hn =>
    have hn : 16 ≤ n := hn
    simp only [andNotMask_eq, and_mask]
    have hlt : (dest + n) % 8 < 8 := Nat.mod_lt _ (by decide)
    have hal : (dest + n - (dest + n) % 8) % 8 = 0 := by omega
    generalize (dest + n) % 8 = mis at hal hlt ⊢
    obtain ⟨t, ht⟩ := split_words (show mis ≤ n by omega)
    generalize (n - mis) / 8 = q at ht ⊢
    rw [show mis + (8 * q + t) = t + (8 * q + mis) by omega] at ht
    subst ht
    simp only [← Nat.add_assoc, Nat.add_sub_cancel] at hal ⊢
    rw [Nat.add_mul_mod_self_left] at hal
    rw [if_neg (Nat.not_lt.2 (Nat.le_add_left mis _)), Nat.add_assoc t]
    refine Blit.bwd_comp (Blit.bwd_comp (copyBackwardBytes_spec m _ _ mis) fun hz' => ?_)
      (copyBackwardBytes_spec _ dest src t) hz
    split
    · next hs =>
      rw [Nat.add_mul_mod_self_left] at hs
      exact copyBackwardAlignedWords_spec _ (dest + t) (src + t) q ⟨hal, hs⟩ hz'
    · exact copyBackwardMisalignedWords_spec _ (dest + t) (src + t) q hal hz'
  · exact copyBackwardBytes_spec m dest src n hz

/-- without the direction hypothesis a forward copy is *not* a memmove (the hypothesis is not idle) -/
example : ¬ Blit (mkArena 64 32 1) (copyForward (mkArena 64 32 1) 66 64 4) 66 64 4 := by
  intro h
  have := h.2.1 68
  revert this
  decide

/-! ## memmove: every overlap -/

/-- the direction lemma: the test `dest.wrapping_sub(src) >= n` on the wrapping difference chooses forward
exactly when forward is safe (given no wrap of the objects) -/
theorem memmove_direction (dest src n : Nat) (hd : dest + n ≤ TWO64) (hs : src + n ≤ TWO64) :
    (wrappingSub dest src ≥ n → dest ≤ src ∨ src + n ≤ dest) ∧
    (¬ wrappingSub dest src ≥ n → src ≤ dest ∨ dest + n ≤ src) := by
  by_cases h0 : n = 0
  · exact ⟨fun _ => by omega, fun _ => by omega⟩
  · rw [wrappingSub_eq dest src (by omega) (by omega)]
    generalize TWO64 = T at *
    split <;> omega

/-- **memmove**: for every `dest`, `src`, `n` whose objects do not wrap the address space — disjoint,
overlapping with `dest < src`, overlapping with `dest > src`, identical — the result is the memmove of the
original bytes and `dest` is returned. -/
theorem memmove_spec (m : Mem) (dest src n : Nat) (hd : dest + n ≤ TWO64) (hs : src + n ≤ TWO64) :
    Blit m (memmove m dest src n).1 dest src n ∧ (memmove m dest src n).2 = dest := by
  obtain ⟨hf, hb⟩ := memmove_direction dest src n hd hs
  unfold memmove
  simp only []
  split
  · next h => exact ⟨copy_forward_spec m dest src n (hf h), rfl⟩
  · next h => exact ⟨copy_backward_spec m dest src n (hb h), rfl⟩

/-- the destination holds the original source bytes -/
theorem memmove_dest_bytes (m : Mem) (dest src n : Nat) (hd : dest + n ≤ TWO64) (hs : src + n ≤ TWO64)
    (i : Nat) (hi : i < n) : (memmove m dest src n).1.rd (dest + i) = m.rd (src + i) :=
  (memmove_spec m dest src n hd hs).1.rd_dest hi

/-- **no byte outside `[dest, dest+n)` is written** -/
theorem memmove_outside_unchanged (m : Mem) (dest src n : Nat) (hd : dest + n ≤ TWO64) (hs : src + n ≤ TWO64)
    (x : Nat) (hx : x < dest ∨ dest + n ≤ x) : (memmove m dest src n).1.rd x = m.rd x :=
  (memmove_spec m dest src n hd hs).1.rd_outside hx

/-- no misaligned `*mut usize` dereference, no `usize` underflow, every loop terminates within its bound -/
theorem memmove_no_bad_event (m : Mem) (dest src n : Nat) (hd : dest + n ≤ TWO64) (hs : src + n ≤ TWO64) :
    (memmove m dest src n).1.bad = m.bad :=
  (memmove_spec m dest src n hd hs).1.1

/-- **memmove loads only source bytes**: every byte address loaded during the call lies in `[src, src+n)`
(word loads count with all 8 of their byte addresses), whatever the overlap and the alignments -/
theorem memmove_reads_in_bounds (m : Mem) (dest src n : Nat) (hd : dest + n ≤ TWO64) (hs : src + n ≤ TWO64)
    (a : Nat) (ha : a ∈ (memmove m dest src n).1.rlog) : a ∈ m.rlog ∨ (src ≤ a ∧ a < src + n) :=
  (memmove_spec m dest src n hd hs).1.2.2.1 a ha

/-- **memmove stores only to destination bytes** (the set of addresses stored to, not just the values left
behind: a store that rewrites the old value outside `[dest, dest+n)` would be in `wlog`) -/
theorem memmove_writes_in_bounds (m : Mem) (dest src n : Nat) (hd : dest + n ≤ TWO64) (hs : src + n ≤ TWO64)
    (a : Nat) (ha : a ∈ (memmove m dest src n).1.wlog) : a ∈ m.wlog ∨ (dest ≤ a ∧ a < dest + n) :=
  (memmove_spec m dest src n hd hs).1.2.2.2 a ha

/-! ## memcpy -/

/-- **memcpy** (C's precondition: the ranges do not overlap): destination = source bytes, nothing else
written, returns `dest`.  (The code is `copy_forward`, so it is in fact also correct for `dest ≤ src`.) -/
theorem memcpy_spec (m : Mem) (dest src n : Nat) (hdis : dest + n ≤ src ∨ src + n ≤ dest) :
    Blit m (memcpy m dest src n).1 dest src n ∧ (memcpy m dest src n).2 = dest :=
  ⟨copy_forward_spec m dest src n (by omega), rfl⟩

theorem memcpy_outside_unchanged (m : Mem) (dest src n : Nat) (hdis : dest + n ≤ src ∨ src + n ≤ dest)
    (x : Nat) (hx : x < dest ∨ dest + n ≤ x) : (memcpy m dest src n).1.rd x = m.rd x :=
  (memcpy_spec m dest src n hdis).1.rd_outside hx

theorem memcpy_dest_bytes (m : Mem) (dest src n : Nat) (hdis : dest + n ≤ src ∨ src + n ≤ dest)
    (i : Nat) (hi : i < n) : (memcpy m dest src n).1.rd (dest + i) = m.rd (src + i) :=
  (memcpy_spec m dest src n hdis).1.rd_dest hi

theorem memcpy_reads_in_bounds (m : Mem) (dest src n : Nat) (hdis : dest + n ≤ src ∨ src + n ≤ dest)
    (a : Nat) (ha : a ∈ (memcpy m dest src n).1.rlog) : a ∈ m.rlog ∨ (src ≤ a ∧ a < src + n) :=
  (memcpy_spec m dest src n hdis).1.2.2.1 a ha

theorem memcpy_writes_in_bounds (m : Mem) (dest src n : Nat) (hdis : dest + n ≤ src ∨ src + n ≤ dest)
    (a : Nat) (ha : a ∈ (memcpy m dest src n).1.wlog) : a ∈ m.wlog ∨ (dest ≤ a ∧ a < dest + n) :=
  (memcpy_spec m dest src n hdis).1.2.2.2 a ha

/-! ## memset -/

/-- `c as u8` is the low byte of the `c_int` -/
theorem asU8_low_byte (c : Int) : ((asU8 c).toNat : Int) = c % 256 := by
  unfold asU8
  rw [UInt8.toNat_ofNat']
  omega

/-- **memset**: `[s, s+n)` is filled with the low byte of `c`, every other address is unchanged, `s` is
returned; every `n`, every alignment of `s`, every `c`. -/
theorem memset_spec (m : Mem) (s : Nat) (c : Int) (n : Nat) :
    Filled m (memset m s c n).1 s (asU8 c) n ∧ (memset m s c n).2 = s :=
  ⟨setBytes_filled m s (asU8 c) n, rfl⟩

theorem memset_outside_unchanged (m : Mem) (s : Nat) (c : Int) (n x : Nat) (hx : x < s ∨ s + n ≤ x) :
    (memset m s c n).1.rd x = m.rd x :=
  (memset_spec m s c n).1.rd_outside hx

theorem memset_dest_bytes (m : Mem) (s : Nat) (c : Int) (n i : Nat) (hi : i < n) :
    (memset m s c n).1.rd (s + i) = asU8 c :=
  (memset_spec m s c n).1.rd_dest hi

/-- **memset loads nothing** and stores only inside `[s, s+n)` -/
theorem memset_reads_nothing (m : Mem) (s : Nat) (c : Int) (n a : Nat) (ha : a ∈ (memset m s c n).1.rlog) :
    a ∈ m.rlog := by
  rcases (memset_spec m s c n).1.2.2.1 a ha with h | h
  · exact h
  · omega

theorem memset_writes_in_bounds (m : Mem) (s : Nat) (c : Int) (n a : Nat) (ha : a ∈ (memset m s c n).1.wlog) :
    a ∈ m.wlog ∨ (s ≤ a ∧ a < s + n) :=
  (memset_spec m s c n).1.2.2.2 a ha

/-! ## memcmp / bcmp -/

/-- **memcmp**: the loop always returns; the result is 0 with all `n` byte pairs equal, or it is the
difference (as `i32`s) of the *first* differing pair of (unsigned) bytes. -/
theorem memcmp_spec (m : Mem) (s1 s2 n : Nat) : CmpPost m s1 s2 n (memcmp m s1 s2 n).2 :=
  compareBytesLoop_spec s1 s2 n n m 0 (by omega) (by omega) (fun j hj => by omega)

/-- result 0 iff the ranges are equal -/
theorem memcmp_zero_iff (m : Mem) (s1 s2 n : Nat) :
    (memcmp m s1 s2 n).2 = some 0 ↔ ∀ j, j < n → m.rd (s1 + j) = m.rd (s2 + j) := by
  have h := memcmp_spec m s1 s2 n
  cases hc : (memcmp m s1 s2 n).2 with
  | none => rw [hc] at h; exact h.elim
  | some v =>
    rw [hc] at h
    rcases h with ⟨hv, hall⟩ | ⟨p, hp, _, hne, hv⟩
    · subst hv; exact ⟨fun _ => hall, fun _ => rfl⟩
    · have hne' : (m.rd (s1 + p)).toNat ≠ (m.rd (s2 + p)).toNat := fun e => hne (UInt8.toNat_inj.mp e)
      constructor
      · intro e; injection e with e; omega
      · intro hall; exact absurd (hall p hp) hne

/-- otherwise its sign is the sign of the first differing bytes' (unsigned) difference, and it is an `i32` -/
theorem memcmp_sign (m : Mem) (s1 s2 n : Nat) (v : Int) (hv : (memcmp m s1 s2 n).2 = some v) (hnz : v ≠ 0) :
    ∃ p, p < n ∧ (∀ j, j < p → m.rd (s1 + j) = m.rd (s2 + j)) ∧
      (v < 0 ↔ (m.rd (s1 + p)).toNat < (m.rd (s2 + p)).toNat) ∧
      (v > 0 ↔ (m.rd (s1 + p)).toNat > (m.rd (s2 + p)).toNat) ∧ -255 ≤ v ∧ v ≤ 255 := by
  have h := memcmp_spec m s1 s2 n
  rw [hv] at h
  rcases h with ⟨h0, _⟩ | ⟨p, hp, hpre, _, hval⟩
  · exact absurd h0 hnz
  · have b1 := (m.rd (s1 + p)).toNat_lt
    have b2 := (m.rd (s2 + p)).toNat_lt
    exact ⟨p, hp, hpre, by omega, by omega, by omega, by omega⟩

/-- **bcmp** is memcmp -/
theorem bcmp_eq_memcmp (m : Mem) (s1 s2 n : Nat) : bcmp m s1 s2 n = memcmp m s1 s2 n := rfl

theorem bcmp_zero_iff (m : Mem) (s1 s2 n : Nat) :
    (bcmp m s1 s2 n).2 = some 0 ↔ ∀ j, j < n → m.rd (s1 + j) = m.rd (s2 + j) :=
  memcmp_zero_iff m s1 s2 n

/-- **memcmp loads only operand bytes**: every byte address loaded during the call is `s1 + i` or `s2 + i` for some
`i < n` — nothing before the start, nothing past `s1[n-1]` / `s2[n-1]`, for either operand -/
theorem memcmp_reads_in_bounds (m : Mem) (s1 s2 n a : Nat) (ha : a ∈ (memcmp m s1 s2 n).1.rlog) :
    a ∈ m.rlog ∨ (s1 ≤ a ∧ a < s1 + n) ∨ (s2 ≤ a ∧ a < s2 + n) := by
  rcases (compareBytes_acc m s1 s2 n).1 a ha with h | ⟨i, hi, h | h⟩
  · exact Or.inl h
  · exact Or.inr (Or.inl (by omega))
  · exact Or.inr (Or.inr (by omega))

/-- sharper: a loaded byte of the second operand has the same index `i < n` as a loaded byte of the first -/
theorem memcmp_reads_indexed (m : Mem) (s1 s2 n a : Nat) (ha : a ∈ (memcmp m s1 s2 n).1.rlog) :
    a ∈ m.rlog ∨ ∃ i, i < n ∧ (a = s1 + i ∨ a = s2 + i) :=
  (compareBytes_acc m s1 s2 n).1 a ha

/-- **memcmp stores nothing** and leaves the memory as it was -/
theorem memcmp_writes_nothing (m : Mem) (s1 s2 n : Nat) :
    (memcmp m s1 s2 n).1.wlog = m.wlog ∧ (memcmp m s1 s2 n).1.bad = m.bad ∧ ∀ x, (memcmp m s1 s2 n).1.rd x = m.rd x :=
  (compareBytes_acc m s1 s2 n).2

theorem bcmp_reads_in_bounds (m : Mem) (s1 s2 n a : Nat) (ha : a ∈ (bcmp m s1 s2 n).1.rlog) :
    a ∈ m.rlog ∨ (s1 ≤ a ∧ a < s1 + n) ∨ (s2 ≤ a ∧ a < s2 + n) :=
  memcmp_reads_in_bounds m s1 s2 n a ha

theorem bcmp_writes_nothing (m : Mem) (s1 s2 n : Nat) :
    (bcmp m s1 s2 n).1.wlog = m.wlog ∧ (bcmp m s1 s2 n).1.bad = m.bad ∧ ∀ x, (bcmp m s1 s2 n).1.rd x = m.rd x :=
  memcmp_writes_nothing m s1 s2 n

/-! ## non-vacuity: concrete runs through every branch (word path with aligned and misaligned source,
byte path, both directions), on a pattern-filled arena.  Each run is evaluated by the kernel, on the arena in the form
`mkArena_eq` gives it. -/

-- the constants the theorems were proved for are the ones in the code (also compared at run time)
example : WORD_SIZE = 8 ∧ WORD_MASK = 7 ∧ WORD_COPY_THRESHOLD = 16 := by decide
-- hypotheses of memmove_spec are met at the very top of the address space, with overlap in both directions
example : (TWO64 - 40) + 40 ≤ TWO64 ∧ (TWO64 - 43) + 40 ≤ TWO64 := by decide
example : wrappingSub 100 103 = TWO64 - 3 ∧ wrappingSub 103 100 = 3 := by decide
-- forward, n ≥ 16, destination misaligned by 3, source then misaligned: word path with unaligned reads
example : ((memmove (mkArena 64 128 1) 67 70 40).1.rd 67 = pattern 1 6 ∧
           (memmove (mkArena 64 128 1) 67 70 40).1.rd 106 = pattern 1 45 ∧
           (memmove (mkArena 64 128 1) 67 70 40).1.rd 107 = pattern 1 43 ∧
           (memmove (mkArena 64 128 1) 67 70 40).1.bad = 0) := by rw [mkArena_eq]; decide +kernel
-- backward (dest > src, overlapping), word path with aligned source
example : ((memmove (mkArena 64 128 1) 80 72 40).1.rd 80 = pattern 1 8 ∧
           (memmove (mkArena 64 128 1) 80 72 40).1.rd 119 = pattern 1 47 ∧
           (memmove (mkArena 64 128 1) 80 72 40).1.rd 79 = pattern 1 15 ∧
           (memmove (mkArena 64 128 1) 80 72 40).1.bad = 0) := by rw [mkArena_eq]; decide +kernel
-- byte path (n < 16)
example : (memcpy (mkArena 64 64 2) 65 100 15).1.rd 79 = pattern 2 50 := by rw [mkArena_eq]; decide +kernel
-- memset: low byte of a negative c_int, word path
example : ((memset (mkArena 64 64 1) 67 (-2) 30).1.rd 67 = 254 ∧ (memset (mkArena 64 64 1) 67 (-2) 30).1.rd 96 = 254 ∧
           (memset (mkArena 64 64 1) 67 (-2) 30).1.rd 97 = pattern 1 33 ∧ (memset (mkArena 64 64 1) 67 (-2) 30).1.bad = 0) := by
  rw [mkArena_eq]; decide +kernel
example : broadcast 0xAB = 0xABABABABABABABAB := by decide +kernel
-- memcmp: equal, first difference negative / positive on *unsigned* bytes
example : (memcmp (mkArena 0 300 1) 10 261 20).2 = some 0 := by rw [mkArena_eq]; decide +kernel
example : (memcmp ((mkArena 0 300 1).wr 270 255) 10 261 20).2 = some (-106) := by rw [mkArena_eq]; decide +kernel
example : (memcmp (((mkArena 0 300 1).wr 15 128).wr 266 127) 10 261 20).2 = some 1 := by rw [mkArena_eq]; decide +kernel

/-! ### the access logs are not idle -/
-- the logs record what happened: byte path = one load and one store per byte, in order; the word path logs all
-- 8 byte addresses of each word
example : (memcpy (mkArena 64 64 2) 65 100 3).1.rlog = [102, 101, 100] ∧
          (memcpy (mkArena 64 64 2) 65 100 3).1.wlog = [67, 66, 65] := by rw [mkArena_eq]; decide +kernel
example : (memmove (mkArena 64 128 1) 67 70 40).1.rlog.length = 40 ∧
          (memmove (mkArena 64 128 1) 67 70 40).1.wlog.length = 40 ∧
          109 ∈ (memmove (mkArena 64 128 1) 67 70 40).1.rlog ∧ 70 ∈ (memmove (mkArena 64 128 1) 67 70 40).1.rlog := by
  rw [mkArena_eq]; decide +kernel
example : (memset (mkArena 64 64 1) 67 (-2) 30).1.rlog = [] ∧ (memset (mkArena 64 64 1) 67 (-2) 30).1.wlog.length = 30 := by
  rw [mkArena_eq]; decide +kernel
-- memcmp of equal ranges loads all 2n bytes; it stops loading at the first difference
example : (memcmp (mkArena 0 300 1) 10 261 20).1.rlog.length = 40 := by rw [mkArena_eq]; decide +kernel
example : (memcmp ((mkArena 0 300 1).wr 270 255) 10 261 20).1.rlog = [270, 19, 269, 18, 268, 17, 267, 16, 266, 15, 265,
    14, 264, 13, 263, 12, 262, 11, 261, 10] := by rw [mkArena_eq]; decide +kernel
-- `Acc` is falsifiable: a word load that starts inside a 7-byte operand but runs one byte past its end (the
-- "`while p < end`" word loop) is NOT within the operand
example : ¬ Acc (mkArena 64 64 1) (noteWord (mkArena 64 64 1) 100) 100 107 0 0 := by
  intro h
  have := h.1 107 (by decide)
  revert this
  decide

end TinyVerif.MemFns
