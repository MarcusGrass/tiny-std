/-
C06 — Threads: stack mapping, thread-local block and join state are released exactly once in every order of
thread completion, panic, join and handle drop; never while a party can still touch them; never leaked; after
any number of threads the ledger is back at its baseline, plus one closure per panicked thread.

Same model, invariant and ties as C05 (`Model/Thread.lean`, `Proofs/ThreadInv.lean`, `Proofs/ThreadStep.lean`,
`Gen/ThreadSites.lean`, driver `drv_c05`).  Every theorem quantifies over all interleavings of the H/T/K steps
of any number of concurrently live thread instances (`Reachable`), i.e. over every ordering of
{returns, panics} × {joined, dropped before / while / after the thread finishes}.

About the CAS orderings (`gen_cas_orderings`): that exactly one side wins the flag is the atomicity of the RMW;
`AcqRel` on success is what the source has and what the model is pinned to.  In this protocol the memory the
loser frees is made safe to free by other edges: the H-side loser waits for the kernel's clear-tid wake (after
the thread's exit), the T-side loser frees after its own failed CAS and the winning handle never touches the
block again; neither needs the failure ordering (`Relaxed` in the source) to be stronger.
-/
import TinyVerif.Props.C05
namespace TinyVerif.Thread
open TinyVerif.Gen.Thread

/-- all three flag CAS sites (`casOk`, `goodCas` in Props/C05, tie T): a strong compare_exchange on the hand-over flag
with operands (false, true) — or a `swap(true)` / `fetch_or(true)`, which `goodCas` accepts as deciding the same thing —
and a success ordering that is at least Acquire and at least Release — stated with
`isAcq` / `isRel`, so a stronger ordering (or any failure ordering) in the source is accepted -/
theorem gen_cas_orderings : (casOk dropSites && casOk spawnSites && casOk panicSites) = true := by decide

/-! ## release_exactly_once -/

/-- **release_exactly_once**: in every complete execution of a spawned instance — whichever way it went, including
a panic that starts *inside the epilogue* (the destructor of the unread result, `tDropPanic`) — the shared block,
the thread-local block and the stack mapping have each been released exactly once, and the closure box exactly once
unless the thread panicked (its closure, or the destructor of its unread result), then never (it stays allocated:
the exception the property grants) -/
theorem release_exactly_once (c : Cfg) (hc : c.Good) (s : St) (h : Reachable c s) (i : Nat)
    (hcmp : complete (s.inst i) = true) (hsp : spawnedOk (s.inst i).h = true) :
    (s.inst i).tsm = .freed ∧ (s.inst i).tsmFrees = 1 ∧
    (s.inst i).tls = .freed ∧ (s.inst i).tlsFrees = 1 ∧
    (s.inst i).stack = .freed ∧ (s.inst i).stackFrees = 1 ∧
    ((s.inst i).panicked = false → (s.inst i).box = .freed ∧ (s.inst i).boxFrees = 1) ∧
    ((s.inst i).panicked = true → (s.inst i).box = .live ∧ (s.inst i).boxFrees = 0) ∧
    -- the closure's return value has left the runtime's hands (taken by join, or dropped with the handle)
    (s.inst i).val ≠ .live := by
  have inv := reachable_inv c hc s h i
  obtain ⟨hfin, hdead, hk⟩ := complete_spawned hcmp hsp
  have htsm : (s.inst i).tsm = .freed := by
    rw [inv.tsmEq]
    cases hh : (s.inst i).h <;> simp_all [hFinal, spawnedOk, tsmOf, hFreedTsm, tPastFlag]
    -- left: the detached handle, where the thread frees the block — H had won the flag
    case detached => exact inv.wH.mpr hh
  have htls : (s.inst i).tls = .freed := by rw [inv.tlsEq]; simp [tlsOf, hsp, hdead, tFreedTls]
  have hst : (s.inst i).stack = .freed := by rw [inv.stackEq]; simp [stackOf, hsp, hdead, tFreedStack]
  refine ⟨htsm, by rw [inv.tsmC, htsm]; rfl, htls, by rw [inv.tlsC, htls]; rfl, hst, by rw [inv.stackC, hst]; rfl, ?_, ?_, ?_⟩
  · intro hp
    have hb : (s.inst i).box = .freed := by rw [inv.boxEq]; simp [boxOf, hsp, hdead, tFreedBox, hp]
    exact ⟨hb, by rw [inv.boxC, hb]; rfl⟩
  · intro hp
    have hb : (s.inst i).box = .live := by rw [inv.boxEq]; simp [boxOf, hsp, hdead, tFreedBox, hp]
    exact ⟨hb, by rw [inv.boxC, hb]; rfl⟩
  · rw [inv.valEq]
    cases hd : (s.inst i).dpanic
    · cases hp : (s.inst i).panicked
      · cases hh : (s.inst i).h <;> simp_all [hFinal, spawnedOk, valOf, hReadDone, tPastFlag, tDropped, tRan]
        -- left: the detached handle, where the thread dropped the value — H had won the flag
        case detached => exact inv.wH.mpr hh
      · simp [valOf, hp, hd]
    · have hp := (inv.dpI hd).1
      simp [valOf, hp, hd, hdead, tRan]

/-- no resource is ever released twice, in any reachable state (complete or not) -/
theorem never_released_twice (c : Cfg) (hc : c.Good) (s : St) (h : Reachable c s) (i : Nat) :
    (s.inst i).tsmFrees ≤ 1 ∧ (s.inst i).tlsFrees ≤ 1 ∧ (s.inst i).stackFrees ≤ 1 ∧ (s.inst i).boxFrees ≤ 1 := by
  have inv := reachable_inv c hc s h i
  refine ⟨?_, ?_, ?_, ?_⟩
  · rw [inv.tsmC]; unfold cnt; split <;> omega
  · rw [inv.tlsC]; unfold cnt; split <;> omega
  · rw [inv.stackC]; unfold cnt; split <;> omega
  · rw [inv.boxC]; unfold cnt; split <;> omega

/-! ## no_use_after_release -/

/-- **no_use_after_release**: no step of any party ever touches or releases a resource that is not live — no
use after free, no double free, no touch before allocation (every step records its touches in `bad`) -/
theorem no_use_after_release (c : Cfg) (hc : c.Good) (s : St) (h : Reachable c s) (i : Nat) :
    (s.inst i).bad = false :=
  (reachable_inv c hc s h i).nbad

/-- the kernel's clear-tid write never lands in a freed block: whenever the kernel's exit step is enabled with a
non-null clear-tid address, the block is live — the handle frees only after observing the 0 (`kdone`), and the
thread nulls the address before it frees the block itself -/
theorem kernel_clear_hits_live_block (c : Cfg) (hc : c.Good) (s : St) (h : Reachable c s) (i : Nat) (x' : Inst)
    (hs : stepI c (s.inst i) .kExit = some x') (hct : (s.inst i).ctid = true) : (s.inst i).tsm = .live := by
  have inv := reachable_inv c hc s h i
  have hb : x'.bad = false := (stepI_inv c hc _ _ _ hs inv).nbad
  simp only [stepI, hct, if_true] at hs
  split at hs
  · split at hs <;> (simp only [Option.some.injEq] at hs; subst hs; simp [touchTsm, notLive, inv.nbad] at hb; exact hb)
  · simp at hs

/-- a thread that lost the CAS has reset its clear-tid address before it frees the block -/
theorem loser_thread_nulls_tid_first (c : Cfg) (hc : c.Good) (s : St) (h : Reachable c s) (i : Nat)
    (ht : (s.inst i).t = .freeTsm) : (s.inst i).ctid = false ∧ (s.inst i).winner = some .H ∧ (s.inst i).h = .detached := by
  have inv := reachable_inv c hc s h i
  have hw := inv.lost (by rw [ht]; rfl)
  exact ⟨inv.ctidI (Or.inl ht), hw, inv.wH.mp hw⟩

/-- the handle frees the block only after the kernel has finished the thread's exit -/
theorem handle_frees_after_exit (c : Cfg) (hc : c.Good) (s : St) (h : Reachable c s) (i : Nat) (x' : Inst)
    (hs : stepI c (s.inst i) .hFreeTsm = some x') : (s.inst i).kdone = true ∧ (s.inst i).t = .dead := by
  have inv := reachable_inv c hc s h i
  simp only [stepI] at hs
  split at hs
  · rename_i hh; have := inv.aw (by rw [hh]; rfl); exact ⟨this.1, inv.kd this.1⟩
  · split at hs
    · rename_i hh; have := inv.aw (by rw [hh]; rfl); exact ⟨this.1, inv.kd this.1⟩
    · simp at hs

/-- H never touches the block after winning the drop CAS: a detached handle has no step left -/
theorem detached_handle_is_done (c : Cfg) (x : Inst) (e : Ev) (hh : x.h = .detached) (he : isHEv e = true) :
    stepI c x e = none := by
  cases e <;> simp_all [stepI, isHEv]

/-- T performs no stack access after its munmap step: the only step left is `exit`, which touches nothing -/
theorem no_stack_access_after_munmap (c : Cfg) (x x' : Inst) (e : Ev) (ht : x.t = .exit) (hte : isHEv e = false)
    (hne : e ≠ .kExit) (hs : stepI c x e = some x') : e = .tExit ∧ x'.bad = x.bad ∧ x'.stack = x.stack := by
  cases e <;> simp_all [stepI, isHEv]
  all_goals (subst hs; exact ⟨rfl, rfl⟩)

/-- the panic handler has copied what it needs out of the thread-local block before it frees it: after the
release of tls no step of T touches tls (its remaining steps — CAS, set_tid_address, freeing tsm, munmap, exit —
work from the copy) -/
theorem tls_not_touched_after_release (c : Cfg) (hc : c.Good) (s s' : St) (h : Reachable c s) (i : Nat) (e : Ev)
    (hfreed : (s.inst i).tls = .freed) (hs : step c s i e = some s') : (s'.inst i).tls = .freed ∧ (s'.inst i).bad = false := by
  have inv' := reachable_inv c hc s' (h.step hs) i
  refine ⟨?_, inv'.nbad⟩
  -- the release counter never decreases, it is 1 already, and it counts whether tls is freed
  have hmono := (stepI_frame c _ _ e (step_self c s s' i e hs)).2.1
  have h1 : (s.inst i).tlsFrees = 1 := by rw [(reachable_inv c hc s h i).tlsC, hfreed]; rfl
  have h2 := inv'.tlsC
  unfold cnt at h2
  split at h2
  · assumption
  · omega

/-! ## exactly_one_freer -/

/-- **exactly_one_freer**: the flag is flipped by exactly one side, and the side that did *not* flip it is the
one that frees the shared block: a detached (winning) handle means the thread frees, a winning thread means the
handle frees (after join or after its lost drop), and never both -/
theorem exactly_one_freer (c : Cfg) (hc : c.Good) (s : St) (h : Reachable c s) (i : Nat) :
    -- one winner at most, recorded in the flag
    ((s.inst i).flag = true ↔ (s.inst i).winner ≠ none) ∧
    -- H won ⇒ H is detached for good and T is (or will be) the one that frees
    ((s.inst i).winner = some .H ↔ (s.inst i).h = .detached) ∧
    ((s.inst i).h = .detached → hFreedTsm (s.inst i).h = false) ∧
    -- T lost ⇒ H had won
    (tLost (s.inst i).t = true → (s.inst i).winner = some .H) ∧
    -- H on the path that frees after a lost CAS ⇒ T had won
    (hLostPath (s.inst i).h = true → (s.inst i).winner = some .T) ∧
    -- in a complete execution: who freed
    (complete (s.inst i) = true → spawnedOk (s.inst i).h = true →
       ((s.inst i).h = .detached ∧ (s.inst i).winner = some .H) ∨
       ((s.inst i).h = .dropped ∧ (s.inst i).winner = some .T) ∨
       ((s.inst i).h = .joined ∧ (s.inst i).winner = some .T)) := by
  have inv := reachable_inv c hc s h i
  refine ⟨?_, inv.wH, ?_, inv.lost, inv.dpath, ?_⟩
  · constructor
    · intro hf; rcases inv.flagT hf with h1 | h1 <;> simp [h1]
    · intro hw
      cases hf : (s.inst i).flag
      · exact absurd (inv.flagF hf) hw
      · rfl
  · intro hd; rw [hd]; rfl
  · intro hcmp hsp
    obtain ⟨hfin, hdead, hk⟩ := complete_spawned hcmp hsp
    have hflag : (s.inst i).flag = true := inv.pastW (by rw [hdead]; rfl)
    cases hh : (s.inst i).h <;> simp_all [hFinal, spawnedOk]
    · -- joined: the winner is not H (H is not detached), and the flag is set
      rcases inv.flagT hflag with h1 | h1
      · have := inv.wH.mp h1; rw [hh] at this; cases this
      · exact h1
    · exact inv.wH.mpr hh
    · exact inv.dpath (by rw [hh]; rfl)

/-! ## baseline_restored -/

/-- what a finished instance leaves behind -/
def leaked (x : Inst) : Nat := b2n (spawnedOk x.h && x.panicked)

/-- the ledger of a complete instance: nothing live but, for a spawned thread that panicked, its closure -/
theorem baseline_pointwise (c : Cfg) (hc : c.Good) (s : St) (h : Reachable c s) (i : Nat)
    (hcmp : complete (s.inst i) = true) :
    (s.inst i).tsm ≠ .live ∧ (s.inst i).tls ≠ .live ∧ (s.inst i).stack ≠ .live ∧ (s.inst i).val ≠ .live ∧
    ((s.inst i).box = .live ↔ (spawnedOk (s.inst i).h = true ∧ (s.inst i).panicked = true)) := by
  have inv := reachable_inv c hc s h i
  cases hsp : spawnedOk (s.inst i).h
  · -- spawn failed: everything that had been set up is released again
    obtain ⟨cl, hh⟩ : ∃ cl, (s.inst i).h = .failed cl := by
      cases hh : (s.inst i).h <;> simp_all [complete, hFinal, spawnedOk]
    obtain ⟨_, h1, h4, h2, h3, h5⟩ := inv.failed hh
    cases cl <;> simp [h1, h2, h3, h4, h5]
  · obtain ⟨a1, _, a3, _, a5, _, a7, a8, a9⟩ := release_exactly_once c hc s h i hcmp hsp
    cases hp : (s.inst i).panicked
    · have := (a7 hp).1; simp [a1, a3, a5, this, a9]
    · have := (a8 hp).1; simp [a1, a3, a5, this, a9]

theorem complete_ledger (c : Cfg) (hc : c.Good) (s : St) (h : Reachable c s) (i : Nat)
    (hcmp : complete (s.inst i) = true) : liveHeap (s.inst i) = leaked (s.inst i) ∧ liveMaps (s.inst i) = 0 := by
  obtain ⟨h1, h2, h3, h0, h4⟩ := baseline_pointwise c hc s h i hcmp
  have dead : ∀ {r : RSt}, r ≠ .live → b2n (r == .live) = 0 := fun hr => by simp [b2n, hr]
  have hbox : ((s.inst i).box == .live) = (spawnedOk (s.inst i).h && (s.inst i).panicked) := by
    rw [Bool.eq_iff_iff]; simpa using h4
  simp only [liveHeap, liveMaps, leaked, dead h1, dead h2, dead h3, dead h0, hbox, Nat.zero_add, Nat.add_zero, and_self]

theorem init_ledger : liveHeap Inst.init = 0 ∧ liveMaps Inst.init = 0 ∧ leaked Inst.init = 0 := by decide

/-- **baseline_restored**: once every instance among the first `n` is either untouched or complete — after any
number of threads, in any mixture of returns, panics, joins and drops, however they were interleaved — the number
of live heap blocks equals the number of panicked threads (their closures) and no stack mapping is left -/
theorem baseline_restored (c : Cfg) (hc : c.Good) (s : St) (h : Reachable c s) (n : Nat)
    (hall : ∀ i, i < n → complete (s.inst i) = true ∨ s.inst i = Inst.init) :
    sumTo (fun i => liveHeap (s.inst i)) n = sumTo (fun i => leaked (s.inst i)) n ∧
    sumTo (fun i => liveMaps (s.inst i)) n = 0 := by
  induction n with
  | zero => simp [sumTo]
  | succ k ih =>
    have ihk := ih (fun i hi => hall i (by omega))
    have hk : liveHeap (s.inst k) = leaked (s.inst k) ∧ liveMaps (s.inst k) = 0 := by
      rcases hall k (by omega) with h1 | h1
      · exact complete_ledger c hc s h k h1
      · rw [h1]; exact ⟨init_ledger.1.trans init_ledger.2.2.symm, init_ledger.2.1⟩
    simp only [sumTo]
    omega

/-! ## the orderings of completion, panic, join and drop all occur (non-vacuity) -/

def spawnOkTrace (i : Nat) : List (Nat × Ev) :=
  [(i, .hAllocTsm), (i, .hBox), (i, .hMmap true), (i, .hAllocTls), (i, .hClone true)]

/-- handle dropped first (H wins), thread returns later and frees the block after nulling its tid address -/
def dropFirstTrace : List (Nat × Ev) :=
  spawnOkTrace 0 ++ [(0, .hDrop), (0, .hCas true), (0, .tRet 5), (0, .tWrite), (0, .tCas false), (0, .tSetTid), (0, .tDropVal),
    (0, .tFreeTsm), (0, .tFreeTls), (0, .tFreeBox), (0, .tMunmap), (0, .tExit), (0, .kExit)]

/-- the same order on the code before commit d26787e (no drop of the unread result) -/
def dropFirstTraceOld : List (Nat × Ev) :=
  spawnOkTrace 0 ++ [(0, .hDrop), (0, .hCas true), (0, .tRet 5), (0, .tWrite), (0, .tCas false), (0, .tSetTid),
    (0, .tFreeTsm), (0, .tFreeTls), (0, .tFreeBox), (0, .tMunmap), (0, .tExit), (0, .kExit)]

/-- handle dropped first, the closure returns, the destructor of the unread result panics on the thread: the panic
handler runs from the middle of the epilogue — tls read and freed, CAS lost again, clear-tid reset again, block freed -/
def dropPanicTrace : List (Nat × Ev) :=
  spawnOkTrace 0 ++ [(0, .hDrop), (0, .hCas true), (0, .tRet 5), (0, .tWrite), (0, .tCas false), (0, .tSetTid), (0, .tDropPanic),
    (0, .tPanicRead), (0, .tFreeTls), (0, .tCas false), (0, .tSetTid), (0, .tFreeTsm), (0, .tMunmap), (0, .tExit), (0, .kExit)]

/-- thread finishes first (T wins), handle dropped while the thread is still exiting: parks, woken by the kernel -/
def dropLateTrace : List (Nat × Ev) :=
  spawnOkTrace 0 ++ [(0, .tRet 5), (0, .tWrite), (0, .tCas true), (0, .hDrop), (0, .hCas false), (0, .hLoad 1), (0, .hFwait true),
    (0, .tFreeTls), (0, .tFreeBox), (0, .tMunmap), (0, .tExit), (0, .kExit), (0, .hLoad 0), (0, .hFreeTsm)]

/-- panicking thread, handle dropped after the thread is gone (fast path: the load already sees 0) -/
def panicDropAfterTrace : List (Nat × Ev) :=
  spawnOkTrace 0 ++ [(0, .tPanic), (0, .tPanicRead), (0, .tFreeTls), (0, .tCas true), (0, .tMunmap), (0, .tExit), (0, .kExit),
    (0, .hDrop), (0, .hCas false), (0, .hLoad 0), (0, .hFreeTsm)]

def summary (tr : List (Nat × Ev)) : Option (Bool × Bool × Nat × Nat × Option Party) :=
  (run genCfg St.init tr).map (fun s => (complete (s.inst 0), (s.inst 0).bad, liveHeap (s.inst 0), liveMaps (s.inst 0), (s.inst 0).winner))

example : summary dropFirstTrace = some (true, false, 0, 0, some .H) := by decide
example : summary dropLateTrace = some (true, false, 0, 0, some .T) := by decide
example : summary panicDropAfterTrace = some (true, false, 1, 0, some .T) := by decide
example : summary dropPanicTrace = some (true, false, 1, 0, some .H) := by decide

/-- spawn.rs before the repair: a handle dropped without join never dropped the thread's return value -/
def noDropCfg : Cfg := { genCfg with dropValH := false, dropValT := false }

/-- **dropped_handle_leaks_result_counterexample**: as the code was, with the handle dropped (whichever side wins the
flag) the value the closure returned is never dropped — its destructor does not run and whatever it owns stays
allocated, so the heap is not back at its baseline although nothing panicked -/
theorem dropped_handle_leaks_result_counterexample :
    ((run noDropCfg St.init dropLateTrace).map (fun s => (complete (s.inst 0), (s.inst 0).val, liveHeap (s.inst 0))) =
      some (true, .live, 1)) ∧
    ((run noDropCfg St.init dropFirstTraceOld).map (fun s => (complete (s.inst 0), (s.inst 0).val, liveHeap (s.inst 0))) =
      some (true, .live, 1)) := by decide

/-- the protections are needed: without `set_tid_address(0)` the kernel's clear-tid write lands in the block the
losing thread has already freed -/
theorem missing_set_tid_is_use_after_free :
    (run { genCfg with setTidRet := false } St.init
      (spawnOkTrace 0 ++ [(0, .hDrop), (0, .hCas true), (0, .tRet 5), (0, .tWrite), (0, .tCas false), (0, .tDropVal), (0, .tFreeTsm),
        (0, .tFreeTls), (0, .tFreeBox), (0, .tMunmap), (0, .tExit), (0, .kExit)])).map (fun s => (s.inst 0).bad) = some true := by
  decide

/-! ## a panic that starts inside the epilogue: the destructor of the unread result -/

/-- the only point of the thread's epilogue at which user code runs is `dropVal` (`drop_in_place` of the result nobody
joined).  **At that point the thread has released nothing yet**: block, thread-local block, stack and closure box
are live with release counters 0, the value is still there, the handle is detached for good and the clear-tid
address is already null.  This is what makes it safe for `on_panic` to start from there and do every release
itself — an epilogue that had released the thread-local block (or the block) *before* this point would see that
release repeated by the panic handler -/
theorem destructor_runs_before_any_release (c : Cfg) (hc : c.Good) (s : St) (h : Reachable c s) (i : Nat)
    (ht : (s.inst i).t = .dropVal) :
    (s.inst i).tsm = .live ∧ (s.inst i).tls = .live ∧ (s.inst i).stack = .live ∧ (s.inst i).box = .live ∧
    (s.inst i).val = .live ∧ (s.inst i).slot ≠ none ∧
    (s.inst i).tsmFrees = 0 ∧ (s.inst i).tlsFrees = 0 ∧ (s.inst i).stackFrees = 0 ∧ (s.inst i).boxFrees = 0 ∧
    (s.inst i).h = .detached ∧ (s.inst i).ctid = false ∧ (s.inst i).panicked = false := by
  have inv := reachable_inv c hc s h i
  have hw := inv.lost (by rw [ht]; rfl)
  have hdet := inv.wH.mp hw
  have hp : (s.inst i).panicked = false := by
    have := inv.pOK; rw [ht] at this; simpa [tOkP] using this
  have hdp : (s.inst i).dpanic = false := by
    cases hd : (s.inst i).dpanic
    · rfl
    · rw [(inv.dpI hd).1] at hp; cases hp
  have hslot : (s.inst i).slot ≠ none := by
    intro h0
    have := (inv.ret2 (by rw [ht]; rfl)).2.mpr h0
    rw [hp] at this; cases this.1
  have h1 : (s.inst i).tsm = .live := by rw [inv.tsmEq]; simp [tsmOf, hdet, hFreedTsm, ht, tPastFlag]
  have h2 : (s.inst i).tls = .live := by rw [inv.tlsEq]; simp [tlsOf, hdet, spawnedOk, ht, tFreedTls]
  have h3 : (s.inst i).stack = .live := by rw [inv.stackEq]; simp [stackOf, hdet, spawnedOk, ht, tFreedStack]
  have h4 : (s.inst i).box = .live := by rw [inv.boxEq]; simp [boxOf, hdet, spawnedOk, ht, tFreedBox]
  have h5 : (s.inst i).val = .live := by
    rw [inv.valEq]; simp [valOf, hp, hdp, ht, tRan, hdet, hReadDone, tDropped, tPastFlag]
  refine ⟨h1, h2, h3, h4, h5, hslot, by rw [inv.tsmC, h1]; rfl, by rw [inv.tlsC, h2]; rfl, by rw [inv.stackC, h3]; rfl,
    by rw [inv.boxC, h4]; rfl, hdet, inv.ctidI (Or.inr (Or.inl ht)), hp⟩

/-- the destructor-panic step is enabled exactly there, and it enters the panic handler with everything still live -/
theorem destructor_panic_enters_handler (c : Cfg) (hc : c.Good) (s : St) (h : Reachable c s) (i : Nat) (x' : Inst)
    (hs : stepI c (s.inst i) .tDropPanic = some x') :
    (s.inst i).t = .dropVal ∧ x'.t = .pRead ∧ x'.panicked = true ∧ x'.dpanic = true ∧ x'.bad = false ∧
    x'.tsm = .live ∧ x'.tls = .live ∧ x'.stack = .live ∧ x'.val = .freed := by
  have inv' := stepI_inv c hc _ _ _ hs (reachable_inv c hc s h i)
  have ht : (s.inst i).t = .dropVal := by
    simp only [stepI] at hs; split at hs
    · assumption
    · simp at hs
  obtain ⟨a1, a2, a3, _, a5, a6, _⟩ := destructor_runs_before_any_release c hc s h i ht
  simp only [stepI, ht, if_true, a6, if_false] at hs
  simp only [Option.some.injEq] at hs
  subst hs
  have hnb := (reachable_inv c hc s h i).nbad
  refine ⟨ht, ?_, ?_, ?_, ?_, ?_, ?_, ?_, ?_⟩ <;> simp [takeVal, a6, touchTsm, touchStack, a1, a2, a3, a5, notLive, hnb]

/-- **release_exactly_once under a panicking destructor**: every complete execution in which the destructor of the
unread result panicked on the thread has released block, thread-local block and stack exactly once each (all by the
panic handler), never touched anything released, ran the destructor once, and leaves exactly the closure box behind -/
theorem destructor_panic_release_exactly_once (c : Cfg) (hc : c.Good) (s : St) (h : Reachable c s) (i : Nat)
    (hcmp : complete (s.inst i) = true) (hdp : (s.inst i).dpanic = true) :
    (s.inst i).h = .detached ∧ (s.inst i).panicked = true ∧ (s.inst i).bad = false ∧
    (s.inst i).tsmFrees = 1 ∧ (s.inst i).tlsFrees = 1 ∧ (s.inst i).stackFrees = 1 ∧ (s.inst i).boxFrees = 0 ∧
    (s.inst i).val = .freed ∧ liveHeap (s.inst i) = 1 ∧ liveMaps (s.inst i) = 0 ∧
    -- the closure did return its value: the panic is not the closure's
    (∃ v, (s.inst i).ret = some (some v)) ∧ (s.inst i).joinRes = none := by
  have inv := reachable_inv c hc s h i
  obtain ⟨hp, hw, hpw, hran⟩ := inv.dpI hdp
  have hdet := inv.wH.mp hw
  have hsp : spawnedOk (s.inst i).h = true := by rw [hdet]; rfl
  obtain ⟨_, b2, _, b4, _, b6, _, b8, _⟩ := release_exactly_once c hc s h i hcmp hsp
  have hval : (s.inst i).val = .freed := by rw [inv.valEq]; simp [valOf, hp, hdp, hran]
  have hled := complete_ledger c hc s h i hcmp
  have hret := inv.ret2 hpw
  have hslot : (s.inst i).slot ≠ none := by
    intro h0; have := hret.2.mpr h0; rw [hdp] at this; cases this.2
  refine ⟨hdet, hp, inv.nbad, b2, b4, b6, (b8 hp).2, hval, ?_, hled.2, ?_, ?_⟩
  · rw [hled.1]; simp [leaked, hsp, hp, b2n]
  · cases hs : (s.inst i).slot with
    | none => exact absurd hs hslot
    | some v => exact ⟨v, by rw [hret.1, hs]⟩
  · rw [inv.joinI]; simp [hdet, hReadDone]

/-- non-vacuity: that execution exists (`dropPanicTrace`), and its ledger is the one the theorem states -/
example : (run genCfg St.init dropPanicTrace).map (fun s =>
    (complete (s.inst 0) && (s.inst 0).dpanic && !(s.inst 0).bad && (s.inst 0).val == .freed,
     (s.inst 0).tsmFrees, (s.inst 0).tlsFrees, (s.inst 0).stackFrees, (s.inst 0).boxFrees)) = some (true, 1, 1, 1, 0) := by decide

/-! ## nested families: spawned threads that spawn, join and drop threads themselves

`Model/Thread` Part 3 attributes the handle side of an instance to the thread that executes it (`Topo.owner`), and
lets a handle-side `set_tid_address` hit the executing thread.  For the source as it is (`Topo.Good`, re-derived by
`gen_topo_good`) every state of a nested family — any forest, any depth — is a state of the flat family
(`reachableN_reachable`), so the C06 theorems hold for it; the variants in which the reset sits in handle-side code
leak the join state of the spawner (`caller_settid_breaks_join`, Props/C05). -/

theorem release_exactly_once_nested (c : Cfg) (hc : c.Good) (tp : Topo) (htp : tp.Good) (s : St) (h : ReachableN c tp s) (i : Nat)
    (hcmp : complete (s.inst i) = true) (hsp : spawnedOk (s.inst i).h = true) :
    (s.inst i).tsm = .freed ∧ (s.inst i).tsmFrees = 1 ∧
    (s.inst i).tls = .freed ∧ (s.inst i).tlsFrees = 1 ∧
    (s.inst i).stack = .freed ∧ (s.inst i).stackFrees = 1 ∧
    ((s.inst i).panicked = false → (s.inst i).box = .freed ∧ (s.inst i).boxFrees = 1) ∧
    ((s.inst i).panicked = true → (s.inst i).box = .live ∧ (s.inst i).boxFrees = 0) ∧
    (s.inst i).val ≠ .live :=
  release_exactly_once c hc s (reachableN_reachable c tp htp s h) i hcmp hsp

theorem never_released_twice_nested (c : Cfg) (hc : c.Good) (tp : Topo) (htp : tp.Good) (s : St) (h : ReachableN c tp s) (i : Nat) :
    (s.inst i).tsmFrees ≤ 1 ∧ (s.inst i).tlsFrees ≤ 1 ∧ (s.inst i).stackFrees ≤ 1 ∧ (s.inst i).boxFrees ≤ 1 :=
  never_released_twice c hc s (reachableN_reachable c tp htp s h) i

theorem no_use_after_release_nested (c : Cfg) (hc : c.Good) (tp : Topo) (htp : tp.Good) (s : St) (h : ReachableN c tp s) (i : Nat) :
    (s.inst i).bad = false :=
  no_use_after_release c hc s (reachableN_reachable c tp htp s h) i

theorem baseline_restored_nested (c : Cfg) (hc : c.Good) (tp : Topo) (htp : tp.Good) (s : St) (h : ReachableN c tp s) (n : Nat)
    (hall : ∀ i, i < n → complete (s.inst i) = true ∨ s.inst i = Inst.init) :
    sumTo (fun i => liveHeap (s.inst i)) n = sumTo (fun i => leaked (s.inst i)) n ∧
    sumTo (fun i => liveMaps (s.inst i)) n = 0 :=
  baseline_restored c hc s (reachableN_reachable c tp htp s h) n hall

/-- the kernel's clear-tid write of a nested thread lands in a live block, and it does happen: a spawned thread that was
the handle side of others still has its clear-tid address when it exits with its handle alive (T won the hand-over) -/
theorem nested_exit_clears_own_word (c : Cfg) (hc : c.Good) (tp : Topo) (htp : tp.Good) (s : St) (h : ReachableN c tp s) (j : Nat)
    (hd : (s.inst j).t = .dead) (hw : (s.inst j).winner = some .T) : (s.inst j).ctid = true := by
  cases hcc : (s.inst j).ctid
  · have := (clear_tid_intact_nested c hc tp htp s h j (by rw [hd]; simp) hcc).1
    rw [hw] at this; cases this
  · rfl

/-- a three-level family runs to completion with a clean ledger: main → 0 → 1 → 2; 2 is dropped at once by 1 (frees its own
block), 1 is joined by 0, 0 panics after that and is joined by main (None); one closure (0's) is what remains -/
def threeLevelTopo : Topo := genTopo (fun i => if i = 1 then some 0 else if i = 2 then some 1 else none)
def threeLevelTrace : List (Nat × Ev) :=
  spawnOkTrace 0 ++ spawnOkTrace 1 ++ spawnOkTrace 2 ++
  [(2, .hDrop), (2, .hCas true), (2, .tRet 9), (2, .tWrite), (2, .tCas false), (2, .tSetTid), (2, .tDropVal), (2, .tFreeTsm),
   (2, .tFreeTls), (2, .tFreeBox), (2, .tMunmap), (2, .tExit), (2, .kExit),
   (1, .tRet 5), (1, .tWrite), (1, .tCas true), (1, .hJoin), (1, .hLoad 1), (1, .hFwait true),
   (1, .tFreeTls), (1, .tFreeBox), (1, .tMunmap), (1, .tExit), (1, .kExit), (1, .hLoad 0), (1, .hReadSlot), (1, .hFreeTsm),
   (0, .tPanic), (0, .tPanicRead), (0, .tFreeTls), (0, .tCas true), (0, .tMunmap), (0, .tExit), (0, .kExit),
   (0, .hJoin), (0, .hLoad 0), (0, .hReadSlot), (0, .hFreeTsm)]

example : (runN genCfg threeLevelTopo St.init threeLevelTrace).map (fun s =>
    (complete (s.inst 0) && complete (s.inst 1) && complete (s.inst 2), (s.inst 1).joinRes, (s.inst 0).joinRes,
     (s.inst 0).bad || (s.inst 1).bad || (s.inst 2).bad, liveHeap (s.inst 0) + liveHeap (s.inst 1) + liveHeap (s.inst 2))) =
    some (true, some (some 5), some none, false, 1) := by decide

/-! ## fixed-extent mappings

The ledger treats the stack mapping as one resource with one extent: `hMmap true` makes `stack` live, the thread's own
`munmap(addr, len)` — the very pair the mmap returned / was asked for — releases *all* of it.  That is the kernel's
behaviour only for mappings whose extent nothing but munmap / mremap changes: private anonymous memory at an address
the kernel chose.  It is not for `MAP_GROWSDOWN` (the kernel extends the area downwards on a fault just below it: the
part that grew is not covered by `munmap(addr, len)` and stays mapped for ever), for `MAP_HUGETLB` / `MAP_HUGE_*`
(length rounded up to the huge page size), for `MAP_FIXED` / `MAP_FIXED_NOREPLACE` (the address is the caller's, an
existing mapping may be replaced) or for shared / file mappings.  So the flag word of the stack mmap — re-extracted from
the source on every run (`Gen.Thread.stackMapFlags`), and compared with the flag word of every stack mmap the running
code issues — must lie inside the set below.  (That no mremap / brk ever touches a stack range, and that each stack is
unmapped with exactly its own (addr, len), is observed on every run by the probe's oracles.) -/

/-- MAP_PRIVATE, MAP_ANONYMOUS and the flags that change neither address choice nor extent:
MAP_LOCKED, MAP_NORESERVE, MAP_POPULATE, MAP_NONBLOCK, MAP_STACK (a no-op hint on Linux) -/
abbrev fixedExtentFlags : Nat := 0x2 ||| 0x20 ||| 0x2000 ||| 0x4000 ||| 0x8000 ||| 0x10000 ||| 0x20000

def fixedExtent (f : Nat) : Bool :=
  (f ||| fixedExtentFlags == fixedExtentFlags) && (f &&& 0x2 == 0x2) && (f &&& 0x20 == 0x20)

/-- **the stack is a fixed-extent mapping**: private, anonymous, kernel-chosen address, no flag under which the kernel
may change what `mmap(len)` mapped -/
theorem gen_stack_mapping_fixed_extent : fixedExtent Gen.Thread.stackMapFlags = true := by decide

example : fixedExtent 0x22 = true ∧ fixedExtent 0x20022 = true := by decide
/-- MAP_GROWSDOWN (0x100), MAP_HUGETLB (0x40000), MAP_FIXED (0x10), MAP_SHARED (0x1) are outside -/
example : fixedExtent 0x20122 = false ∧ fixedExtent 0x40022 = false ∧ fixedExtent 0x32 = false ∧ fixedExtent 0x21 = false := by decide

end TinyVerif.Thread
