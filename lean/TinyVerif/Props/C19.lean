/-
C19 — time arithmetic is exact or None and never panics.
Property theorems about `TinyVerif.Model.Time`.  The model is tied to the source twice:
 * tie T (section "tie T" below): `Gen/TimePure.lean` is regenerated on every run by checks/time_extract.py from
   the Rust TEXT of tiny-std/src/time.rs and rusl/src/platform/compat/time.rs; the `gen_agrees_*` theorems prove
   that the translated public entry points EQUAL the model's functions for all `TimeSpec`s (both fields any i64)
   and all `Duration`s, both build profiles — so every theorem below holds of what the source says now
   (`src_*` corollaries), and an edit of the arithmetic breaks a proof obligation;
 * the correspondence run of `bin/check C19` (model, generated definitions and the real code on the same inputs).

Every theorem quantifies over *all* values of its arguments that satisfy the stated
(decidable, satisfiable — see the `example`s) well-formedness predicates; `rel` is the
build profile (debug: plain `+`/`-` panic on overflow; release: they wrap) and every
statement holds for both.
-/
import TinyVerif.Model.Time
import TinyVerif.Proofs.TimeLemmas
import TinyVerif.Gen.TimePure
set_option linter.unusedVariables false
namespace TinyVerif.Time

/-- exact value in nanoseconds -/
def nanosTS (t : TS) : Int := t.sec * NANOS + t.nsec
def nanosDur (d : Dur) : Int := d.secs * NANOS + d.nanos

/-- a normalised timespec whose seconds are a valid i64 -/
def NormTS (t : TS) : Prop := I64_MIN ≤ t.sec ∧ t.sec ≤ I64_MAX ∧ 0 ≤ t.nsec ∧ t.nsec < NANOS
/-- a `core::time::Duration` -/
def NormDur (d : Dur) : Prop := 0 ≤ d.secs ∧ d.secs ≤ U64_MAX ∧ 0 ≤ d.nanos ∧ d.nanos < NANOS

/-- unfold the model into its tree of range checks, one goal per leaf with the path conditions as hypotheses,
decide the arithmetic -/
macro "time_crush" "[" ps:Lean.Parser.Tactic.simpLemma,* "]" : tactic => `(tactic|
  (simp only [checkedAddDur, checkedSubDur, subTsCheckedDur, durNew, ckI64, ckU64, tryI64, tryU64, tryU32,
      plainI64, bind_val, bind_none, bind_panic, pure_eq, bind_ite]
   repeat' refine post_ite (fun _ => ?_) (fun _ => ?_)
   all_goals simp only [$ps,*, asU64, asU32, wrapI64, nanosTS, nanosDur, NormTS, NormDur, inI64, inU64, inU32,
      I64_MIN, I64_MAX, U64_MAX, U32_MAX, TWO64, TWO32, NANOS] at *
   all_goals first | omega | (intro _ _; omega) | (intro _; omega)))

/-! ## add -/

/-- post-condition of `t + d` -/
def AddPost (t : TS) (d : Dur) : R TS → Prop
  | .val r => NormTS r ∧ nanosTS r = nanosTS t + nanosDur d
  | .none => 0 ≤ t.sec → (nanosTS t + nanosDur d) / NANOS > I64_MAX
  | .panic => False

/-- **add**: `t + d` never panics (for every `t.sec` in the whole i64 range, incl. negative `SystemTime`s);
`some r` is normalised and exactly `t + d`; for `t` at or after the epoch `None` is returned exactly when the
exact sum's whole seconds exceed `i64::MAX`. -/
theorem add_exact (rel : Bool) (t : TS) (d : Dur) (ht : NormTS t) (hd : NormDur d) :
    AddPost t d (checkedAddDur rel t d) := by
  time_crush [AddPost]

/-- conversely, `Some` whenever the exact sum is representable (t at or after the epoch) -/
theorem add_complete (rel : Bool) (t : TS) (d : Dur) (ht : NormTS t) (hd : NormDur d) (h0 : 0 ≤ t.sec)
    (hfit : (nanosTS t + nanosDur d) / NANOS ≤ I64_MAX) :
    ∃ r, checkedAddDur rel t d = .val r := by
  have h := add_exact rel t d ht hd
  cases hc : checkedAddDur rel t d with
  | val r => exact ⟨r, rfl⟩
  | none => rw [hc] at h; simp only [AddPost] at h; have := h h0; omega
  | panic => rw [hc] at h; exact h.elim

/-- outside the property's exactness domain (negative seconds) `None` may be conservative: recorded, not hidden -/
example : checkedAddDur false ⟨I64_MIN, 0⟩ ⟨9223372036854775808, 0⟩ = .none := by decide

/-! ## sub -/

def SubPost (t : TS) (d : Dur) : R TS → Prop
  | .val r => NormTS r ∧ 0 ≤ r.sec ∧ nanosTS r = nanosTS t - nanosDur d
  | .none => nanosTS t - nanosDur d < 0
  | .panic => False

/-- **sub**: `t - d` never panics; `some r` is normalised, non-negative and exactly `t - d`;
`None` exactly when the exact result is negative. -/
theorem sub_exact (rel : Bool) (t : TS) (d : Dur) (ht : NormTS t) (hd : NormDur d) :
    SubPost t d (checkedSubDur rel t d) := by
  time_crush [SubPost]

theorem sub_complete (rel : Bool) (t : TS) (d : Dur) (ht : NormTS t) (hd : NormDur d)
    (hfit : 0 ≤ nanosTS t - nanosDur d) : ∃ r, checkedSubDur rel t d = .val r := by
  have h := sub_exact rel t d ht hd
  cases hc : checkedSubDur rel t d with
  | val r => exact ⟨r, rfl⟩
  | none => rw [hc] at h; simp only [SubPost] at h; omega
  | panic => rw [hc] at h; exact h.elim

/-! ## difference of two time values -/

def DiffPost (l r : TS) : R Dur → Prop
  | .val δ => NormDur δ ∧ nanosDur δ = nanosTS l - nanosTS r
  | .none => (0 ≤ l.sec → 0 ≤ r.sec → nanosTS l - nanosTS r < 0)
  | .panic => False

/-- **diff**: `l - r` never panics (whole i64 range); `some δ` is a valid Duration and exactly `l - r`;
for values at or after the epoch `None` exactly when the difference is negative. -/
theorem diff_exact (rel : Bool) (l r : TS) (hl : NormTS l) (hr : NormTS r) :
    DiffPost l r (subTsCheckedDur rel l r) := by
  time_crush [DiffPost]

theorem diff_complete (rel : Bool) (l r : TS) (hl : NormTS l) (hr : NormTS r) (h0 : 0 ≤ l.sec) (h1 : 0 ≤ r.sec)
    (hge : 0 ≤ nanosTS l - nanosTS r) : ∃ δ, subTsCheckedDur rel l r = .val δ := by
  have h := diff_exact rel l r hl hr
  cases hc : subTsCheckedDur rel l r with
  | val δ => exact ⟨δ, rfl⟩
  | none => rw [hc] at h; simp only [DiffPost] at h; have := h h0 h1; omega
  | panic => rw [hc] at h; exact h.elim

/-! ## normalised values are determined by their nanosecond count -/

theorem ts_ext_of_nanos (a b : TS) (ha : NormTS a) (hb : NormTS b) (h : nanosTS a = nanosTS b) : a = b := by
  cases a; cases b
  simp only [NormTS, nanosTS, NANOS, I64_MIN, I64_MAX] at *
  simp only [TS.mk.injEq]; omega

theorem dur_ext_of_nanos (a b : Dur) (ha : NormDur a) (hb : NormDur b) (h : nanosDur a = nanosDur b) : a = b := by
  cases a; cases b
  simp only [NormDur, nanosDur, NANOS, U64_MAX] at *
  simp only [Dur.mk.injEq]; omega

/-! ## cancellation laws -/

/-- `(t + d) - d = t` -/
theorem add_sub_cancel (rel : Bool) (t r : TS) (d : Dur) (ht : NormTS t) (hd : NormDur d) (h0 : 0 ≤ t.sec)
    (h : checkedAddDur rel t d = .val r) : checkedSubDur rel r d = .val t := by
  have ha := add_exact rel t d ht hd
  rw [h] at ha; simp only [AddPost] at ha
  obtain ⟨hr, he⟩ := ha
  have hfit : 0 ≤ nanosTS r - nanosDur d := by
    simp only [NormTS, nanosTS, NANOS] at *; omega
  obtain ⟨q, hq⟩ := sub_complete rel r d hr hd hfit
  have hs := sub_exact rel r d hr hd
  rw [hq] at hs; simp only [SubPost] at hs
  rw [hq]; congr 1
  exact ts_ext_of_nanos q t hs.1 ht (by omega)

/-- `(t + d) - t = d` -/
theorem add_diff_cancel (rel : Bool) (t r : TS) (d : Dur) (ht : NormTS t) (hd : NormDur d) (h0 : 0 ≤ t.sec)
    (h : checkedAddDur rel t d = .val r) : subTsCheckedDur rel r t = .val d := by
  have ha := add_exact rel t d ht hd
  rw [h] at ha; simp only [AddPost] at ha
  obtain ⟨hr, he⟩ := ha
  have hr0 : 0 ≤ r.sec := by
    simp only [NormTS, NormDur, nanosTS, nanosDur, NANOS] at *; omega
  have hge : 0 ≤ nanosTS r - nanosTS t := by
    simp only [NormDur, nanosDur, NANOS] at *; omega
  obtain ⟨q, hq⟩ := diff_complete rel r t hr ht hr0 h0 hge
  have hs := diff_exact rel r t hr ht
  rw [hq] at hs; simp only [DiffPost] at hs
  rw [hq]; congr 1
  exact dur_ext_of_nanos q d hs.1 hd (by omega)

/-- `(t - d) + d = t` -/
theorem sub_add_cancel (rel : Bool) (t r : TS) (d : Dur) (ht : NormTS t) (hd : NormDur d)
    (h : checkedSubDur rel t d = .val r) : checkedAddDur rel r d = .val t := by
  have hs := sub_exact rel t d ht hd
  rw [h] at hs; simp only [SubPost] at hs
  obtain ⟨hr, hr0, he⟩ := hs
  have hfit : (nanosTS r + nanosDur d) / NANOS ≤ I64_MAX := by
    simp only [NormTS, nanosTS, NANOS, I64_MAX] at *; omega
  obtain ⟨q, hq⟩ := add_complete rel r d hr hd hr0 hfit
  have ha := add_exact rel r d hr hd
  rw [hq] at ha; simp only [AddPost] at ha
  rw [hq]; congr 1
  exact ts_ext_of_nanos q t ha.1 ht (by omega)

/-! ## ordering -/

/-- derived `Ord` (lexicographic on `(tv_sec, tv_nsec)`) is the order of exact values on normalised timespecs -/
theorem cmp_lt_iff (a b : TS) (ha : NormTS a) (hb : NormTS b) : cmpTS a b = .lt ↔ nanosTS a < nanosTS b := by
  simp only [cmpTS, NormTS, nanosTS, NANOS] at *
  repeat' split
  all_goals simp
  all_goals omega

theorem cmp_eq_iff (a b : TS) (ha : NormTS a) (hb : NormTS b) : cmpTS a b = .eq ↔ nanosTS a = nanosTS b := by
  simp only [cmpTS, NormTS, nanosTS, NANOS] at *
  repeat' split
  all_goals simp
  all_goals omega

theorem cmp_gt_iff (a b : TS) (ha : NormTS a) (hb : NormTS b) : cmpTS a b = .gt ↔ nanosTS a > nanosTS b := by
  simp only [cmpTS, NormTS, nanosTS, NANOS] at *
  repeat' split
  all_goals simp
  all_goals omega

/-- **ordering agrees with subtraction**: `t ≤ u` iff `u - t` is `Some` -/
theorem ord_agrees_with_sub (rel : Bool) (t u : TS) (ht : NormTS t) (hu : NormTS u) (h0 : 0 ≤ t.sec) (h1 : 0 ≤ u.sec) :
    cmpTS t u ≠ .gt ↔ ∃ δ, subTsCheckedDur rel u t = .val δ := by
  have hgt := cmp_gt_iff t u ht hu
  constructor
  · intro h
    have : ¬ (nanosTS t > nanosTS u) := fun hh => h (hgt.mpr hh)
    exact diff_complete rel u t hu ht h1 h0 (by omega)
  · rintro ⟨δ, hδ⟩ hc
    have hs := diff_exact rel u t hu ht
    rw [hδ] at hs; simp only [DiffPost, NormDur, nanosDur, NANOS] at hs
    have := hgt.mp hc
    omega

/-! ## the unchecked difference (`MonotonicInstant::elapsed`, `duration_since_unix_time`) -/

def UDiffPost (l r : TS) : R Dur → Prop
  | .val δ => NormDur δ ∧ nanosDur δ = nanosTS l - nanosTS r
  | .none => False
  | .panic => False

/-- `sub_ts_dur l r` is panic-free and exact whenever `l ≥ r ≥ epoch` (what a monotonic clock guarantees) -/
theorem sub_ts_dur_safe (rel : Bool) (l r : TS) (hl : NormTS l) (hr : NormTS r) (h1 : 0 ≤ r.sec)
    (hge : nanosTS r ≤ nanosTS l) : UDiffPost l r (subTsDur rel l r) := by
  simp only [NormTS, nanosTS, I64_MIN, I64_MAX, NANOS] at hl hr hge
  unfold subTsDur
  rw [plainI64_in rel (l.nsec - r.nsec) (by simp only [inI64, I64_MIN, I64_MAX]; omega)]
  simp only [bind_val]
  split
  · rw [plainI64_in rel _ (by simp only [inI64, I64_MIN, I64_MAX, NANOS]; omega)]
    simp only [bind_val]
    rw [plainI64_in rel (l.sec - r.sec) (by simp only [inI64, I64_MIN, I64_MAX]; omega)]
    simp only [bind_val]
    rw [plainI64_in rel _ (by simp only [inI64, I64_MIN, I64_MAX]; omega)]
    simp only [bind_val, durNew]
    split
    · simp only [UDiffPost, NormDur, nanosDur, nanosTS, asU32, asU64, TWO32, TWO64, U64_MAX, NANOS] at *
      omega
    · exfalso; simp only [asU32, TWO32, NANOS] at *; omega
  · rw [plainI64_in rel (l.sec - r.sec) (by simp only [inI64, I64_MIN, I64_MAX]; omega)]
    simp only [bind_val]
    rw [plainI64_in rel _ (by simp only [inI64, I64_MIN, I64_MAX]; omega)]
    simp only [bind_val, durNew]
    split
    · simp only [UDiffPost, NormDur, nanosDur, nanosTS, asU32, asU64, TWO32, TWO64, U64_MAX, NANOS] at *
      omega
    · exfalso; simp only [asU32, TWO32, NANOS] at *; omega

def EpochPost (l : TS) : R Dur → Prop
  | .val δ => δ.secs = asU64 l.sec ∧ δ.nanos = l.nsec
  | .none => False
  | .panic => False

/-- `SystemTime::duration_since_unix_time` never panics, for every (also negative) second count; its value is
`tv_sec as u64` (a wrapped value for negative seconds — stated, not hidden) -/
theorem since_epoch_no_panic (rel : Bool) (l : TS) (hl : NormTS l) :
    EpochPost l (subTsDur rel l ⟨0, 0⟩) := by
  simp only [NormTS, I64_MIN, I64_MAX, NANOS] at hl
  unfold subTsDur
  rw [plainI64_in rel (l.nsec - 0) (by simp only [inI64, I64_MIN, I64_MAX]; omega)]
  simp only [bind_val]
  rw [if_neg (by omega)]
  rw [plainI64_in rel (l.sec - 0) (by simp only [inI64, I64_MIN, I64_MAX]; omega)]
  simp only [bind_val]
  rw [plainI64_in rel _ (by simp only [inI64, I64_MIN, I64_MAX]; omega)]
  simp only [bind_val, durNew]
  split
  · simp only [EpochPost, asU64, asU32, TWO32, TWO64, Int.sub_zero, true_and] at *
    omega
  · exfalso; simp only [asU32, TWO32, NANOS] at *; omega

/-! ## the Duration → TimeSpec conversion (`TryFrom<Duration> for TimeSpec`, used by `thread::sleep`) -/

def D2TPost (d : Dur) : R TS → Prop
  | .val r => NormTS r ∧ 0 ≤ r.sec ∧ nanosTS r = nanosDur d
  | .none => d.secs > I64_MAX
  | .panic => False

/-- the conversion never panics, is exact, and fails exactly when the seconds do not fit an i64 -/
theorem dur_to_ts_exact (d : Dur) (hd : NormDur d) : D2TPost d (durToTS d) := by
  simp only [durToTS, tryI64, bind_val, bind_none, pure_eq, bind_ite]
  split
  all_goals simp only [D2TPost, NormTS, NormDur, nanosTS, nanosDur, inI64, I64_MIN, I64_MAX, U64_MAX, NANOS, and_true] at *
  all_goals omega

/-! ## tie T: the definitions generated from the Rust text agree with the model -/

/-- any `TimeSpec` value: both fields arbitrary i64 (normalised or not) -/
def RawTS (t : TS) : Prop := I64_MIN ≤ t.sec ∧ t.sec ≤ I64_MAX ∧ I64_MIN ≤ t.nsec ∧ t.nsec ≤ I64_MAX

theorem NormTS.raw {t : TS} (h : NormTS t) : RawTS t := by
  simp only [NormTS, RawTS, I64_MIN, I64_MAX, NANOS] at *; omega

theorem ite_both {α : Type} (c : Prop) {_ : Decidable c} (a b a' b' : α) (h1 : c → a = a') (h2 : ¬c → b = b') :
    (if c then a else b) = (if c then a' else b') := by split <;> simp_all
theorem ite_left {α : Type} (c : Prop) {_ : Decidable c} (a b m : α) (h1 : c → a = m) (h2 : ¬c → b = m) :
    (if c then a else b) = m := by split <;> simp_all
theorem ite_right {α : Type} (c : Prop) {_ : Decidable c} (a b m : α) (h1 : c → m = a) (h2 : ¬c → m = b) :
    m = (if c then a else b) := by split <;> simp_all
theorem wrapI64_eq (x : Int) :
    wrapI64 x = -9223372036854775808 + (x - -9223372036854775808) % 18446744073709551616 := by
  simp only [wrapI64, TWO64, I64_MAX]; omega

/-- `generated = model`: unfold both sides into trees of `if`s over integer comparisons (the generated file
supplies `time_gen_unfold` / `time_gen_consts` listing whatever functions the current source consists of), walk
the two trees together (same condition on both sides: one case split for both; otherwise split one side and
discard contradictory paths by `omega`), close the leaves by `omega`.  Nothing here names a function of the
source, so helper functions / `match` / let-else / immutable bindings in the source do not matter. -/
macro "gen_agree" : tactic => `(tactic|
  (time_gen_unfold
   all_goals (try simp only [checkedAddDur, checkedSubDur, subTsCheckedDur, subTsDur, durNew, durToTS, ckI64, ckU64, tryI64,
      tryU64, tryU32, plainI64, bind_val, bind_none, bind_panic, pure_eq, bind_ite, inI64, inU64, inU32])
   all_goals (try time_gen_consts)
   all_goals (try simp only [asU64, asU32, RawTS, NormDur, I64_MIN, I64_MAX, U64_MAX, U32_MAX, TWO64, TWO32, NANOS,
      Int.add_zero, Int.sub_zero, Int.zero_add, wrapI64_eq, if_true, if_false, eq_self, Bool.false_eq_true,
      decide_eq_true_eq, Bool.not_eq_true', decide_eq_false_iff_not, Bool.and_eq_true, Bool.or_eq_true] at *)
   all_goals repeat' (first
     | with_reducible rfl
     | (apply ite_both) <;> intro h <;> (try simp only [h, if_true, if_false, and_self, and_true, true_and, eq_self,
          not_true_eq_false, not_false_eq_true])
     | ((apply ite_left) <;> intro h <;> first
          | contradiction
          | (exfalso; omega)
          | (try simp only [h, if_true, if_false, and_self, and_true, true_and, eq_self, not_true_eq_false, not_false_eq_true]))
     | ((apply ite_right) <;> intro h <;> first
          | contradiction
          | (exfalso; omega)
          | (try simp only [h, if_true, if_false, and_self, and_true, true_and, eq_self, not_true_eq_false, not_false_eq_true])))
   all_goals (first
     | (simp only [R.val.injEq, TS.mk.injEq, Dur.mk.injEq, reduceCtorEq, and_true, true_and, and_self]; done)
     | (simp only [R.val.injEq, TS.mk.injEq, Dur.mk.injEq, reduceCtorEq, and_true, true_and, and_self]; omega)
     | contradiction
     | omega)))

/-- **`+ Duration`** as written in the source = the model, for every TimeSpec and every Duration -/
theorem gen_agrees_add (rel : Bool) (t : TS) (d : Dur) (ht : RawTS t) (hd : NormDur d) :
    TimeGen.Instant_add rel t d = checkedAddDur rel t d ∧ TimeGen.SystemTime_add rel t d = checkedAddDur rel t d := by
  constructor <;> gen_agree

/-- **`- Duration`** as written in the source = the model -/
theorem gen_agrees_sub (rel : Bool) (t : TS) (d : Dur) (ht : RawTS t) (hd : NormDur d) :
    TimeGen.Instant_sub_Duration rel t d = checkedSubDur rel t d ∧
    TimeGen.SystemTime_sub_Duration rel t d = checkedSubDur rel t d := by
  constructor <;> gen_agree

/-- **difference of two time values** (`-` and `duration_since`, both types) as written in the source = the model -/
theorem gen_agrees_diff (rel : Bool) (l r : TS) (hl : RawTS l) (hr : RawTS r) :
    TimeGen.Instant_sub rel l r = subTsCheckedDur rel l r ∧
    TimeGen.Instant_duration_since rel l r = subTsCheckedDur rel l r ∧
    TimeGen.SystemTime_sub rel l r = subTsCheckedDur rel l r ∧
    TimeGen.SystemTime_duration_since rel l r = subTsCheckedDur rel l r := by
  refine ⟨?_, ?_, ?_, ?_⟩ <;> gen_agree

/-- **`elapsed()`** as written in the source is the checked difference `now - self`, `now` = the clock reading -/
theorem gen_agrees_elapsed (rel : Bool) (now t : TS) (hn : RawTS now) (ht : RawTS t) :
    TimeGen.Instant_elapsed rel now t = subTsCheckedDur rel now t ∧
    TimeGen.SystemTime_elapsed rel now t = subTsCheckedDur rel now t := by
  constructor <;> gen_agree

/-- the **unchecked difference** entry points as written in the source = the model's `subTsDur` -/
theorem gen_agrees_diffu (rel : Bool) (now t : TS) (hn : RawTS now) (ht : RawTS t) :
    TimeGen.MonotonicInstant_elapsed rel now t = subTsDur rel now t ∧
    TimeGen.SystemTime_duration_since_unix_time rel t = subTsDur rel t ⟨0, 0⟩ := by
  constructor <;> gen_agree

/-- `TimeSpec::try_from(Duration)` as written in the source = the model -/
theorem gen_agrees_dur_to_ts (rel : Bool) (d : Dur) (hd : NormDur d) :
    TimeGen.TimeSpec_try_from rel d = durToTS d := by
  gen_agree

/-! ### the property, stated of the generated (= source) definitions -/

theorem src_add_exact (rel : Bool) (t : TS) (d : Dur) (ht : NormTS t) (hd : NormDur d) :
    AddPost t d (TimeGen.Instant_add rel t d) ∧ AddPost t d (TimeGen.SystemTime_add rel t d) := by
  have h := gen_agrees_add rel t d ht.raw hd
  rw [h.1, h.2]; exact ⟨add_exact rel t d ht hd, add_exact rel t d ht hd⟩

theorem src_sub_exact (rel : Bool) (t : TS) (d : Dur) (ht : NormTS t) (hd : NormDur d) :
    SubPost t d (TimeGen.Instant_sub_Duration rel t d) ∧ SubPost t d (TimeGen.SystemTime_sub_Duration rel t d) := by
  have h := gen_agrees_sub rel t d ht.raw hd
  rw [h.1, h.2]; exact ⟨sub_exact rel t d ht hd, sub_exact rel t d ht hd⟩

theorem src_diff_exact (rel : Bool) (l r : TS) (hl : NormTS l) (hr : NormTS r) :
    DiffPost l r (TimeGen.Instant_sub rel l r) ∧ DiffPost l r (TimeGen.SystemTime_sub rel l r) ∧
    DiffPost l r (TimeGen.Instant_duration_since rel l r) ∧ DiffPost l r (TimeGen.SystemTime_duration_since rel l r) := by
  have h := gen_agrees_diff rel l r hl.raw hr.raw
  rw [h.1, h.2.1, h.2.2.1, h.2.2.2]
  exact ⟨diff_exact rel l r hl hr, diff_exact rel l r hl hr, diff_exact rel l r hl hr, diff_exact rel l r hl hr⟩

/-- `elapsed()` of both manipulable types: exact `now - self`, `None` exactly when `self` is after the clock
reading (for readings and values at or after the epoch), never a panic -/
theorem src_elapsed_exact (rel : Bool) (now t : TS) (hn : NormTS now) (ht : NormTS t) :
    DiffPost now t (TimeGen.Instant_elapsed rel now t) ∧ DiffPost now t (TimeGen.SystemTime_elapsed rel now t) := by
  have h := gen_agrees_elapsed rel now t hn.raw ht.raw
  rw [h.1, h.2]; exact ⟨diff_exact rel now t hn ht, diff_exact rel now t hn ht⟩

/-- `(t + d) - d = t` and `(t + d) - t = d` through the source's own operators -/
theorem src_add_cancel (rel : Bool) (t r : TS) (d : Dur) (ht : NormTS t) (hd : NormDur d) (h0 : 0 ≤ t.sec)
    (h : TimeGen.Instant_add rel t d = .val r) :
    TimeGen.Instant_sub_Duration rel r d = .val t ∧ TimeGen.Instant_sub rel r t = .val d := by
  rw [(gen_agrees_add rel t d ht.raw hd).1] at h
  have ha := add_exact rel t d ht hd
  rw [h] at ha; simp only [AddPost] at ha
  rw [(gen_agrees_sub rel r d ha.1.raw hd).1, (gen_agrees_diff rel r t ha.1.raw ht.raw).1]
  exact ⟨add_sub_cancel rel t r d ht hd h0 h, add_diff_cancel rel t r d ht hd h0 h⟩

/-- `(t - d) + d = t` through the source's own operators -/
theorem src_sub_add_cancel (rel : Bool) (t r : TS) (d : Dur) (ht : NormTS t) (hd : NormDur d)
    (h : TimeGen.Instant_sub_Duration rel t d = .val r) : TimeGen.Instant_add rel r d = .val t := by
  rw [(gen_agrees_sub rel t d ht.raw hd).1] at h
  have hs := sub_exact rel t d ht hd
  rw [h] at hs; simp only [SubPost] at hs
  rw [(gen_agrees_add rel r d hs.1.raw hd).1]
  exact sub_add_cancel rel t r d ht hd h

/-- ordering agrees with the source's subtraction -/
theorem src_ord_agrees_with_sub (rel : Bool) (t u : TS) (ht : NormTS t) (hu : NormTS u) (h0 : 0 ≤ t.sec) (h1 : 0 ≤ u.sec) :
    cmpTS t u ≠ .gt ↔ ∃ δ, TimeGen.Instant_sub rel u t = .val δ := by
  rw [(gen_agrees_diff rel u t hu.raw ht.raw).1]
  exact ord_agrees_with_sub rel t u ht hu h0 h1

/-- the unchecked entry points of the source on their documented domain -/
theorem src_sub_ts_dur_safe (rel : Bool) (now t : TS) (hn : NormTS now) (ht : NormTS t) (h1 : 0 ≤ t.sec)
    (hge : nanosTS t ≤ nanosTS now) : UDiffPost now t (TimeGen.MonotonicInstant_elapsed rel now t) := by
  rw [(gen_agrees_diffu rel now t hn.raw ht.raw).1]
  exact sub_ts_dur_safe rel now t hn ht h1 hge

theorem src_since_epoch_no_panic (rel : Bool) (l : TS) (hl : NormTS l) :
    EpochPost l (TimeGen.SystemTime_duration_since_unix_time rel l) := by
  rw [(gen_agrees_diffu rel l l hl.raw hl.raw).2]
  exact since_epoch_no_panic rel l hl

theorem src_dur_to_ts_exact (rel : Bool) (d : Dur) (hd : NormDur d) : D2TPost d (TimeGen.TimeSpec_try_from rel d) := by
  rw [gen_agrees_dur_to_ts rel d hd]; exact dur_to_ts_exact d hd

/-! ## sleep -/

/-- `thread::sleep`'s retry loop: whenever it returns `Ok`, the time slept in total is at least what was asked,
for every script of interruptions (kernel contract: on EINTR the remaining time written back is at least
`requested - slept`). -/
theorem sleep_total_gen (script : List SleepResp) (req slept calls total n : Nat)
    (h : sleepLoop script req slept calls = (some true, total, n)) : slept + req ≤ total := by
  induction script generalizing req slept calls with
  | nil => simp [sleepLoop] at h
  | cons r rest ih =>
    cases r with
    | done extra => simp only [sleepLoop, Prod.mk.injEq] at h; omega
    | eintr s slack =>
      simp only [sleepLoop] at h
      have := ih _ _ _ h
      omega
    | err c => simp [sleepLoop] at h

theorem sleep_total (script : List SleepResp) (req total n : Nat)
    (h : sleepLoop script req 0 0 = (some true, total, n)) : req ≤ total := by
  have := sleep_total_gen script req 0 0 total n h; omega

/-- an error other than EINTR is surfaced at once -/
theorem sleep_err_surfaces (c req slept calls : Nat) (rest : List SleepResp) :
    (sleepLoop (.err c :: rest) req slept calls).1 = some false := rfl

/-! ## non-vacuity: the hypotheses are met by concrete non-trivial values, and every branch is live -/

example : NormTS ⟨I64_MAX, 999999999⟩ ∧ NormDur ⟨U64_MAX, 999999999⟩ ∧ NormTS ⟨I64_MIN, 0⟩ := by
  simp [NormTS, NormDur, I64_MIN, I64_MAX, U64_MAX, NANOS]
example : checkedAddDur false ⟨0, 999999999⟩ ⟨0, 2⟩ = .val ⟨1, 1⟩ := by decide
example : checkedAddDur false ⟨I64_MAX, 999999999⟩ ⟨0, 1⟩ = .none := by decide
example : checkedAddDur false ⟨I64_MAX - 1, 999999999⟩ ⟨0, 1⟩ = .val ⟨I64_MAX, 0⟩ := by decide
example : checkedSubDur false ⟨1, 0⟩ ⟨0, 1⟩ = .val ⟨0, 999999999⟩ := by decide
example : checkedSubDur false ⟨0, 0⟩ ⟨0, 1⟩ = .none := by decide
example : checkedSubDur false ⟨-5, 0⟩ ⟨0, 0⟩ = .none := by decide
example : subTsCheckedDur false ⟨1, 0⟩ ⟨0, 999999999⟩ = .val ⟨0, 1⟩ := by decide
example : subTsCheckedDur false ⟨0, 999999999⟩ ⟨1, 0⟩ = .none := by decide
example : sleepLoop [.eintr 30 0, .done 5] 100 0 0 = (some true, 105, 2) := by decide
example : durToTS ⟨5, 7⟩ = .val ⟨5, 7⟩ ∧ durToTS ⟨9223372036854775808, 0⟩ = .none := by decide
-- tie T: the hypotheses of the agreement theorems are met by extreme and by non-normalised values, and the
-- generated definitions compute (carry, borrow, None and the wrapped `as u64` branch are live)
example : RawTS ⟨I64_MIN, I64_MIN⟩ ∧ RawTS ⟨I64_MAX, I64_MAX⟩ ∧ RawTS ⟨0, 4000000000⟩ ∧ NormDur ⟨U64_MAX, 999999999⟩ := by
  simp [RawTS, NormDur, I64_MIN, I64_MAX, U64_MAX, NANOS]
example : TimeGen.Instant_add false ⟨0, 999999999⟩ ⟨0, 1⟩ = .val ⟨1, 0⟩ := by decide
example : TimeGen.SystemTime_add true ⟨I64_MAX, 999999999⟩ ⟨0, 1⟩ = .none := by decide
example : TimeGen.Instant_sub_Duration false ⟨5, 0⟩ ⟨5, 1⟩ = .none := by decide
example : TimeGen.SystemTime_sub_Duration false ⟨1, 0⟩ ⟨0, 1⟩ = .val ⟨0, 999999999⟩ := by decide
example : TimeGen.Instant_sub false ⟨1, 0⟩ ⟨0, 999999999⟩ = .val ⟨0, 1⟩ := by decide
example : TimeGen.SystemTime_duration_since false ⟨0, 999999999⟩ ⟨1, 0⟩ = .none := by decide
example : TimeGen.Instant_elapsed false ⟨7, 5⟩ ⟨7, 6⟩ = .none ∧ TimeGen.Instant_elapsed false ⟨7, 6⟩ ⟨7, 5⟩ = .val ⟨0, 1⟩ := by decide
example : TimeGen.MonotonicInstant_elapsed false ⟨2, 0⟩ ⟨0, 1⟩ = .val ⟨1, 999999999⟩ := by decide
example : TimeGen.SystemTime_duration_since_unix_time false ⟨-1, 0⟩ = .val ⟨18446744073709551615, 0⟩ := by decide
example : TimeGen.MonotonicInstant_elapsed false ⟨0, 0⟩ ⟨I64_MIN, 0⟩ = .panic ∧
    TimeGen.MonotonicInstant_elapsed true ⟨0, 0⟩ ⟨I64_MIN, 0⟩ = .val ⟨9223372036854775808, 0⟩ := by decide
example : TimeGen.TimeSpec_try_from false ⟨5, 7⟩ = .val ⟨5, 7⟩ ∧ TimeGen.TimeSpec_try_from false ⟨9223372036854775808, 0⟩ = .none := by decide
example : TimeGen.Instant_add false ⟨0, 999999999⟩ ⟨0, 1⟩ = .val ⟨1, 0⟩ ∧ TimeGen.Instant_sub_Duration false ⟨1, 0⟩ ⟨0, 1⟩ = .val ⟨0, 999999999⟩ ∧
    TimeGen.Instant_sub false ⟨1, 0⟩ ⟨0, 999999999⟩ = .val ⟨0, 1⟩ := by decide

end TinyVerif.Time
