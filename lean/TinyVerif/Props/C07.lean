/-
C07 — a program started through tiny-std's entry point observes exactly the argument vector, environment
block and auxiliary values the kernel passed, in every link mode; environment lookup returns the value of
the first entry whose name equals the key exactly.

Models: Model/Start.lean (resolve, from_auxv, relocate_symbols, `ArgsOs::next` / `Args::next` — AS WRITTEN) and
Model/Env.lean (var / var_unix after the `fix:` commit 10a4869; the argument iterators as stateful objects:
`core`'s default `nth` / `skip` / `step_by` / `fold` / `count` / `last` bodies over that `next`, and `len` /
`size_hint` as overridden after the `fix:` commit d3e06ee; `Env.Legacy` = the bodies before either fix).  Helper lemmas: Proofs/StartLemmas.lean, Proofs/EnvLemmas.lean,
Proofs/ArgsIterLemmas.lean.  Observed only (no theorem): the `_start` assembly, the vDSO
symbol lookup and the vDSO clock's agreement with the system call (checks/c07.py).

The three link modes differ, for this code, only in the gate of `relocate_symbols`:
  static        `_DYNAMIC` = 0                    → no relocation   (`relocate_skipped`)
  dynamic PIE   AT_BASE ≠ 0 (ld.so did the work)  → no relocation   (`relocate_skipped`)
  static PIE    `_DYNAMIC` ≠ 0 ∧ AT_BASE = 0      → `relocate_exact`
-/
import TinyVerif.Proofs.StartLemmas
import TinyVerif.Proofs.EnvLemmas
import TinyVerif.Proofs.ArgsIterLemmas
namespace TinyVerif.C07
open TinyVerif.Start TinyVerif.Env

/-! ## resolve: argc / argv / envp / auxv -/

/-- On every memory that holds an ABI-conformant initial stack at `sp` (any argv incl. none, empty strings,
arbitrary non-NUL bytes; any environment block; any aux vector, duplicates included), `resolve` returns
`argc = argv.length`, `argv = sp+8`, `envp = sp+8+8*argc+8`, the aux values in which the LAST listed value
of each of the ten kept keys wins (0 when the key is absent; keys outside the ten, incl. all keys > 51, are
ignored), and the memory `relocate_symbols` leaves.  No fault, no overflow panic, fuel suffices. -/
theorem resolve_exact {m : Mem} {sp : Nat} {argv env : List Bytes} {aux : List (Nat × Nat)} {aptrs eptrs : List Nat}
    (h : StackAt m sp argv env aux aptrs eptrs) (dynv fuel : Nat) (hf : env.length < fuel ∧ aux.length < fuel) :
    resolve m sp dynv fuel =
        (relocateSymbols m dynv (auxOf aux) fuel).bind (fun m' => .ok (envOf sp argv.length, auxOf aux, m')) ∧
      ∀ key ∈ keptKeys, (auxOf aux).get key = auxLast aux key := by
  refine ⟨resolve_eq h dynv fuel hf, fun key hkey => ?_⟩
  unfold auxOf auxLast
  rw [get_fold key hkey aux AuxValues.zeroed]
  have : AuxValues.zeroed.get key = 0 := by
    simp only [keptKeys, List.mem_cons, List.not_mem_nil, or_false] at hkey
    rcases hkey with h | h | h | h | h | h | h | h | h | h <;> subst h <;> rfl
  rw [this]

/-- static and dynamic-PIE starts: `relocate_symbols` does nothing, `resolve` returns the memory unchanged -/
theorem relocate_skipped (m : Mem) (dynv : Nat) (aux : AuxValues) (fuel : Nat)
    (h : dynv = 0 ∨ aux.at_base ≠ 0) : relocateSymbols m dynv aux fuel = .ok m := by
  unfold relocateSymbols
  rcases h with h | h
  · simp [h]
  · by_cases hd : dynv = 0 <;> simp [hd, h]

theorem resolve_exact_no_reloc {m : Mem} {sp : Nat} {argv env : List Bytes} {aux : List (Nat × Nat)} {aptrs eptrs : List Nat}
    (h : StackAt m sp argv env aux aptrs eptrs) (dynv fuel : Nat) (hf : env.length < fuel ∧ aux.length < fuel)
    (hmode : dynv = 0 ∨ auxLast aux AT_BASE ≠ 0) :
    resolve m sp dynv fuel = .ok (envOf sp argv.length, auxOf aux, m) := by
  obtain ⟨h1, h2⟩ := resolve_exact h dynv fuel hf
  have hb : (auxOf aux).at_base = auxLast aux AT_BASE := h2 AT_BASE (by simp [keptKeys])
  rw [h1, relocate_skipped m dynv _ fuel (by rw [hb]; exact hmode)]
  rfl

/-- the pointers `resolve` returned lead the argument iterator to exactly `argv`, in order — on ANY memory
that still holds the stack (the unrelocated memory, or the relocated one when no relocation target lies in
the stack) -/
theorem args_iter_exact {m : Mem} {sp : Nat} {argv env : List Bytes} {aux : List (Nat × Nat)} {aptrs eptrs : List Nat}
    (h : StackAt m sp argv env aux aptrs eptrs) (fuel k : Nat)
    (hf : ∀ s ∈ argv, s.length < fuel) (hk : argv.length < k) :
    let e := envOf sp argv.length
    (argsOs e).len = argv.length ∧
    collectOs m e fuel k (argsOs e) = .ok argv ∧
    collectArgs m e fuel k (argsOs e) = .ok (argv.map asStr) := by
  obtain ⟨_, h2, _, _⟩ := stack_parts h
  have hl := StrsAt_length m aptrs argv h.astrs
  have hos : collectOs m (envOf sp argv.length) fuel k (argsOs (envOf sp argv.length)) = .ok argv :=
    collectOs_eq m (envOf sp argv.length) fuel argv.length aptrs argv 0 k (by simpa [envOf] using h2) h.astrs h.aptrs_ne
      (fun s hs => ⟨h.argv_nul_free s hs, hf s hs⟩) (by omega) (by simp [envOf]) (by omega)
  refine ⟨rfl, hos, ?_⟩
  rw [collectArgs_eq, hos]; rfl

theorem env_walk_exact {m : Mem} {sp : Nat} {argv env : List Bytes} {aux : List (Nat × Nat)} {aptrs eptrs : List Nat}
    (h : StackAt m sp argv env aux aptrs eptrs) (fuel k : Nat)
    (hf : ∀ s ∈ env, s.length < fuel) (hk : env.length < k) :
    envWalk m fuel k (envOf sp argv.length).envp = .ok env := by
  obtain ⟨_, _, h3, _⟩ := stack_parts h
  have hl := StrsAt_length m eptrs env h.estrs
  exact envWalk_eq m fuel eptrs env _ k h3 h.estrs h.eptrs_ne (fun s hs => ⟨h.env_nul_free s hs, hf s hs⟩)
    (by simp [envOf]; omega) (by omega)

/-- UTF-8 validity alone decides `Ok` / `Err` per element of `args()` -/
theorem args_item (s : Bytes) : asStr s = if utf8Valid s then .ok s else .err := rfl

/-! ## the kernel's image itself -/

/-- `buildStack sp argv env aux` (argc, argv pointers, NULL, envp pointers, NULL, auxv pairs, AT_NULL, then the
strings) satisfies `StackAt` for EVERY argv / env / aux vector that fits the address space -/
theorem buildStack_stack_at (sp : Nat) (argv env : List Bytes) (aux : List (Nat × Nat))
    (hsp : sp + (buildStack sp argv env aux).length < W64)
    (haux : ∀ kv ∈ aux, kv.1 ≠ 0 ∧ kv.1 < W64 ∧ kv.2 < W64)
    (ha : ∀ s ∈ argv, 0 ∉ s) (he : ∀ s ∈ env, 0 ∉ s) :
    StackAt (memOf sp (buildStack sp argv env aux)) sp argv env aux
      (ptrsFrom (sp + 8 * nWords argv env aux) argv)
      (ptrsFrom (sp + 8 * nWords argv env aux + (strBytes argv).length) env) := by
  suffices key : ∀ sb, sp + 8 * nWords argv env aux = sb →
      StackAt (memOf sp (buildStack sp argv env aux)) sp argv env aux (ptrsFrom sb argv)
        (ptrsFrom (sb + (strBytes argv).length) env) from key _ rfl
  intro sb hsb
  have hbs : buildStack sp argv env aux = leWords (stackWords argv.length (ptrsFrom sb argv)
      (ptrsFrom (sb + (strBytes argv).length) env) aux) ++ strBytes argv ++ strBytes env := by
    rw [← hsb]; rfl
  have hlenW : (stackWords argv.length (ptrsFrom sb argv) (ptrsFrom (sb + (strBytes argv).length) env) aux).length
      = nWords argv env aux := by
    simp [stackWords, nWords, ptrsFrom_length, auxFlat_length]; omega
  have hlen : (buildStack sp argv env aux).length = 8 * nWords argv env aux + (strBytes argv).length + (strBytes env).length := by
    rw [hbs]; simp only [List.length_append, leWords_length, hlenW]
  have hn : 5 ≤ nWords argv env aux := by unfold nWords; omega
  have hal : argv.length ≤ (strBytes argv).length := length_le_strBytes argv
  refine ⟨?_, ?_, ?_, ?_, ?_, fun kv h => (haux kv h).1, ha, he, ?_⟩
  · have := WordsAt_leWords sp (stackWords argv.length (ptrsFrom sb argv) (ptrsFrom (sb + (strBytes argv).length) env) aux)
      [] (strBytes argv ++ strBytes env) (by
        intro w hw
        simp only [stackWords, List.mem_append, List.mem_cons, List.not_mem_nil, or_false, auxFlat, List.mem_flatMap] at hw
        rcases hw with ((((((rfl | h) | rfl) | h) | rfl) | ⟨kv, hkv, h⟩) | h)
        · unfold nWords at hlen; omega
        · have := ptrsFrom_lt argv sb w h; omega
        · decide
        · have := ptrsFrom_lt env _ w h; omega
        · decide
        · rcases h with rfl | rfl
          · exact (haux kv hkv).2.1
          · exact (haux kv hkv).2.2
        · rcases h with rfl | rfl <;> decide)
    rw [hbs]; simpa [List.append_assoc] using this
  · have := StrsAt_strBytes sp argv (leWords (stackWords argv.length (ptrsFrom sb argv) (ptrsFrom (sb + (strBytes argv).length) env) aux)) (strBytes env)
    rw [leWords_length, hlenW, hsb] at this
    rw [hbs]; exact this
  · have := StrsAt_strBytes sp env (leWords (stackWords argv.length (ptrsFrom sb argv) (ptrsFrom (sb + (strBytes argv).length) env) aux) ++ strBytes argv) []
    rw [List.length_append, leWords_length, hlenW, List.append_nil, ← Nat.add_assoc, hsb] at this
    rw [hbs]; exact this
  · exact ptrsFrom_pos argv sb (by omega)
  · exact ptrsFrom_pos env _ (by omega)
  · unfold nWords at hlen; omega

/-- end to end on the ABI image, static or dynamic-PIE start: `resolve` returns argc = |argv|, the aux values with
the last listed value per kept key, the memory untouched; the argument iterator then yields exactly `argv` and the
environment walk exactly `env` -/
theorem startup_exact (sp : Nat) (argv env : List Bytes) (aux : List (Nat × Nat)) (dynv fuel k : Nat)
    (hsp : sp + (buildStack sp argv env aux).length < W64)
    (haux : ∀ kv ∈ aux, kv.1 ≠ 0 ∧ kv.1 < W64 ∧ kv.2 < W64)
    (ha : ∀ s ∈ argv, 0 ∉ s) (he : ∀ s ∈ env, 0 ∉ s)
    (hmode : dynv = 0 ∨ auxLast aux AT_BASE ≠ 0)
    (hf : env.length < fuel ∧ aux.length < fuel ∧ (∀ s ∈ argv, s.length < fuel) ∧ (∀ s ∈ env, s.length < fuel))
    (hk : argv.length < k ∧ env.length < k) :
    let m := memOf sp (buildStack sp argv env aux)
    let e := envOf sp argv.length
    resolve m sp dynv fuel = .ok (e, auxOf aux, m) ∧
    (∀ key ∈ keptKeys, (auxOf aux).get key = auxLast aux key) ∧
    collectOs m e fuel k (argsOs e) = .ok argv ∧
    collectArgs m e fuel k (argsOs e) = .ok (argv.map asStr) ∧
    envWalk m fuel k e.envp = .ok env := by
  have h := buildStack_stack_at sp argv env aux hsp haux ha he
  obtain ⟨_, ha2, ha3⟩ := args_iter_exact h fuel k hf.2.2.1 hk.1
  exact ⟨resolve_exact_no_reloc h dynv fuel ⟨hf.1, hf.2.1⟩ hmode, (resolve_exact h dynv fuel ⟨hf.1, hf.2.1⟩).2,
    ha2, ha3, env_walk_exact h fuel k hf.2.2.2 hk.2⟩

/-! ## static-PIE self relocation -/

/-- `DynSection::relocate(base)` under the ELF well-formedness hypothesis `RelocWF` (tables where .dynamic says,
every R_RELATIVE target a mapped word outside the tables, targets pairwise distinct, no address overflow):
every RELATIVE REL target holds old + base, every RELATIVE RELA target holds base + addend, every byte outside
the targets is unchanged; no fault, no overflow panic. -/
theorem relocate_exact {m : Mem} {base : Nat} {d : DynSection} {rels : List RelEnt} {relas : List RelaEnt}
    (wf : RelocWF m base d rels relas) :
    ∃ m', relocate m d base = .ok m' ∧
      (∀ e ∈ rels, e.info = R_RELATIVE → ∀ old, rd64 m (base + e.off) = .ok old → rd64 m' (base + e.off) = .ok (old + base)) ∧
      (∀ e ∈ relas, e.info = R_RELATIVE → rd64 m' (base + e.off) = .ok (base + e.addend)) ∧
      (∀ x, (∀ e ∈ rels, e.info = R_RELATIVE → x < base + e.off ∨ base + e.off + 8 ≤ x) →
            (∀ e ∈ relas, e.info = R_RELATIVE → x < base + e.off ∨ base + e.off + 8 ≤ x) → m' x = m x) := by
  obtain ⟨m1, hrun1, hA1, hF1⟩ := relLoop_exact base (base + d.rel) (base + d.rel) (base + d.rel + 16 * rels.length)
    rels 0 m (by simpa using wf.rel_at) (by omega) (by omega) wf.rel_range wf.rel_off_rel wf.rel_distinct
  have hat1 : RelaAt m1 (base + d.rela) relas :=
    RelaAt_frame m m1 relas _ (fun x h1 h2 => hF1 x (fun e he hr => by have := wf.rel_off_rela e he hr; omega)) wf.rela_at
  have hsame1 : ∀ e ∈ relas, e.info = R_RELATIVE → rd64 m1 (base + e.off) = rd64 m (base + e.off) := by
    intro e he hr
    exact rdLE_congr m1 m 8 _ (fun k hk => hF1 _ (fun e1 he1 hr1 => by
      have := wf.cross_distinct e1 he1 e he hr1 hr; unfold Apart at this; omega))
  obtain ⟨m', hrun2, hA2, hF2⟩ := relaLoop_exact base (base + d.rela) (base + d.rela) (base + d.rela + 24 * relas.length)
    relas 0 m1 (by simpa using hat1) (by omega) (by omega) wf.rela_range
    (fun e he hr => by rw [hsame1 e he hr]; exact wf.rela_mapped e he hr) wf.rela_off_rela wf.rela_distinct
  refine ⟨m', ?_, ?_, hA2, ?_⟩
  · unfold relocate
    rw [rel_phase base _ _ m wf.rel_addr, ← wf.rel_count, hrun1, R.bind_ok,
      rela_phase base _ _ m1 wf.rela_addr, ← wf.rela_count, hrun2]
  · intro e he hr old hold
    have : rd64 m' (base + e.off) = rd64 m1 (base + e.off) :=
      rdLE_congr m' m1 8 _ (fun k hk => hF2 _ (fun e2 he2 hr2 => by
        have := wf.cross_distinct e he e2 he2 hr hr2; unfold Apart at this; omega))
    rw [this]; exact hA1 e he hr old hold
  · intro x h1 h2
    rw [hF2 x h2, hF1 x h1]

/-- `init_from_dynv`: the last DT_REL / DT_RELSZ / DT_RELA / DT_RELASZ entry before DT_NULL wins, others ignored -/
theorem init_from_dynv_exact (m : Mem) (dynv fuel : Nat) (dyn : List (Nat × Nat))
    (hw : WordsAt m dynv (auxFlat dyn ++ [0, 0])) (hne : ∀ kv ∈ dyn, kv.1 ≠ 0) (hf : dyn.length < fuel) :
    initFromDynv m dynv fuel = .ok (dynOf dyn) := initFromDynv_eq m dynv fuel dyn hw hne hf

/-- The PT_DYNAMIC scan AS WRITTEN looks at the program headers 1 … ph_num-1 only (`hs`, located from
`at_phdr + phent` on); header 0 is never examined.  It yields `dynv - p_vaddr` of the first PT_DYNAMIC among
those, `none` (base stays 0) when there is none. -/
theorem find_base_scan (m : Mem) (dynv phent phdr : Nat) (hs : List (Nat × Nat))
    (hat : PhdrsAt m phent (phdr + phent) hs) (hlt : phdr + phent * hs.length < W64)
    (hva : ∀ va, firstDyn hs = some va → va ≤ dynv) :
    findBaseLoop m dynv phent hs.length phdr = .ok ((firstDyn hs).map (dynv - ·)) :=
  findBaseLoop_eq m dynv phent hs phdr hat hlt hva

/-- … hence the scan finds THE PT_DYNAMIC header of the table `h0 :: hs` exactly under the hypothesis
"PT_DYNAMIC is not the first program header" (true of every layout the probes' linker produces: PT_PHDR or a
PT_LOAD comes first; checked on the probes by checks/c07.py) -/
theorem find_base_exact (m : Mem) (dynv phent phdr : Nat) (h0 : Nat × Nat) (hs : List (Nat × Nat))
    (hfirst : h0.1 ≠ PT_DYNAMIC)
    (hat : PhdrsAt m phent (phdr + phent) hs) (hlt : phdr + phent * hs.length < W64)
    (hva : ∀ va, firstDyn hs = some va → va ≤ dynv) :
    findBaseLoop m dynv phent (h0 :: hs).length.pred phdr = .ok ((firstDyn (h0 :: hs)).map (dynv - ·)) := by
  simp only [List.length_cons, Nat.pred_succ, firstDyn, if_neg hfirst]
  exact findBaseLoop_eq m dynv phent hs phdr hat hlt hva

/-- without that hypothesis the scan is wrong: a table whose only PT_DYNAMIC header is the first one
(`p_type = 2`, `p_vaddr = 0x100` at address 64, one more header of type 1 behind it) yields no base -/
example :
    let img : Bytes := le 4 2 ++ le 4 0 ++ le 8 0 ++ le 8 256 ++ List.replicate 32 0 ++
                       le 4 1 ++ le 4 0 ++ le 8 0 ++ le 8 0 ++ List.replicate 32 0
    findBaseLoop (memOf 64 img) 4096 56 1 64 = .ok none := by decide

/-- `relocate_symbols` in a static-PIE start (`_DYNAMIC ≠ 0`, AT_BASE = 0, at least one header) is exactly
`relocate` with the `.dynamic` summary and the base found by the scan -/
theorem relocate_symbols_static_pie (m : Mem) (dynv fuel : Nat) (aux : AuxValues) (hs : List (Nat × Nat))
    (dyn : List (Nat × Nat)) (hd : dynv ≠ 0) (hb : aux.at_base = 0) (hn : aux.at_phnum = hs.length + 1)
    (hat : PhdrsAt m aux.at_phent (aux.at_phdr + aux.at_phent) hs) (hlt : aux.at_phdr + aux.at_phent * hs.length < W64)
    (hva : ∀ va, firstDyn hs = some va → va ≤ dynv)
    (hw : WordsAt m dynv (auxFlat dyn ++ [0, 0])) (hne : ∀ kv ∈ dyn, kv.1 ≠ 0) (hf : dyn.length < fuel) :
    relocateSymbols m dynv aux fuel =
      relocate m (dynOf dyn) (match firstDyn hs with | some va => dynv - va | none => 0) := by
  unfold relocateSymbols
  rw [if_pos hd, if_pos hb, if_pos (by omega), hn, Nat.add_sub_cancel,
    findBaseLoop_eq m dynv aux.at_phent hs aux.at_phdr hat hlt hva, R.bind_ok, R.bind_ok,
    initFromDynv_eq m dynv fuel dyn hw hne hf, R.bind_ok]
  cases firstDyn hs <;> rfl

/-! ## the argument iterators as stateful objects: every method, in any order -/

/-- `ArgsOs::next` at ANY position `i` of the iterator: the `i`-th argument passed and one step forward, `None`
and no step once all `argc` have been yielded -/
theorem args_next_at {m : Mem} {sp : Nat} {argv env : List Bytes} {aux : List (Nat × Nat)} {aptrs eptrs : List Nat}
    (h : StackAt m sp argv env aux aptrs eptrs) (fuel : Nat) (hf : ∀ s ∈ argv, s.length < fuel) (i : Nat) :
    let e := envOf sp argv.length
    ArgsOs.next m e fuel ⟨i, argv.length⟩ = .ok (argv[i]?, ⟨if i < argv.length then i + 1 else i, argv.length⟩) ∧
    Args.next m e fuel ⟨i, argv.length⟩ =
      .ok ((argv.map asStr)[i]?, ⟨if i < argv.length then i + 1 else i, argv.length⟩) :=
  ⟨next_spec_os h fuel hf i, next_spec_args (next_spec_os h fuel hf) i⟩

/-- `nth(k)` / `skip(k).next()` (the default bodies: `k ×` next, then next) on an iterator that has already
yielded `i` arguments answer the argument at OFFSET `k` FROM THE CURRENT POSITION, `argv[i + k]`, and leave the
iterator behind it (`None` and exhausted when there is none) — never an argument already yielded -/
theorem args_nth_relative {m : Mem} {sp : Nat} {argv env : List Bytes} {aux : List (Nat × Nat)} {aptrs eptrs : List Nat}
    (h : StackAt m sp argv env aux aptrs eptrs) (fuel : Nat) (hf : ∀ s ∈ argv, s.length < fuel)
    (k i : Nat) (hi : i ≤ argv.length) :
    let e := envOf sp argv.length
    let after : ArgsOs := ⟨min (i + k + 1) argv.length, argv.length⟩
    nthWith (ArgsOs.next m e fuel) k ⟨i, argv.length⟩ = .ok (argv[i + k]?, after) ∧
    skipNextWith (ArgsOs.next m e fuel) k ⟨i, argv.length⟩ = .ok (argv[i + k]?, after) ∧
    nthWith (Args.next m e fuel) k ⟨i, argv.length⟩ = .ok ((argv.map asStr)[i + k]?, after) ∧
    skipNextWith (Args.next m e fuel) k ⟨i, argv.length⟩ = .ok ((argv.map asStr)[i + k]?, after) := by
  have H := next_spec_os h fuel hf
  have H' := next_spec_args H
  exact ⟨nthWith_eq H rfl k i hi, skipNextWith_eq H rfl k i hi,
    nthWith_eq H' (by simp) k i hi, skipNextWith_eq H' (by simp) k i hi⟩

/-- THE PROPERTY for the iterators.  EVERY script of calls (`next`, `nth(k)`, `skip(k).next()`, `step_by(k)` polled to
the end, `len`, `size_hint`, `count`, `last`, `fold`; any order, any length, any `k`, `step_by(0)` excluded because
`core` panics on it) on ONE fresh `args_os()` / `args()` iterator answers exactly what std's contract demands of an
iterator over the argument vector passed — what a plain slice iterator over `argv` answers (`specRun`): each call is
relative to the current position, no argument is yielded twice, none is skipped that was not asked to be, never more
than argc items, and `len()` / `size_hint()` are at every point of the script the exact number of arguments not yet
yielded (`ExactSizeIterator`'s contract).  No fault, no panic (in particular `num_args - ind` never overflows);
`argc + 1` polls suffice for every loop. -/
theorem iter_ops_exact {m : Mem} {sp : Nat} {argv env : List Bytes} {aux : List (Nat × Nat)} {aptrs eptrs : List Nat}
    (h : StackAt m sp argv env aux aptrs eptrs) (fuel k : Nat) (hf : ∀ s ∈ argv, s.length < fuel) (hk : argv.length < k)
    (ops : List ItOp) (hops : ∀ op ∈ ops, op.wf) :
    let e := envOf sp argv.length
    runOps (ArgsOs.next m e fuel) k ops (argsOs e) = .ok (specRun argv ops 0) ∧
    runOps (Args.next m e fuel) k ops (argsOs e) = .ok (specRun (argv.map asStr) ops 0) := by
  have H := next_spec_os h fuel hf
  have H' := next_spec_args H
  exact ⟨runOps_eq H rfl k hk ops 0 hops (Nat.zero_le _), runOps_eq H' (by simp) k hk ops 0 hops (Nat.zero_le _)⟩

/-- `len()` / `size_hint()` on an iterator that has already yielded `i` arguments, whatever calls brought it there:
exactly `argc - i`, and `(argc - i, Some(argc - i))`; the iterator is left where it was -/
theorem len_remaining_at {m : Mem} {sp : Nat} {argv env : List Bytes} {aux : List (Nat × Nat)} {aptrs eptrs : List Nat}
    (h : StackAt m sp argv env aux aptrs eptrs) (fuel k : Nat) (hf : ∀ s ∈ argv, s.length < fuel) (hk : argv.length < k)
    (i : Nat) (hi : i ≤ argv.length) :
    let e := envOf sp argv.length
    let it : ArgsOs := ⟨i, argv.length⟩
    itStep (ArgsOs.next m e fuel) k .len it = .ok (.num (argv.length - i), it) ∧
    itStep (ArgsOs.next m e fuel) k .sizeHint it = .ok (.hint (argv.length - i) (some (argv.length - i)), it) ∧
    itStep (Args.next m e fuel) k .len it = .ok (.num (argv.length - i), it) ∧
    itStep (Args.next m e fuel) k .sizeHint it = .ok (.hint (argv.length - i) (some (argv.length - i)), it) := by
  have H := next_spec_os h fuel hf
  have H' := next_spec_args H
  have hl : (argv.map asStr).length = argv.length := by simp
  have a1 := itStep_eq H rfl k hk .len trivial i hi
  have a2 := itStep_eq H rfl k hk .sizeHint trivial i hi
  have a3 := itStep_eq H' hl k hk .len trivial i hi
  have a4 := itStep_eq H' hl k hk .sizeHint trivial i hi
  simp only [specStep, hl] at a1 a2 a3 a4
  exact ⟨a1, a2, a3, a4⟩

/-- the iterators are fused and bounded: once the position is argc every further call answers `None` / nothing /
0 / (0, Some(0)) and stays there, whatever the script did before -/
theorem iter_exhausted_stays {m : Mem} {sp : Nat} {argv env : List Bytes} {aux : List (Nat × Nat)} {aptrs eptrs : List Nat}
    (h : StackAt m sp argv env aux aptrs eptrs) (fuel k : Nat) (hf : ∀ s ∈ argv, s.length < fuel) (hk : argv.length < k)
    (op : ItOp) (hop : op.wf) :
    ∃ out, itStep (ArgsOs.next m (envOf sp argv.length) fuel) k op ⟨argv.length, argv.length⟩ = .ok (out, ⟨argv.length, argv.length⟩) ∧
      (out = .item none ∨ out = .items [] ∨ out = .num 0 ∨ out = .hint 0 (some 0)) := by
  have H := next_spec_os h fuel hf
  have := itStep_eq H rfl k hk op hop argv.length (Nat.le_refl _)
  have h2 : (specStep argv op argv.length).2 = argv.length := by
    cases op <;> simp only [specStep] <;> omega
  refine ⟨(specStep argv op argv.length).1, ?_, ?_⟩
  · rw [this, h2]
  · cases op <;> simp_all [specStep, ItOp.wf, everyKth_nil]

/-- the repaired code on a concrete image: three arguments, `next()` then `len()` / `size_hint()` answer 2 and
(2, Some(2)), the number of arguments that remain; after two more `next()` they answer 0 and (0, Some(0)), also
after a further `next()` past the end; `args()` answers the same -/
theorem len_remaining_witness :
    let argv : List Bytes := [[97], [], [255, 254]]
    let m := memOf 4096 (buildStack 4096 argv [] [])
    let e := envOf 4096 3
    runOps (ArgsOs.next m e 50) 5 [.next, .len, .sizeHint] (argsOs e) = .ok [.item (some [97]), .num 2, .hint 2 (some 2)] ∧
    specRun argv [.next, .len, .sizeHint] 0 = [.item (some [97]), .num 2, .hint 2 (some 2)] ∧
    runOps (ArgsOs.next m e 50) 5 [.len, .nth 1, .len, .next, .len, .next, .len, .sizeHint] (argsOs e) =
      .ok [.num 3, .item (some []), .num 1, .item (some [255, 254]), .num 0, .item none, .num 0, .hint 0 (some 0)] ∧
    runOps (Args.next m e 50) 5 [.next, .len, .sizeHint] (argsOs e) = .ok [.item (some (.ok [97])), .num 2, .hint 2 (some 2)] := by
  decide +kernel

/-- HISTORY (finding repaired by the `fix:` commit d3e06ee): before it `ExactSizeIterator::len` was `num_args`
whatever had been yielded and `size_hint()` the default (0, None) — `Legacy.runOps`.  On the same image, `next()`
then `len()`: the old code answered 3 with two arguments left, and (0, None), a valid bound but not the exact one
`ExactSizeIterator` promises; that is NOT what the arguments passed demand (`specRun`), the repaired code's answer is -/
theorem legacy_len_not_remaining_witness :
    let argv : List Bytes := [[97], [], [255, 254]]
    let m := memOf 4096 (buildStack 4096 argv [] [])
    let e := envOf 4096 3
    Legacy.runOps (ArgsOs.next m e 50) 5 [.next, .len, .sizeHint] (argsOs e) = .ok [.item (some [97]), .num 3, .hint 0 none] ∧
    Legacy.runOps (ArgsOs.next m e 50) 5 [.next, .len, .sizeHint] (argsOs e) ≠ .ok (specRun argv [.next, .len, .sizeHint] 0) ∧
    runOps (ArgsOs.next m e 50) 5 [.next, .len, .sizeHint] (argsOs e) = .ok (specRun argv [.next, .len, .sizeHint] 0) := by
  decide +kernel

/-- the old and the repaired code differ in NOTHING but the answers of `len` / `size_hint` -/
theorem legacy_itStep_same {α : Type} (nx : Nx α) (fuel : Nat) (op : ItOp) (it : ArgsOs)
    (h : op ≠ .len ∧ op ≠ .sizeHint) : Legacy.itStep nx fuel op it = itStep nx fuel op it := by
  cases op <;> simp_all [Legacy.itStep]

/-- the model computes, on a concrete image, what the theorems say: after `next()`, `nth(1)` is the argument two
further on (not `argv[1]`), `skip(0).next()` the one after it, `step_by(2)` from position 1 yields `argv[1], argv[3]`,
`count()` after two `next()` is argc - 2, and `args()` reports UTF-8 validity per element -/
example :
    let argv : List Bytes := [[112], [97], [], [255, 254], [98]]
    let m := memOf 4096 (buildStack 4096 argv [[65, 61, 98]] [(11, 7)])
    let e := envOf 4096 5
    runOps (ArgsOs.next m e 50) 7 [.next, .nth 1, .skip 0, .next, .next] (argsOs e) =
      .ok [.item (some [112]), .item (some []), .item (some [255, 254]), .item (some [98]), .item none] ∧
    runOps (ArgsOs.next m e 50) 7 [.next, .stepBy 2, .next] (argsOs e) =
      .ok [.item (some [112]), .items [[97], [255, 254]], .item none] ∧
    runOps (ArgsOs.next m e 50) 7 [.next, .next, .count] (argsOs e) = .ok [.item (some [112]), .item (some [97]), .num 3] ∧
    runOps (Args.next m e 50) 7 [.nth 3, .last] (argsOs e) = .ok [.item (some .err), .item (some (.ok [98]))] ∧
    runOps (ArgsOs.next m e 50) 7 [.nth 18446744073709551615, .next] (argsOs e) = .ok [.item none, .item none] := by
  decide +kernel

/-- `specRun` tells a relative `nth` from an ABSOLUTE-index one (`self.ind = min(n, num_args); self.next()`, which
would answer `argv[1]` = [97] to `next(); nth(1)` and `argv[0]` again to `next(); nth(0)`): the arguments demand
`argv[2]` and `argv[1]` -/
example : specRun ([[112], [97], [98]] : List Bytes) [.next, .nth 1] 0 = [.item (some [112]), .item (some [98])] ∧
    specRun ([[112], [97], [98]] : List Bytes) [.next, .nth 0] 0 = [.item (some [112]), .item (some [97])] := by
  decide

/-! ## environment lookup -/

/-- answer of `var_unix` demanded by the property -/
def specUnix (key : Bytes) (env : List Bytes) : VarRes :=
  match lookup key env with
  | some v => .found v
  | none => .missing

/-- answer of `var` demanded by the property (the value must also be UTF-8) -/
def specStr (key : Bytes) (env : List Bytes) : VarRes :=
  match lookup key env with
  | some v => if utf8Valid v then .found v else .notUnicode
  | none => .missing

/-- `var_unix(key)` = value of the first entry whose bytes before its first '=' equal `key`, for every non-empty,
NUL-free, '='-free key and EVERY environment block (duplicates, names that are prefixes of each other or of the
key, empty names or values, values with '=', entries without '=', empty entries) -/
theorem var_unix_exact (key : Bytes) (hne : key ≠ []) (h0 : 0 ∉ key) (hq : EQ ∉ key) :
    ∀ env : List Bytes, varUnix key env = .ok (specUnix key env)
  | [] => rfl
  | e :: env => by
    have ih := var_unix_exact key hne h0 hq env
    unfold specUnix at ih ⊢
    simp only [varUnix, entryUnix_eq key e hne h0 hq, R.bind_ok, entrySpec, lookup]
    by_cases hc : EQ ∈ e ∧ nameOf e = key
    · simp only [if_pos hc]
    · simp only [if_neg hc]; exact ih

theorem var_exact (key : Bytes) (hne : key ≠ []) (h0 : 0 ∉ key) (hq : EQ ∉ key) :
    ∀ env : List Bytes, var key env = .ok (specStr key env)
  | [] => rfl
  | e :: env => by
    have ih := var_exact key hne h0 hq env
    unfold specStr at ih ⊢
    simp only [var, entryStr_eq key e hne h0 hq, R.bind_ok, entrySpec, lookup]
    by_cases hc : EQ ∈ e ∧ nameOf e = key
    · simp only [if_pos hc]
    · simp only [if_neg hc]; exact ih

/-- the loops AS WRITTEN over memory read the block `resolve` located and answer as the list-level model -/
theorem var_mem_exact (m : Mem) (fuel : Nat) (key : Bytes) : ∀ (ps : List Nat) (env : List Bytes) (envPtr k : Nat),
    WordsAt m envPtr (ps ++ [0]) → StrsAt m ps env → (∀ p ∈ ps, p ≠ 0) → (∀ s ∈ env, 0 ∉ s ∧ s.length < fuel) →
    0 < envPtr → ps.length < k →
    varUnixMem m fuel key k envPtr = varUnix key env ∧ varMem m fuel key k envPtr = var key env
  | _, _, _, 0, _, _, _, _, _, hk => by omega
  | [], [], envPtr, k + 1, hw, _, _, _, ha, _ => by
    simp only [List.nil_append, WordsAt] at hw
    have : envPtr ≠ 0 := by omega
    simp [varUnixMem, varMem, varUnix, var, this, hw.1]
  | [], _ :: _, _, _ + 1, _, hs, _, _, _, _ => by simp [StrsAt] at hs
  | _ :: _, [], _, _ + 1, _, hs, _, _, _, _ => by simp [StrsAt] at hs
  | p :: ps, s :: ss, envPtr, k + 1, hw, hs, hne, hss, ha, hk => by
    simp only [List.cons_append, WordsAt] at hw
    simp only [StrsAt] at hs
    have hp : p ≠ 0 := hne p (by simp)
    have hs0 := hss s (by simp)
    have ih := var_mem_exact m fuel key ps ss (envPtr + 8) k hw.2 hs.2
      (fun q hq => hne q (by simp [hq])) (fun t ht => hss t (by simp [ht])) (by omega) (by simp at hk; omega)
    have hnz : envPtr ≠ 0 := by omega
    simp only [varUnixMem, varMem, varUnix, var, if_neg hnz, hw.1, R.bind_ok, if_neg hp,
      cstr_eq m p s fuel hs.1 hs0.1 hs0.2, ih.1, ih.2]
    exact ⟨trivial, trivial⟩

/-- error branch: the empty key is reported missing whatever the block holds (even an entry `=value`) -/
theorem var_empty_key : ∀ env : List Bytes, varUnix [] env = .ok .missing ∧ var [] env = .ok .missing
  | [] => ⟨rfl, rfl⟩
  | e :: env => by
    have ih := var_empty_key env
    have h1 : entryUnix [] e = .ok none := by
      cases e <;> simp [entryUnix, matchUpTo, matchLoop, rdl]
    have h2 : entryStr [] e = .ok none := by
      simp [entryStr, matchUpToStr, matchStrLoop]
    simp [varUnix, var, h1, h2, ih.1, ih.2]

theorem eq_not_mem_nameOf : ∀ e : Bytes, EQ ∉ nameOf e
  | [] => by simp [nameOf]
  | b :: e => by
    have ih := eq_not_mem_nameOf e
    unfold nameOf at ih ⊢
    by_cases hb : b = EQ
    · simp [hb]
    · simp only [ne_eq, hb, not_false_eq_true, decide_true, List.takeWhile_cons_of_pos, List.mem_cons, not_or]
      exact ⟨fun h => hb h.symm, ih⟩

/-- error branch: for a key containing '=' the property's lookup is "missing" (no name contains '=') … -/
theorem lookup_key_with_eq (key : Bytes) (hq : EQ ∈ key) : ∀ env : List Bytes, lookup key env = none
  | [] => rfl
  | e :: env => by
    have : nameOf e ≠ key := by
      intro h
      exact eq_not_mem_nameOf e (h ▸ hq)
    simp [lookup, this, lookup_key_with_eq key hq env]

/-- … while the code answers with the rest of the first entry that starts with `key ++ "="`
(e.g. key `A=B` against `A=B=c` answers `c`): such keys are outside the property's quantifier -/
example : varUnix [65, 61, 66] [[65, 61, 66, 61, 99]] = .ok (.found [99]) ∧ lookup [65, 61, 66] [[65, 61, 66, 61, 99]] = none := by
  decide

/-- THE DEFECT (before the `fix:` commit): the matched prefix was never required to be the whole key —
key `HOMER` against the single entry `HOME=x` answered `x`; the property demands "missing" -/
theorem var_prefix_counterexample :
    Legacy.varUnix [72, 79, 77, 69, 82] [[72, 79, 77, 69, 61, 120]] = .ok (.found [120]) ∧
    Legacy.var [72, 79, 77, 69, 82] [[72, 79, 77, 69, 61, 120]] = .ok (.found [120]) ∧
    specUnix [72, 79, 77, 69, 82] [[72, 79, 77, 69, 61, 120]] = .missing := by decide

/-- the repaired code on the same witness, and on a block with duplicates / prefix-related names / '=' in a
value / an entry without '=' / an empty name -/
example : varUnix [72, 79, 77, 69, 82] [[72, 79, 77, 69, 61, 120]] = .ok .missing := by decide
example :
    let env : List Bytes := [[72, 79], [72, 79, 77, 69, 82, 61, 49], [61, 57], [72, 79, 77, 69, 61, 97, 61, 98], [72, 79, 77, 69, 61, 122]]
    varUnix [72, 79, 77, 69] env = .ok (.found [97, 61, 98]) ∧ var [72, 79, 77, 69] env = .ok (.found [97, 61, 98]) ∧
    varUnix [72, 79] env = .ok .missing ∧ varUnix [72, 79, 77, 69, 82] env = .ok (.found [49]) := by decide


/-! ## non-vacuity: the hypotheses are satisfiable by concrete, non-trivial images -/

instance decWordsAt (m : Mem) : ∀ (a : Nat) (ws : List Nat), Decidable (WordsAt m a ws)
  | _, [] => isTrue trivial
  | a, w :: ws => by
    unfold WordsAt
    exact @instDecidableAnd _ _ inferInstance (decWordsAt m (a + 8) ws)

instance decCStrAt (m : Mem) (p : Nat) (s : Bytes) : Decidable (CStrAt m p s) := by
  unfold CStrAt; exact inferInstance

instance decStrsAt (m : Mem) : ∀ (ps : List Nat) (ss : List Bytes), Decidable (StrsAt m ps ss)
  | [], [] => isTrue trivial
  | p :: ps, s :: ss => by
    unfold StrsAt
    exact @instDecidableAnd _ _ inferInstance (decStrsAt m ps ss)
  | [], _ :: _ => isFalse (by simp [StrsAt])
  | _ :: _, [] => isFalse (by simp [StrsAt])

/-- `buildStack` (the ABI image: argc, argv pointers, NULL, envp pointers, NULL, auxv pairs, AT_NULL, strings)
satisfies `StackAt`: three arguments (one empty, one non-UTF-8), an environment with a duplicate name and an
empty value, an aux vector with a duplicate key, a key > 51 and AT_BASE = 0 -/
example :
    let argv : List Bytes := [[97], [], [255, 254]]
    let env : List Bytes := [[72, 61, 120], [72, 61, 121], [65, 61]]
    let aux : List (Nat × Nat) := [(3, 5), (7, 0), (3, 9), (52, 1), (11, 1000)]
    let sb := 4096 + 8 * nWords argv env aux
    StackAt (memOf 4096 (buildStack 4096 argv env aux)) 4096 argv env aux
      (ptrsFrom sb argv) (ptrsFrom (sb + (strBytes argv).length) env) := by
  intro argv env aux sb
  exact buildStack_stack_at 4096 argv env aux (by decide +kernel) (by decide) (by decide) (by decide)

/-- and on it the model computes what the theorems say (argc 3, the three arguments in order with UTF-8
validity per element, the environment in order, AT_PHDR = 9 = the LAST listed value, AT_UID = 1000) -/
example :
    let argv : List Bytes := [[97], [], [255, 254]]
    let env : List Bytes := [[72, 61, 120], [72, 61, 121], [65, 61]]
    let aux : List (Nat × Nat) := [(3, 5), (7, 0), (3, 9), (52, 1), (11, 1000)]
    let m := memOf 4096 (buildStack 4096 argv env aux)
    let e := envOf 4096 3
    collectOs m e 50 50 (argsOs e) = .ok argv ∧
    collectArgs m e 50 50 (argsOs e) = .ok [.ok [97], .ok [], .err] ∧
    envWalk m 50 50 e.envp = .ok env ∧
    varUnixMem m 50 [72] 50 e.envp = .ok (.found [120]) ∧
    (auxOf aux).at_phdr = 9 ∧ (auxOf aux).at_uid = 1000 ∧ (auxOf aux).at_base = 0 := by decide +kernel

/-- `RelocWF` is satisfiable: image at base 4096 with one REL entry (target +64, old word 7), one RELA entry
(target +72, addend 5) and one non-relative RELA entry (type 6, ignored) -/
def relocImg : Bytes :=
  le 8 64 ++ le 8 8 ++                                  -- Elf64_Rel  { r_offset 64, r_info R_RELATIVE }
  le 8 72 ++ le 8 8 ++ le 8 5 ++                        -- Elf64_Rela { 72, R_RELATIVE, addend 5 }
  le 8 80 ++ le 8 6 ++ le 8 1 ++                        -- Elf64_Rela { 80, R_X86_64_GLOB_DAT, 1 }: not relative
  le 8 7 ++ le 8 0 ++ le 8 3                            -- words at +64, +72, +80

instance decRelAt (m : Mem) : ∀ (a : Nat) (es : List RelEnt), Decidable (RelAt m a es)
  | _, [] => isTrue trivial
  | a, e :: es => by
    unfold RelAt
    exact @instDecidableAnd _ _ inferInstance (@instDecidableAnd _ _ inferInstance (decRelAt m (a + 16) es))

instance decRelaAt (m : Mem) : ∀ (a : Nat) (es : List RelaEnt), Decidable (RelaAt m a es)
  | _, [] => isTrue trivial
  | a, e :: es => by
    unfold RelaAt
    exact @instDecidableAnd _ _ inferInstance (@instDecidableAnd _ _ inferInstance
      (@instDecidableAnd _ _ inferInstance (decRelaAt m (a + 24) es)))

example : RelocWF (memOf 4096 relocImg) 4096 ⟨0, 16, 16, 48⟩ [⟨64, 8⟩] [⟨72, 8, 5⟩, ⟨80, 6, 1⟩] := by
  refine ⟨by decide, by decide, by decide, by decide, by decide +kernel, by decide +kernel, ?_, ?_, ?_, ?_, ?_, ?_, ?_, ?_, ?_⟩
  · intro e he hr; simp at he; subst he; exact ⟨by decide, 7, by decide +kernel, by decide⟩
  · intro e he hr; simp at he; rcases he with rfl | rfl
    · exact ⟨by decide, by decide⟩
    · exact absurd hr (by decide)
  · intro e he hr; simp at he; rcases he with rfl | rfl
    · exact ⟨0, by decide +kernel⟩
    · exact absurd hr (by decide)
  · intro e he hr; simp at he; subst he; decide
  · intro e he hr; simp at he; subst he; decide
  · intro e he hr; simp at he; rcases he with rfl | rfl
    · decide
    · exact absurd hr (by decide)
  · simp
  · simp only [List.pairwise_cons, List.mem_singleton, forall_eq, List.Pairwise.nil, and_true, List.not_mem_nil, false_imp_iff, implies_true]
    intro _ h; exact absurd h (by decide)
  · intro e1 he1 e2 he2 h1 h2; simp at he1 he2; subst he1; rcases he2 with rfl | rfl
    · unfold Apart; decide
    · exact absurd h2 (by decide)

/-- and on it `relocate` yields old + base = 4103 at +64, base + addend = 4101 at +72, leaves +80 alone -/
def relocImgAfter : Bool :=
  match relocate (memOf 4096 relocImg) ⟨0, 16, 16, 48⟩ 4096 with
  | .ok m' => decide (rd64 m' 4160 = .ok 4103 ∧ rd64 m' 4168 = .ok 4101 ∧ rd64 m' 4176 = .ok 3)
  | _ => false

example : relocImgAfter = true := by decide +kernel

end TinyVerif.C07
