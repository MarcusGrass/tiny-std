/-
C12 — no operation leaks, double-closes or steals a descriptor, on success or on failure.

Model: Model/FdScript.lean (scripts of the operations, the machine `run`, the all-paths checker `chk`).
Here: the property (`LeakFree`), soundness of the checker (every fault position of every call, every
errno, every step outcome, both sides of a fork — by induction, not sampled), the kernel-evaluated
check of every operation of the current code, and the leaking paths of the code before its repair.
-/
import TinyVerif.Proofs.FdScriptLemmas
namespace TinyVerif.FdScript
open Ops

/-- The property, for an operation that owns `owned` on entry: whatever the oracle answers (which call
    fails, with which errno; what every data-dependent step decides; which side of a fork is followed;
    however early the run is cut), the operation never releases a descriptor twice (`dbl`), never
    releases one it does not own (`foreign`), never holds one slot twice, and when it returns the
    descriptors it still holds are exactly those handed to the caller. -/
def LeakFree (owned : List Var) (s : Script) : Prop :=
  ∀ (fuel : Nat) (o : Oracle),
    let f := exec owned s fuel o
    f.cfg.st.dbl = [] ∧ f.cfg.st.foreign = [] ∧ f.cfg.st.opn.Nodup ∧
      ∀ ok h, f.out = .ret ok h → ∀ v, v ∈ f.cfg.st.opn ↔ v ∈ h

/-- soundness of the checker: it walks all paths, so passing it closes the quantifier over oracles -/
theorem chk_sound (owned : List Var) (s : Script) : chk owned s = true → LeakFree owned s := by
  intro h fuel o
  simp only [chk, Bool.and_eq_true, nodupB_iff] at h
  have g := run_good fuel s (Cfg.init owned o) [] ⟨rfl, rfl, h.1⟩ h.2 (by simp [Cfg.init, StackOK])
  exact ⟨g.1.1, g.1.2.1, g.1.2.2, g.2⟩

/-- every operation of the code as it is passes the checker (evaluated by the kernel) -/
theorem all_ops_leakfree : Ops.cur.all (fun e => chk e.2.1 e.2.2) = true := by decide +kernel

/-- ... hence is leak-free for every fault position, errno and step outcome -/
theorem every_op_leakfree : ∀ e ∈ Ops.cur, LeakFree e.2.1 e.2.2 := by
  intro e he
  apply chk_sound
  have := all_ops_leakfree
  rw [List.all_eq_true] at this
  exact this e he

/-- the same, in the vocabulary the harness measures -/
theorem leakfree_verdict_clean (owned : List Var) (s : Script) (h : LeakFree owned s) (fuel : Nat) (o : Oracle) :
    (verdict (exec owned s fuel o)).clean = true := by
  obtain ⟨h1, h2, _, h4⟩ := h fuel o
  simp only [verdict, Verdict.clean]
  split
  · rename_i ok hd heq
    have := h4 ok hd heq
    simp only [h1, h2, List.isEmpty_nil, Bool.and_true, Bool.and_eq_true, List.isEmpty_iff]
    constructor
    · apply List.filter_eq_nil_iff.mpr
      intro v hv
      simp [(this v).mp hv]
    · apply List.filter_eq_nil_iff.mpr
      intro v hv
      simp [(this v).mpr hv]
  · simp [h1, h2]

/-- `Stdio::RawFd(fd)` is wrapped in an `OwnedFd` only when its own stream is converted, so a stream
    BEFORE it whose set-up can fail (Null: open; MakePipe: pipe2) makes spawn return without having
    consumed it, while every other path closes it.  Configurations without that pattern: -/
def rawAfterFallible : List Stdio → Bool → Bool
  | [], _ => false
  | .rawfd :: r, seen => seen || rawAfterFallible r seen
  | .null :: r, _ => rawAfterFallible r true
  | .pipe :: r, _ => rawAfterFallible r true
  | .inherit :: r, seen => rawAfterFallible r seen

def allStdio : List Stdio := [.inherit, .null, .pipe, .rawfd]
def allTriples : List (List Stdio) := allStdio.flatMap fun a => allStdio.flatMap fun b => allStdio.map fun c => [a, b, c]

/- Full statement (false for the current code, see `spawn_rawfd_after_fallible_inconsistent`):
     allTriples.all (fun m => chk (ownedIn m 0) (spawn true m [..] 2)) = true
   Proved: all 4^3 stdio triples except those with a RawFd after a Null/MakePipe stream, each with the full
   chdir/setuid/setgid/setpgid + 2 closures tail on the child side. -/
theorem spawn_leakfree_all_stdio_partial :
    (allTriples.filter (fun m => !rawAfterFallible m false)).all
      (fun m => chk (ownedIn m 0) (spawn true m ["chdir", "setuid", "setgid", "setpgid"] 2)) = true := by
  decide +kernel

/-- the excluded class, exactly: every such triple fails the checker ... -/
theorem spawn_rawfd_after_fallible_rejected :
    (allTriples.filter (fun m => rawAfterFallible m false)).all
      (fun m => !chk (ownedIn m 0) (spawn true m [] 0)) = true := by
  decide +kernel

/-- ... with this path: stdin = Null whose open fails ⇒ spawn returns Err and the caller's RawFd (slot 2) is
    still open, although on the success path the very same call closes it -/
theorem spawn_rawfd_after_fallible_inconsistent :
    (verdict (exec [2] (spawn true [.null, .rawfd, .inherit] [] 0) 100 ⟨[.err 24], [], none⟩)).leaked = [2] ∧
    (exec [2] (spawn true [.null, .rawfd, .inherit] [] 0) 100
      ⟨[.ok 5, .ok 0, .ok 77, .ok 0, .ok 0, .ok 0, .ok 0, .ok 0], [], none⟩).cfg.st.closed.contains 2 = true := by
  decide +kernel

/-! ## whatever the descriptor table holds at entry (0, 1, 2 free; nearly full; anything)

`LeakFree` speaks of slots.  Here the same operations run against a kernel table (`runK`): a creation gets
the lowest free NUMBER, so when 0, 1 or 2 are free at entry the operation's descriptors are the "standard"
numbers.  Nothing in the statement may depend on which numbers those are. -/

/-- The property at the level of the process's descriptor table.  The operation is entered holding the
    slots `own` (with their numbers) while `T` are the other numbers open in the process — ANY duplicate-free
    list.  For every oracle and fuel: the number-level run is the slot-level run (same outcome, trace,
    slots); the table is, at every cut, the numbers bound to the operation's slots followed by `T` itself,
    entry for entry (no foreign number was released, none was bound again); no number is open twice; no
    slot is held twice; and when the operation returns the slots it still holds are exactly the handed
    ones — so the table is `T` plus one fresh number per descriptor handed to the caller. -/
def TableRestored (own : List (Var × Nat)) (s : Script) : Prop :=
  ∀ (T : List Nat), (own.map (·.2) ++ T).Nodup → ∀ (fuel : Nat) (o : Oracle),
    let r := execK T own s fuel o
    r.1 = exec (own.map (·.1)) s fuel o ∧
    r.2.tab = numsOf r.2.bind ++ T ∧ r.2.tab.Nodup ∧ (r.2.bind.map Prod.fst).Nodup ∧
    ∀ ok h, r.1.out = .ret ok h → ∀ v, v ∈ r.2.bind.map Prod.fst ↔ v ∈ h

theorem numsOf_init (own : List (Var × Nat)) : numsOf (own.map (fun p => (p.1, some p.2))) = own.map (·.2) := by
  induction own with
  | nil => rfl
  | cons e r ih => simp [numsOf, ih]

theorem kinv_init (T : List Nat) (own : List (Var × Nat)) (h : (own.map (·.2) ++ T).Nodup) :
    KInv T (St.init (own.map (·.1))) (KTab.init T own) := by
  refine ⟨by simp [KTab.init, St.init, List.map_map, Function.comp_def], ?_, by simpa [KTab.init] using h⟩
  simp only [KTab.init, numsOf_init]

/-- an accepted script restores the table, for EVERY entry table -/
theorem chk_table_restored (own : List (Var × Nat)) (s : Script) :
    chk (own.map (·.1)) s = true → TableRestored own s := by
  intro h T hn fuel o
  obtain ⟨_, _, l3, l4⟩ := chk_sound _ _ h fuel o
  have e : (execK T own s fuel o).1 = exec (own.map (·.1)) s fuel o := runK_fst _ _ _ _
  obtain ⟨i1, i2, i3⟩ := runK_inv T fuel s (Cfg.init (own.map (fun p : Var × Nat => p.1)) o) (KTab.init T own) (kinv_init T own hn)
  have i1' : (execK T own s fuel o).2.bind.map Prod.fst = (exec (own.map (·.1)) s fuel o).cfg.st.opn := by
    rw [← e]; exact i1
  refine ⟨e, i2, i3, by rw [i1']; exact l3, ?_⟩
  intro ok hd ho v
  rw [i1']
  rw [e] at ho
  exact l4 ok hd ho v

/-- every operation of the current code, entered with any numbers for the slots it is given -/
theorem every_op_table_restored : ∀ e ∈ Ops.cur, ∀ (ownN : List Nat), ownN.length = e.2.1.length →
    TableRestored (e.2.1.zip ownN) e.2.2 := by
  intro e he ownN hl
  apply chk_table_restored
  have hz : (e.2.1.zip ownN).map (·.1) = e.2.1 := by
    have : (fun (p : Var × Nat) => p.1) = Prod.fst := rfl
    rw [this, List.map_fst_zip]
    omega
  rw [hz]
  have := all_ops_leakfree
  rw [List.all_eq_true] at this
  exact this e he

/-- the kernel's rule, as modelled: the number handed out is free, and every lower one is taken -/
theorem lowestFree_spec (t : List Nat) : lowestFree t ∉ t ∧ ∀ m, m < lowestFree t → m ∈ t :=
  ⟨lowestFree_not_mem t, fun m h => lfGo_least t t.length 0 m (Nat.zero_le _) h⟩

/-- non-vacuity / what it looks like: File::open with 0 free gets number 0 and hands it out; fs::read with 0
    and 2 free (table 1,3,4) reads through number 0 and leaves 1,3,4; spawn with three pipes and 0,1,2 free
    creates 0,1,2,5,6,7,8,9 and returns with the caller's three ends (1, 2 and 6: the write end of the stdin
    pipe, the read ends of the other two) added to 3,4; an in-progress tcp stream given as number 4 whose
    connect fails leaves 1,2,3 -/
example : ((execK [1, 2, 3, 4] [] fileOpen 10 ⟨[.ok 0], [true], none⟩).2.tab,
    (execK [1, 2, 3, 4] [] fileOpen 10 ⟨[.ok 0], [true], none⟩).2.nums) = ([0, 1, 2, 3, 4], [0]) := by decide +kernel
example : ((execK [1, 3, 4] [] (fsRead false) 20 ⟨[.ok 0, .ok 32, .ok 0, .ok 0], [true], none⟩).2.tab,
    (execK [1, 3, 4] [] (fsRead false) 20 ⟨[.ok 0, .ok 32, .ok 0, .ok 0], [true], none⟩).2.nums) = ([1, 3, 4], [0]) := by
  decide +kernel
example : ((execK [3, 4] [] (spawn true allPipe [] 0) 100
      ⟨[.ok 0, .ok 0, .ok 0, .ok 0, .ok 77, .ok 0, .ok 0, .ok 0, .ok 0, .ok 0, .ok 0], [], none⟩).2.nums.reverse,
    (execK [3, 4] [] (spawn true allPipe [] 0) 100
      ⟨[.ok 0, .ok 0, .ok 0, .ok 0, .ok 77, .ok 0, .ok 0, .ok 0, .ok 0, .ok 0, .ok 0], [], none⟩).2.tab)
    = ([0, 1, 2, 5, 6, 7, 8, 9], [6, 2, 1, 3, 4]) := by decide +kernel
example : (execK [1, 2, 3] [(0, 4)] inProgressTry 10 ⟨[.err 111, .ok 0], [], none⟩).2.tab = [1, 2, 3] := by decide +kernel
/-- and what a release that does not happen looks like at this level (getpwuid_r before its repair, 0 free):
    the table afterwards is 0,1,2 — by numbers alone an ordinary table; only the comparison with the entry
    table (1,2) shows the leak -/
example : (execK [1, 2] [] (getpwuid false) 10 ⟨[.ok 0, .ok 256], [true, true], none⟩).2.tab = [0, 1, 2] := by decide +kernel

/-! ## the code before the repairs: leaking paths (each replayed on the implementation, see known_findings.d/C12.jsonl)

The errno values in the oracles here and above are arbitrary members of the calls' error sets: 4 EINTR, 9 EBADF,
11 EAGAIN, 12 ENOMEM, 22 EINVAL, 24 EMFILE, 25 ENOTTY, 111 ECONNREFUSED; the scripts branch only on EINTR, EAGAIN and EINPROGRESS (115). -/

/-- every operation that was repaired failed the checker -/
theorem old_ops_rejected : Ops.old.all (fun e => !chk e.2.1 e.2.2) = true := by decide +kernel

/-- UnixStream::connect, over-long path: the socket stays open -/
theorem old_unix_connect_leaks :
    (verdict (exec [] (unixConnect false) 100 ⟨[.ok 5], [false], none⟩)).leaked = [0] := by decide +kernel
theorem old_unix_try_connect_leaks :
    (verdict (exec [] (unixTryConnect false) 100 ⟨[.ok 5], [false], none⟩)).leaked = [0] := by decide +kernel
theorem old_unix_bind_leaks_longpath :
    (verdict (exec [] (unixBind false) 100 ⟨[.ok 5], [false], none⟩)).leaked = [0] := by decide +kernel
/-- UnixListener::bind: the trailing `listen(..)?` fails -/
theorem old_unix_bind_leaks_listen :
    (verdict (exec [] (unixBind false) 100 ⟨[.ok 5, .ok 0, .ok 0, .err 12], [true], none⟩)).leaked = [0] := by decide +kernel
/-- TcpListener::bind: `listen(..)?` fails -/
theorem old_tcp_bind_leaks_listen :
    (verdict (exec [] (tcpBind false) 100 ⟨[.ok 5, .ok 0, .err 12], [], none⟩)).leaked = [0] := by decide +kernel
/-- spawn, all goes well: the read end of the CLOEXEC pipe stays open in the caller -/
theorem old_spawn_leaks_read_end :
    (verdict (exec [] (spawn false allInherit [] 0) 100 ⟨[.ok 0, .ok 77, .ok 0, .ok 0], [], none⟩)).leaked = [6] := by decide +kernel
/-- spawn, fork fails: both ends of the CLOEXEC pipe stay open -/
theorem old_spawn_fork_fails_leaks_both :
    (verdict (exec [] (spawn false allPipe [] 0) 100 ⟨[.ok 0, .ok 0, .ok 0, .ok 0, .err 11, .ok 0, .ok 0, .ok 0, .ok 0, .ok 0, .ok 0], [], none⟩)).leaked = [7, 6] := by
  decide +kernel
/-- spawn, dup2 fails in the child: the child RETURNS (C13) and still holds the write end -/
theorem old_spawn_child_returns_with_write_end :
    verdict (exec [] (spawn false allPipe [] 0) 100 ⟨[.ok 0, .ok 0, .ok 0, .ok 0, .ok 77], [], some ([.ok 0, .err 9, .ok 0, .ok 0, .ok 0, .ok 0, .ok 0, .ok 0], [])⟩)
      = ⟨true, false, 0, [7], [], [], []⟩ := by decide +kernel
/-- getpwuid_r: /etc/passwd stays open -/
theorem old_getpwuid_leaks :
    (verdict (exec [] (getpwuid false) 100 ⟨[.ok 5, .ok 256], [true, true], none⟩)).leaked = [0] := by decide +kernel
/-- openpty: a failing ioctl leaves the master open; a failing TIOCSWINSZ leaves both -/
theorem old_openpty_leaks_master :
    (verdict (exec [] (openpty false false false false) 100 ⟨[.ok 5, .err 25], [], none⟩)).leaked = [0] := by decide +kernel
theorem old_openpty_leaks_both :
    (verdict (exec [] (openpty false false true true) 100 ⟨[.ok 5, .ok 0, .ok 0, .ok 6, .ok 0, .err 22], [true], none⟩)).leaked = [1, 0] := by
  decide +kernel

/-- so none of them was leak-free -/
theorem old_unix_connect_not_leakfree : ¬ LeakFree [] (unixConnect false) := by
  intro h
  have := leakfree_verdict_clean _ _ h 100 ⟨[.ok 5], [false], none⟩
  revert this
  decide +kernel

theorem old_spawn_not_leakfree : ¬ LeakFree [] (spawn false allInherit [] 0) := by
  intro h
  have := leakfree_verdict_clean _ _ h 100 ⟨[.ok 0, .ok 77, .ok 0, .ok 0], [], none⟩
  revert this
  decide +kernel

/-- the checker rejects a double close, a foreign close, a handed-out closed descriptor, a loop that
    accumulates descriptors -/
example : chk [] (.sys "socket" (.opens 0) (closeThen 0 (closeThen 0 err)) err) = false := by decide
example : chk [] (closeThen 3 err) = false := by decide
example : chk [] (.sys "socket" (.opens 0) (closeThen 0 (ok [0])) err) = false := by decide
example : chk [] (.loop (.sys "accept4" (.opens 0) .again err)) = false := by decide
/-- and the machine shows them: a second close of the same slot is a double close, a close of a slot never
    opened is foreign -/
example : (verdict (exec [] (.sys "socket" (.opens 0) (closeThen 0 (closeThen 0 err)) err) 10 ⟨[.ok 3, .ok 0, .ok 0], [], none⟩)).dbl = [0] := by
  decide
example : (verdict (exec [] (closeThen 3 err) 10 ⟨[.ok 0], [], none⟩)).foreign = [3] := by decide
/-- LeakFree is satisfiable by a non-trivial operation: a run through the EAGAIN / ppoll / retry path of
    UnixStream::connect returns the socket; a run whose second connect fails closes it -/
example : verdict (exec [] (unixConnect true) 100 ⟨[.ok 5, .err 11, .err 4, .ok 1, .ok 0], [true], none⟩) = ⟨true, true, 1, [], [], [], []⟩ := by
  decide +kernel
example : verdict (exec [] (unixConnect true) 100 ⟨[.ok 5, .err 11, .ok 1, .err 111, .ok 0], [true], none⟩) = ⟨true, false, 0, [], [], [], []⟩ := by
  decide +kernel
/-- io_uring: a `Drop` that releases nothing (what a build makes of clean-up calls placed inside `debug_assert!` when
    debug assertions are off) is rejected, and the machine shows the ring fd left open; the real one is clean on the
    two-mapping and the three-mapping ring, whatever `munmap` / `close` answer; set-up whose last `mmap` fails closes
    the ring fd -/
example : chk [0] (.ret true []) = false := by decide
example : (verdict (exec [0] (.ret true []) 10 ⟨[], [], none⟩)).leaked = [0] := by decide
example : chk [0] (munmapN 2 (ok [])) = false := by decide
example : verdict (exec [0] ioUringDrop 20 ⟨[.ok 0, .err 22, .err 5], [true], none⟩) = ⟨true, true, 0, [], [], [], []⟩ := by decide +kernel
example : verdict (exec [0] ioUringDrop 20 ⟨[.ok 0, .ok 0, .ok 0, .ok 0], [false], none⟩) = ⟨true, true, 0, [], [], [], []⟩ := by decide +kernel
example : verdict (exec [] ioUringSetup 20 ⟨[.ok 5, .ok 4096, .ok 8192, .err 12, .ok 0, .ok 0, .ok 0], [false], none⟩)
    = ⟨true, false, 0, [], [], [], []⟩ := by decide +kernel
example : verdict (exec [] ioUringSetup 20 ⟨[.ok 5, .ok 4096, .ok 8192], [true], none⟩) = ⟨true, true, 1, [], [], [], []⟩ := by decide +kernel
/-- receiving descriptors: three installed by the kernel and all three handed out is clean (they get the lowest free
    numbers, in order); an API that surfaces none of them (the iterator rejecting a valid SCM_RIGHTS message) is rejected by
    the checker and the machine shows the three left open; a failing recvmsg installs nothing -/
example : verdict (exec [] recvmsgRights 20 ⟨[.ok 5], [true, true, true, false], none⟩) = ⟨true, true, 3, [], [], [], []⟩ := by decide +kernel
example : (execK [1, 2, 4] [] recvmsgRights 20 ⟨[.ok 5], [true, true, true, false], none⟩).2.nums.reverse = [0, 3, 5] := by decide +kernel
example : chk [] (.sys "recvmsg" (.opensL [0, 1, 2]) (ok []) err) = false := by decide
example : (verdict (exec [] (.sys "recvmsg" (.opensL [0, 1, 2]) (ok []) err) 10 ⟨[.ok 5], [], none⟩)).leaked = [2, 1, 0] := by decide
example : verdict (exec [] recvmsgRights 20 ⟨[.err 4], [true, false], none⟩) = ⟨true, false, 0, [], [], [], []⟩ := by decide +kernel
example : chk [] (.sys "recvmsg" (.opensL [0, 0]) (ok [0]) err) = false := by decide
/-- the spawn child of the current code never returns: dup2 failing ends in `exits` -/
example : (exec [] (spawn true allPipe [] 0) 100 ⟨[.ok 0, .ok 0, .ok 0, .ok 0, .ok 77], [], some ([.ok 0, .err 9, .ok 8], [])⟩).out = .exits := by
  decide +kernel

end TinyVerif.FdScript
