/-
C18 — io_uring ops complete once with the direct syscall's result; teardown is exact.

* Encoding.  `Gen/SqeCtors.lean` is regenerated on every run from the `new_*` constructors in
  rusl/src/platform/compat/io_uring.rs; `Model/UringAbi.lean` holds the kernel ABI (which SQE field
  carries which operand, with which C type) and the intent (which Rust parameter is which operand).
  `sqe_table_ok` checks the regenerated table by `decide`; `sqe_decode_encode` lifts it to ALL
  argument values: the kernel's reading of the 64 bytes a constructor produces is the intended
  operation — opcode, every operand intact, sqe flags and user_data intact, unused fields zero.
* Teardown.  `setup_drop_balanced`: for every kernel answer (sizes, SINGLE_MMAP or not) and every
  failing mmap, what setup_io_uring + Drop release is exactly what they acquired, each once.
* One completion per submission.  The KERNEL CONTRACT is an explicit step relation composed with the ring model
  (Model/Ring.lean `kstep`: `consume` in ring order, `complete i` = exactly one completion for the i-th in-flight
  request, any order, user_data and result of the direct system call — -ECANCELED behind a failed link —, into
  the completion ring only while it has room, else the overflow list; `flushOvf`; `idle`).  The contract is the
  ASSUMPTION (kernel behaviour; its observable consequences are what the real-ring oracle run of checks/c18.py
  checks against direct system calls on a twin).  PROVED about the wrapper under it, for every interleaving, ring
  size, index shift and initial counter: `cqe_exactly_once` / `one_cqe_per_sqe` (safety: the reaped (user_data,
  res) multiset is a sub-multiset of the owed one, no request twice, nothing invented), `cqe_complete_at_quiescence`
  (kernel quiet + ring reaped empty ⇒ equality), `link_chain_order` (+ `link_deps_spec`, `link_within_batch`,
  `owed_result`), `wake_protocol`; and BELOW call granularity (split-reap model `krun2`: the entry is read through
  the returned reference after arbitrary kernel steps): `cqe_exactly_once_split`, `one_cqe_per_sqe_split` — true
  since /repo bc63d9e (`get_next_cqe` releases the slot on the next call), false before
  (`orig_reap_reference_outlives_slot`, the finding of this model).
The `orig_*` theorems are witnesses on the model of the code before the C18 repairs.
-/
import TinyVerif.Gen.SqeCtors
import TinyVerif.Proofs.SqeLemmas
import TinyVerif.Model.UringRes
import TinyVerif.Props.C17
import TinyVerif.Proofs.RingKernel
namespace TinyVerif.C18
open TinyVerif.Sqe TinyVerif.UringRes TinyVerif.Ring

/-- the regenerated constructor table agrees with ABI + intent (all constructors except
`new_poll_add`, whose `poll_events: u16` union member covers only half of the kernel's
`poll32_events` — see `sqe_poll_add_partial`) -/
theorem sqe_table_ok : ∀ c ∈ ctors, c.name ≠ "new_poll_add" → ctorOk c = true := by decide +kernel

/-- the table covers the constructors the property lists -/
theorem sqe_table_complete :
    ["new_readv", "new_readv_fixed", "new_writev", "new_writev_fixed", "new_openat", "new_close", "new_statx",
     "new_unlink_at", "new_rename_at", "new_mkdirat", "new_socket", "new_connect_unix", "new_accept_unix",
     "new_accept_inet", "new_timeout", "new_sendmsg", "new_recvmsg", "new_poll_add"].all
      (fun n => ctors.any (fun c => c.name == n)) = true := by decide +kernel

/-- the statement of `sqe_decode_encode` for one constructor and one argument valuation -/
def DecodesAsIntended (c : Ctor) (a : Nat → Int) : Prop :=
  ∃ (s : Sqe) (opc : Int) (op : String) (intent : List (String × Want)) (row : AbiRow) (i j : Nat),
    (encode c a).length = 64 ∧ parse (encode c a) = some s ∧
    c.opcode = .const opc ∧ lookup intents c.name = some (op, intent) ∧
    findRow opc.toNat abi = some row ∧ row.op = op ∧ (s.opcode : Int) = opc ∧
    indexOf c.operands "sqe_flags" = some i ∧ (s.flags : Int) = a i ∧
    indexOf c.operands "user_data" = some j ∧ (s.userData : Int) = a j ∧
    s.ioprio = 0 ∧ s.personality = 0 ∧ s.addr3 = 0 ∧ s.pad = 0 ∧
    fieldMeaning c.operands intent a row.fd s.fd ∧
    fieldMeaning c.operands intent a row.off s.off ∧
    fieldMeaning c.operands intent a row.addr s.addr ∧
    fieldMeaning c.operands intent a row.len s.len ∧
    fieldMeaning c.operands intent a row.opflags s.opflags ∧
    fieldMeaning c.operands intent a row.bufIndex s.bufIndex ∧
    fieldMeaning c.operands intent a row.fileIndex s.fileIndex

theorem fieldsOf_wf (c : Ctor) (a : Nat → Int) (hb : c.opflagsBytes = 4) : (fieldsOf c a).WF :=
  ⟨wrap_lt _ _, wrap_lt _ _, wrap_lt _ _, wrap_lt _ _, wrap_lt _ _, wrap_lt _ _, wrap_lt _ _, hb ▸ wrap_lt _ _, wrap_lt _ _,
    wrap_lt _ _, wrap_lt _ _, wrap_lt _ _, show 0 < 256 ^ 8 by decide, show 0 < 256 ^ 8 by decide⟩

theorem findRow_some (n : Nat) : ∀ (l : List AbiRow) (r : AbiRow), findRow n l = some r → r ∈ l ∧ r.opcode = n := by
  intro l
  induction l with
  | nil => intro r h; cases h
  | cons x xs ih =>
    intro r h
    simp only [findRow] at h
    split at h
    · rename_i hx
      cases h
      exact ⟨List.mem_cons_self, hx⟩
    · obtain ⟨h1, h2⟩ := ih r h
      exact ⟨List.mem_cons_of_mem _ h1, h2⟩

theorem abi_opcodes_lt : ∀ r ∈ abi, r.opcode < 256 := by decide +kernel

/-- soundness of the table check: a constructor that passes `ctorOk` produces, for all valid
arguments, 64 bytes that the kernel reads as the intended operation -/
theorem ctorOk_sound (c : Ctor) (h : ctorOk c = true) (a : Nat → Int) (hv : ValidArgs c.operands a) :
    DecodesAsIntended c a := by
  unfold ctorOk at h
  split at h
  · rename_i opc op intent hop hint
    split at h
    · cases h
    · rename_i row hrow
      split at hrow
      · rename_i hopc0
        simp only [Bool.and_eq_true, beq_iff_eq] at h
        obtain ⟨⟨⟨⟨⟨⟨⟨⟨⟨⟨⟨⟨hopn, _⟩, hfu⟩, hio⟩, hpe⟩, hb⟩, f1⟩, f2⟩, f3⟩, f4⟩, f5⟩, f6⟩, f7⟩ := h
        split at hfu
        · rename_i i j hi hj
          simp only [Bool.and_eq_true, beq_iff_eq] at hfu
          obtain ⟨⟨⟨hfl, hud⟩, hki⟩, hkj⟩ := hfu
          have vi := hv i .u8 hki
          have vj := hv j .u64 hkj
          simp only [Kind.lo, Kind.hi] at vi vj
          have hwf := fieldsOf_wf c a hb
          refine ⟨fieldsOf c a, opc, op, intent, row, i, j, ?_, ?_, hop, hint, hrow, hopn, ?_, hi, ?_, hj, ?_,
            ?_, ?_, rfl, rfl, ?_, ?_, ?_, ?_, ?_, ?_, ?_⟩
          · exact serialize_length _
          · exact parse_serialize _ hwf
          · -- opcode: a row was found for it, so it is one of the table's opcodes (< 256)
            have hlt : opc < 256 := by
              obtain ⟨hm, he⟩ := findRow_some opc.toNat abi row hrow
              have := abi_opcodes_lt row hm
              omega
            simp only [fieldsOf, hop, evalSrc]
            exact wrap_small 1 opc hopc0 (by simpa using hlt)
          · simp only [fieldsOf, hfl, evalSrc]
            exact wrap_small 1 _ vi.1 (by simp; omega)
          · simp only [fieldsOf, hud, evalSrc]
            exact wrap_small 8 _ vj.1 (by simp; omega)
          · simp [fieldsOf, hio, evalSrc, wrap]
          · simp [fieldsOf, hpe, evalSrc, wrap]
          · exact fieldOk_sound _ _ a hv _ _ 4 4 f1
          · exact fieldOk_sound _ _ a hv _ _ 8 8 f2
          · exact fieldOk_sound _ _ a hv _ _ 8 8 f3
          · exact fieldOk_sound _ _ a hv _ _ 4 4 f4
          · have := fieldOk_sound _ _ a hv _ _ c.opflagsBytes 4 f5
            simpa only [fieldsOf] using this
          · exact fieldOk_sound _ _ a hv _ _ 2 2 f6
          · exact fieldOk_sound _ _ a hv _ _ 4 4 f7
        · cases hfu
      · cases hrow
  · cases h

/-- **sqe_decode_encode**: for every constructor of the regenerated table (except `new_poll_add`) and
ALL valid arguments, decoding the encoded 64 bytes per the ABI yields the intended operation:
operands, flags and user_data intact, unused fields zero. -/
theorem sqe_decode_encode (c : Ctor) (hc : c ∈ ctors) (hn : c.name ≠ "new_poll_add")
    (a : Nat → Int) (hv : ValidArgs c.operands a) : DecodesAsIntended c a :=
  ctorOk_sound c (sqe_table_ok c hc hn) a hv


/-- `new_poll_add` writes `poll_events` through the 2-byte union member `poll_events: u16` while the
kernel (IORING_FEAT_POLL_32BITS) reads the 4-byte `poll32_events`: every other field is as intended
(checked on the table); bytes 30..31 of the image are not written by the constructor at all, so
"events intact" holds only under the assumption that they are zero (observed so by the image
correspondence of checks/c18.py, not provable from the source). -/
theorem sqe_poll_add_partial :
    ∀ c ∈ ctors, c.name = "new_poll_add" →
      c.opcode = .const 6 ∧ c.opflagsBytes = 2 ∧
      (indexOf c.operands "poll_events").map Src.arg = some c.opflags ∧
      (indexOf c.operands "fd").map Src.arg = some c.fd ∧ (indexOf c.operands "flags").map Src.arg = some c.len ∧
      c.off = .const 0 ∧ c.addr = .const 0 ∧ c.bufIndex = .const 0 ∧ c.fileIndex = .const 0 ∧
      c.ioprio = .const 0 ∧ c.personality = .const 0 := by decide +kernel

/-! non-vacuity: a concrete constructor, concrete valid arguments, the concrete image -/
example : ∃ c ∈ ctors, c.name = "new_accept_unix" ∧
    encode c (fun i => [5, 4096, 8192, 3, 77, 0].getD i 0) =
      [13, 0, 0, 0, 5, 0, 0, 0, 0, 32, 0, 0, 0, 0, 0, 0, 0, 16, 0, 0, 0, 0, 0, 0, 0, 0, 0, 0, 3, 0, 0, 0,
       77, 0, 0, 0, 0, 0, 0, 0, 0, 0, 0, 0, 0, 0, 0, 0, 0, 0, 0, 0, 0, 0, 0, 0, 0, 0, 0, 0, 0, 0, 0, 0] := by decide +kernel

example : ValidArgs [("fd", .fd), ("user_data", .u64), ("sqe_flags", .u8)] (fun i => [5, 77, 0].getD i 0) := by
  intro i k h
  match i, h with
  | 0, h => simp [kindAt] at h; subst h; decide
  | 1, h => simp [kindAt] at h; subst h; decide
  | 2, h => simp [kindAt] at h; subst h; decide
  | _ + 3, h => simp [kindAt] at h


/-- **setup_drop_balanced**: for every kernel answer (any sizes, SINGLE_MMAP or not), every flag set
and every failing mmap, the mappings/fd released by setup's error path or by Drop are exactly the
ones setup acquired, each exactly once (this covers `setup_failure_leakfree`: `fail = some k`). -/
theorem setup_drop_balanced (flags : Nat) (a : Ans) (fail : Option Nat) :
    balanced (script .fixed flags a fail).2 = true := by
  unfold script
  by_cases h0 : fail = some 0
  · simp [h0, bail, balanced, acquired, released, countEv]
  · by_cases hs : a.single = true
    · by_cases h1 : fail = some 1
      · simp [h1, hs, bail, balanced, acquired, released, countEv]
      · simp [h0, h1, hs, balanced, acquired, released, countEv]
    · by_cases h1 : fail = some 1
      · simp [h1, hs, bail, balanced, acquired, released, countEv]
      · by_cases h2 : fail = some 2
        · simp [h2, hs, bail, balanced, acquired, released, countEv]
        · simp [h0, h1, h2, hs, balanced, acquired, released, countEv]

/-- setup succeeds exactly when no mmap fails -/
theorem setup_ok_iff (cd : UringRes.Code) (flags : Nat) (a : Ans) (fail : Option Nat) :
    (script cd flags a fail).1 = true ↔
      ¬ (fail = some 0 ∨ fail = some 1 ∨ (a.single = false ∧ fail = some 2)) := by
  -- `script` branches on exactly these four conditions; each combination evaluates
  unfold script
  by_cases h0 : fail = some 0 <;> by_cases hs : a.single = true <;> by_cases h1 : fail = some 1 <;>
    by_cases h2 : fail = some 2 <;> simp_all

/-- before the repair: with SINGLE_MMAP the shared mapping was unmapped twice -/
theorem orig_double_munmap_single_mmap :
    (script .orig 0 ⟨4, 8, 192, 64, true⟩ none).2 =
      [.S, .M 1 208 0, .M 2 256 268435456, .bar, .U 2 256, .U 1 208, .U 1 208, .C] ∧
    balanced (script .orig 0 ⟨4, 8, 192, 64, true⟩ none).2 = false := by decide +kernel

/-- before the repair: a failing second mmap leaked the ring fd and the first mapping -/
theorem orig_setup_failure_leaks :
    (script .orig 0 ⟨4, 8, 192, 64, true⟩ (some 1)).2 = [.S, .M 1 208 0, .ME 256 268435456, .bar] ∧
    balanced (script .orig 0 ⟨4, 8, 192, 64, true⟩ (some 1)).2 = false := by decide +kernel

/-- non-vacuity: the scripts of the running kernel's answer for 4 entries, as observed -/
example : (script .fixed 0 ⟨4, 8, 192, 64, true⟩ none).2 =
    [.S, .M 1 208 0, .M 2 256 268435456, .bar, .U 2 256, .U 1 208, .C] := by decide +kernel
example : (script .fixed 0 ⟨4, 8, 192, 64, false⟩ (some 2)).2 =
    [.S, .M 1 208 0, .M 2 192 134217728, .ME 256 268435456, .U 1 208, .U 2 192, .C, .bar] := by decide +kernel



/-- the state reached from a fresh ring by an arbitrary interleaving of application steps
(get+fill / flush / reap / wake) and kernel-contract steps (consume / complete / flushOvf / idle) -/
def kreached (K : Kern) (flags k kc c cc : Nat) (ops : List KOp) : KSt :=
  (krun K .fixed (kinit flags k kc c cc) ops).1

theorem kreached_inv (K : Kern) {k kc c cc : Nat} (p : Params k kc c cc) (flags : Nat) (ops : List KOp) :
    KInv K (kreached K flags k kc c cc ops) ∧ RInv k kc c cc (kreached K flags k kc c cc ops).ring :=
  ⟨krun_kinv ops (kinv_init K flags k kc c cc),
   krun_rinv ops ⟨[], _, _, _, inv_init flags k kc c cc p.hk p.hkc p.hc p.hcc⟩⟩

/-- **cqe_exactly_once** (safety).  ASSUMED: the kernel contract, i.e. the kernel moves only by the steps
`consume` / `complete` / `flushOvf` / `idle` of Model/Ring.lean (in-order consumption, exactly one completion
per consumed entry with its user_data and the direct call's result or -ECANCELED behind a failed link,
posted in any order, only while the completion ring has room, overflow list otherwise).  PROVED about the
wrapper (`get_next_sqe_slot`, `flush_submission_queue`, `get_next_cqe` as they are in /repo): for every ring
size, index shift, initial counter (wrap) and every interleaving,
* completion by completion, what the application reaped is the completion the contract owes to request
  number `reapedSeq[i]` (`expWord`: that entry's user_data and result),
* no request number occurs twice (exactly once) and each is the number of a consumed entry (nothing invented),
* hence the multiset of reaped completions is a sub-multiset of the completions owed for the consumed entries,
* and the consumed entries are, in order, a prefix of the flushed ones, which are a prefix of the filled ones. -/
theorem cqe_exactly_once (K : Kern) {k kc c cc : Nat} (p : Params k kc c cc) (flags : Nat) (ops : List KOp) :
    (kreached K flags k kc c cc ops).ring.reaped.map Ent.val =
      (reapedSeq (kreached K flags k kc c cc ops)).map
        (expWord K (kreached K flags k kc c cc ops).ring.consumed (kreached K flags k kc c cc ops).deps) ∧
    (reapedSeq (kreached K flags k kc c cc ops)).Nodup ∧
    (∀ q ∈ reapedSeq (kreached K flags k kc c cc ops), q < (kreached K flags k kc c cc ops).ring.consumed.length) ∧
    (∃ rest, ((kreached K flags k kc c cc ops).ring.reaped.map Ent.val ++ rest).Perm
      (owed K (kreached K flags k kc c cc ops))) ∧
    (kreached K flags k kc c cc ops).ring.consumed <+: (kreached K flags k kc c cc ops).ring.flushed ∧
    (kreached K flags k kc c cc ops).ring.flushed <+: (kreached K flags k kc c cc ops).ring.filled := by
  obtain ⟨h, hr⟩ := kreached_inv K p flags ops
  obtain ⟨a, b, c', d⟩ := safety_state h hr
  obtain ⟨hold, inq, unpub, cinq, hi⟩ := hr
  exact ⟨a, b, c', d, ⟨inq, hi.flushed_eq.symm⟩, ⟨unpub, hi.filled_eq.symm⟩⟩

/-- **cqe_complete_at_quiescence**: under the same contract, when the kernel has nothing pending (`KQuiet`:
nothing published is unconsumed, nothing in flight, overflow list empty) and the application has reaped
until `get_next_cqe` returns `None`, every flushed entry has been consumed and the reaped completions are,
as a multiset, exactly the completions owed — none missing, none extra. -/
theorem cqe_complete_at_quiescence (K : Kern) {k kc c cc : Nat} (p : Params k kc c cc) (flags : Nat)
    (ops : List KOp) (hq : KQuiet (kreached K flags k kc c cc ops))
    (hempty : (step .fixed (kreached K flags k kc c cc ops).ring .reap).2 = .noCqe) :
    (kreached K flags k kc c cc ops).ring.consumed = (kreached K flags k kc c cc ops).ring.flushed ∧
    ((kreached K flags k kc c cc ops).ring.reaped.map Ent.val).Perm (owed K (kreached K flags k kc c cc ops)) := by
  obtain ⟨h, hr⟩ := kreached_inv K p flags ops
  exact complete_state h hr hq hempty

/-- **link_chain_order**: under the contract, a completion of a request linked behind request `m` is
reaped only after the completion of `m` (completions of one IOSQE_IO_LINK chain are reaped in chain order),
although completions in general come in any order. -/
theorem link_chain_order (K : Kern) {k kc c cc : Nat} (p : Params k kc c cc) (flags : Nat) (ops : List KOp)
    (i q m : Nat) (hi : (reapedSeq (kreached K flags k kc c cc ops))[i]? = some q)
    (hd : (kreached K flags k kc c cc ops).deps[q]? = some (some m)) :
    ∃ j, j < i ∧ (reapedSeq (kreached K flags k kc c cc ops))[j]? = some m :=
  link_order_state (kreached_inv K p flags ops).1 i q m hi hd

/-- what "linked behind `m`" means: `m` is the entry consumed just before, and it carries IOSQE_IO_LINK -/
theorem link_deps_spec (K : Kern) {k kc c cc : Nat} (p : Params k kc c cc) (flags : Nat) (ops : List KOp)
    (q m : Nat) (hd : (kreached K flags k kc c cc ops).deps[q]? = some (some m)) :
    m + 1 = q ∧ ∃ e, (kreached K flags k kc c cc ops).ring.consumed[m]? = some e ∧ K.link e.val = true :=
  (kreached_inv K p flags ops).1.dep_ok q m hd

/-- and conversely, within one submission batch an entry is linked behind its predecessor exactly when the
predecessor carries IOSQE_IO_LINK (the first entry of a batch is linked behind nothing) -/
theorem link_within_batch (K : Kern) (n : Nat) (es : List Ent) (j : Nat) (r r' : Req)
    (h0 : (tagReqs K n none es)[j]? = some r) (h1 : (tagReqs K n none es)[j + 1]? = some r') :
    r'.dep = if K.link r.ent.val then some r.seq else none :=
  tagReqs_adjacent K es n none j r r' h0 h1

/-- **owed_result**: the completion the contract owes for the q-th consumed entry `e` carries `e`'s user_data and,
as result, the direct system call's (`K.sys q`) — unless `e` is linked behind a request that failed: then
-ECANCELED.  A request fails when it is cancelled or when its result severs the chain (`K.severs`). -/
theorem owed_result (K : Kern) {k kc c cc : Nat} (p : Params k kc c cc) (flags : Nat) (ops : List KOp)
    (q : Nat) (e : Ent) (dep : Option Nat)
    (he : (kreached K flags k kc c cc ops).ring.consumed[q]? = some e)
    (hd : (kreached K flags k kc c cc ops).deps[q]? = some dep) :
    expWord K (kreached K flags k kc c cc ops).ring.consumed (kreached K flags k kc c cc ops).deps q =
      cqeWord (K.ud e.val)
        (if (dep.any fun m => (outcome K (kreached K flags k kc c cc ops).ring.consumed
              (kreached K flags k kc c cc ops).deps m).2) = true then ECANCELED else K.sys q e.val) ∧
    (outcome K (kreached K flags k kc c cc ops).ring.consumed (kreached K flags k kc c cc ops).deps q).2 =
      ((dep.any fun m => (outcome K (kreached K flags k kc c cc ops).ring.consumed
              (kreached K flags k kc c cc ops).deps m).2) ||
        K.severs e.val
          (if (dep.any fun m => (outcome K (kreached K flags k kc c cc ops).ring.consumed
              (kreached K flags k kc c cc ops).deps m).2) = true then ECANCELED else K.sys q e.val)) := by
  have h := (kreached_inv K p flags ops).1
  generalize kreached K flags k kc c cc ops = s at *
  have ho := outcome_eq K s.ring.consumed s.deps q dep hd (fun m hm => (h.dep_ok q m (by rw [hd, hm])).1)
  rw [he] at ho
  unfold expWord
  rw [he, ho]
  exact ⟨rfl, rfl⟩

/-- **one_cqe_per_sqe** — the property in its own terms, for entries without IOSQE_IO_LINK.  ASSUMED: the kernel
contract (see `cqe_exactly_once`; it is what the real-ring oracle run of checks/c18.py observes).  PROVED about
the wrapper, for every ring size, index shift, initial counter and interleaving:
(1) safety — the (user_data, res) pairs the application has reaped are a sub-multiset of
    {(e.user_data, result of the direct system call for e) | e filled and flushed}: no completion is lost by
    the wrapper, reaped twice or invented;
(2) completeness at quiescence — when the kernel has nothing pending and `get_next_cqe` returns `None`, the
    reaped pairs are exactly that multiset. -/
theorem one_cqe_per_sqe (K : Kern) {k kc c cc : Nat} (p : Params k kc c cc) (flags : Nat) (ops : List KOp)
    (hnl : ∀ e ∈ (kreached K flags k kc c cc ops).ring.filled, K.link e.val = false) :
    (∃ rest, (reapedPairs (kreached K flags k kc c cc ops) ++ rest).Perm
      (flushedPairs K (kreached K flags k kc c cc ops))) ∧
    (KQuiet (kreached K flags k kc c cc ops) →
      (step .fixed (kreached K flags k kc c cc ops).ring .reap).2 = .noCqe →
      (reapedPairs (kreached K flags k kc c cc ops)).Perm (flushedPairs K (kreached K flags k kc c cc ops))) := by
  obtain ⟨h, hr⟩ := kreached_inv K p flags ops
  exact pairs_state h hr hnl

/-- sub-multiset, said with counts: no pair is reaped more often than it is owed -/
theorem one_cqe_per_sqe_count (K : Kern) {k kc c cc : Nat} (p : Params k kc c cc) (flags : Nat) (ops : List KOp)
    (hnl : ∀ e ∈ (kreached K flags k kc c cc ops).ring.filled, K.link e.val = false) (x : Nat × Nat) :
    (reapedPairs (kreached K flags k kc c cc ops)).count x ≤
      (flushedPairs K (kreached K flags k kc c cc ops)).count x := by
  obtain ⟨rest, hperm⟩ := (one_cqe_per_sqe K p flags ops hnl).1
  have := hperm.count_eq x
  rw [List.count_append] at this
  omega

/-- **wake_protocol**: `needs_wakeup()` answers exactly whether the kernel raised IORING_SQ_NEED_WAKEUP — also while
IORING_SQ_CQ_OVERFLOW is up (overflow list non-empty) — so after the application's `wake` step the submission
thread is awake; and a sleeping thread consumes nothing (a missed wake-up means no completion, ever). -/
theorem wake_protocol (K : Kern) (cd : Ring.Code) (s : KSt) :
    (kstep K cd s .wake).2 = .wake s.needWake ∧ (kstep K cd s .wake).1.needWake = false ∧
    (s.needWake = true → ∀ n, kstep K cd s (.consume n) = (s, .consumed [])) := by
  refine ⟨?_, ?_, ?_⟩
  · obtain ⟨ring, nw, pend, ovf, dn, fl, dp, ps⟩ := s
    cases nw <;> cases ovf <;> simp [kstep, flagsWord, needsWakeup]
  · obtain ⟨ring, nw, pend, ovf, dn, fl, dp, ps⟩ := s
    cases nw <;> cases ovf <;> simp [kstep, flagsWord, needsWakeup]
  · intro hw n
    simp only [kstep, kConsumeK, hw, if_true]

/-! ### below call granularity: the reference `get_next_cqe` returns (split-reap model `krun2`)

FOUND with this model and REPAIRED in /repo (bc63d9e): `get_next_cqe` used to advance the shared completion head
before it returned the reference (`completion_queue.advance(1)` preceded `cqe.as_ref()`), so the kernel could refill
the slot while the caller still held the unread reference: one operation's completion lost, another delivered
twice (`orig_reap_reference_outlives_slot`, on `Code.eagerRelease`; it was reproduced on the real code with the
simulated kernel, and on the running kernel both with a safe `io_uring_enter(GETEVENTS)` between call and read and
with no system call at all in between).  The current code releases the slot on the NEXT call (`release_pending`);
for it exactly-once holds below call granularity too: `cqe_exactly_once_split`, `one_cqe_per_sqe_split`. -/

/-- the state reached by an arbitrary interleaving in which the application may read the returned entry LATER than
`get_next_cqe` returns (`reapBegin` … any kernel steps … `reapRead`) -/
def kreached2 (K : Kern) (flags k kc c cc : Nat) (ops : List KOp2) : KSt2 :=
  (krun2 K .fixed (kinit2 flags k kc c cc) ops).1

/-- the (user_data, res) pairs the application actually read through the references, in order -/
def readPairs (s : KSt2) : List (Nat × Nat) := s.readLog.map fun e => (cqeUd e.val, cqeRes e.val)

theorem kreached2_inv (K : Kern) {k kc c cc : Nat} (p : Params k kc c cc) (flags : Nat) (ops : List KOp2) :
    K2Inv K k kc c cc (kreached2 K flags k kc c cc ops) :=
  krun2_inv ops (k2inv_init K flags k kc c cc p.hk p.hkc p.hc p.hcc)

/-- **cqe_exactly_once_split**: under the kernel contract, with reads through the returned reference delayed
arbitrarily (any kernel steps between `get_next_cqe` returning and the read): what the application READ is, entry
by entry, what `get_next_cqe` handed out (a prefix of it; all of it when no reference is outstanding), and what was
handed out satisfies the completion-side clauses of `cqe_exactly_once` — no request twice, nothing invented, a
sub-multiset of the completions owed. -/
theorem cqe_exactly_once_split (K : Kern) {k kc c cc : Nat} (p : Params k kc c cc) (flags : Nat) (ops : List KOp2) :
    (kreached2 K flags k kc c cc ops).readLog <+: (kreached2 K flags k kc c cc ops).k.ring.reaped ∧
    ((kreached2 K flags k kc c cc ops).held = none →
      (kreached2 K flags k kc c cc ops).readLog = (kreached2 K flags k kc c cc ops).k.ring.reaped) ∧
    (kreached2 K flags k kc c cc ops).k.ring.reaped.map Ent.val =
      (reapedSeq (kreached2 K flags k kc c cc ops).k).map
        (expWord K (kreached2 K flags k kc c cc ops).k.ring.consumed (kreached2 K flags k kc c cc ops).k.deps) ∧
    (reapedSeq (kreached2 K flags k kc c cc ops).k).Nodup ∧
    (∀ q ∈ reapedSeq (kreached2 K flags k kc c cc ops).k, q < (kreached2 K flags k kc c cc ops).k.ring.consumed.length) ∧
    (∃ rest, ((kreached2 K flags k kc c cc ops).readLog.map Ent.val ++ rest).Perm
      (owed K (kreached2 K flags k kc c cc ops).k)) := by
  have h := kreached2_inv K p flags ops
  generalize kreached2 K flags k kc c cc ops = s at *
  obtain ⟨h1, h2, hr⟩ := h.readLog_prefix
  obtain ⟨a, b, c', rest, d⟩ := safety_state h.kinv hr
  refine ⟨h1, h2, a, b, c', ?_⟩
  obtain ⟨t, ht⟩ := h1
  refine ⟨t.map Ent.val ++ rest, ?_⟩
  rw [← List.append_assoc, ← List.map_append, ht]
  exact d

/-- **one_cqe_per_sqe_split**: `one_cqe_per_sqe` for delayed reads — the pairs the application actually read are a
sub-multiset of {(e.user_data, result of the direct call for e) | e filled and flushed}; at quiescence, with no
reference outstanding, exactly that multiset. -/
theorem one_cqe_per_sqe_split (K : Kern) {k kc c cc : Nat} (p : Params k kc c cc) (flags : Nat) (ops : List KOp2)
    (hnl : ∀ e ∈ (kreached2 K flags k kc c cc ops).k.ring.filled, K.link e.val = false) :
    (∃ rest, (readPairs (kreached2 K flags k kc c cc ops) ++ rest).Perm
      (flushedPairs K (kreached2 K flags k kc c cc ops).k)) ∧
    (KQuiet (kreached2 K flags k kc c cc ops).k → (kreached2 K flags k kc c cc ops).held = none →
      (step .fixed (kreached2 K flags k kc c cc ops).k.ring .reap).2 = .noCqe →
      (readPairs (kreached2 K flags k kc c cc ops)).Perm (flushedPairs K (kreached2 K flags k kc c cc ops).k)) := by
  have h := kreached2_inv K p flags ops
  generalize kreached2 K flags k kc c cc ops = s at *
  obtain ⟨h1, h2, hr⟩ := h.readLog_prefix
  obtain ⟨⟨rest, d⟩, q⟩ := pairs_state h.kinv hr hnl
  constructor
  · obtain ⟨t, ht⟩ := h1
    refine ⟨t.map (fun e => (cqeUd e.val, cqeRes e.val)) ++ rest, ?_⟩
    rw [← List.append_assoc, readPairs, ← List.map_append, ht]
    exact d
  · intro hq hn he
    rw [readPairs, h2 hn]
    exact q hq he

/-- the atomic `reap` of the contract model is the split reap with the read at once -/
theorem split_reap_is_reap (K : Kern) (cd : Ring.Code) (s : KSt2) (hh : s.held = none) :
    (kstep2 K cd s (.k .reap)).1 = (krun2 K cd s [.reapBegin, .reapRead]).1 ∧
    (kstep2 K cd s (.k .reap)).1.k = (kstep K cd s.k .reap).1 := by
  obtain ⟨sk, held, rl⟩ := s
  simp only at hh
  subst hh
  simp only [krun2, kstep2, kstep, step_reap, kReapBegin, kReapRead, KOp.isApp, Option.isSome_none, Bool.false_and]
  cases h : getNextCqe cd sk.ring with
  | panic r1 => exact ⟨rfl, rfl⟩
  | ok r1 o =>
    cases o with
    | none => exact ⟨rfl, rfl⟩
    | some i => exact ⟨rfl, rfl⟩

/-- **orig_reap_reference_outlives_slot** — before /repo bc63d9e (`Code.eagerRelease`): ring of 1 submission / 2
completion entries, three operations with user_data 1, 2, 3 and results 7, 8, 9; the third completion overflows; a
kernel overflow flush between `get_next_cqe()` returning and the read: the application reads (3, 9), (2, 8), (3, 9)
— (1, 7) is lost, (3, 9) is delivered twice — NOT a sub-multiset of the owed pairs, although every kernel step
obeys the contract.  On the current code the same operations read (1, 7), (2, 8), (3, 9) (the flush finds no room
until the next `get_next_cqe` call releases the slot). -/
theorem orig_reap_reference_outlives_slot :
    readPairs (krun2 nopKern .eagerRelease (kinit2 0 0 1 0 0)
      [.k (.get (sqeWord 1 0 7)), .k .flush, .k (.consume 1), .k (.complete 0),
       .k (.get (sqeWord 2 0 8)), .k .flush, .k (.consume 1), .k (.complete 0),
       .k (.get (sqeWord 3 0 9)), .k .flush, .k (.consume 1), .k (.complete 0),
       .reapBegin, .k (.flushOvf 1), .reapRead, .k .reap, .k .reap, .k .reap]).1 = [(3, 9), (2, 8), (3, 9)] ∧
    flushedPairs nopKern (krun2 nopKern .eagerRelease (kinit2 0 0 1 0 0)
      [.k (.get (sqeWord 1 0 7)), .k .flush, .k (.consume 1), .k (.complete 0),
       .k (.get (sqeWord 2 0 8)), .k .flush, .k (.consume 1), .k (.complete 0),
       .k (.get (sqeWord 3 0 9)), .k .flush, .k (.consume 1), .k (.complete 0),
       .reapBegin, .k (.flushOvf 1), .reapRead, .k .reap, .k .reap, .k .reap]).1.k = [(1, 7), (2, 8), (3, 9)] ∧
    (¬ ∃ rest, ([(3, 9), (2, 8), (3, 9)] ++ rest : List (Nat × Nat)).Perm [(1, 7), (2, 8), (3, 9)]) ∧
    readPairs (kreached2 nopKern 0 0 1 0 0
      [.k (.get (sqeWord 1 0 7)), .k .flush, .k (.consume 1), .k (.complete 0),
       .k (.get (sqeWord 2 0 8)), .k .flush, .k (.consume 1), .k (.complete 0),
       .k (.get (sqeWord 3 0 9)), .k .flush, .k (.consume 1), .k (.complete 0),
       .reapBegin, .k (.flushOvf 1), .reapRead, .k .reap, .k (.flushOvf 1), .k .reap, .k .reap]) =
      [(1, 7), (2, 8), (3, 9)] := by
  refine ⟨by decide, by decide, ?_, by decide⟩
  intro ⟨rest, hperm⟩
  have := hperm.count_eq (3, 9)
  rw [List.count_append] at this
  have h1 : List.count ((3, 9) : Nat × Nat) [(3, 9), (2, 8), (3, 9)] = 2 := by decide +kernel
  have h2 : List.count ((3, 9) : Nat × Nat) [(1, 7), (2, 8), (3, 9)] = 1 := by decide +kernel
  omega

/-- non-vacuity of the split theorems: a reference held across a kernel flush attempt and a completion; the
hypotheses of `one_cqe_per_sqe_split`'s second half hold at the end -/
example :
    let s := kreached2 nopKern 0 0 1 4294967295 4294967295
      [.k (.get (sqeWord 1 0 7)), .k .flush, .k (.consume 1), .k (.complete 0),
       .k (.get (sqeWord 2 0 8)), .k .flush, .k (.consume 1), .k (.complete 0),
       .k (.get (sqeWord 3 0 9)), .k .flush, .k (.consume 1),
       .reapBegin, .k (.complete 0), .k (.flushOvf 1), .reapRead, .k .reap, .k (.flushOvf 1), .k .reap, .k .reap]
    s.readLog = s.k.ring.reaped ∧ s.held = none ∧ readPairs s = [(1, 7), (2, 8), (3, 9)] ∧
    (s.k.ring.sqKHead = s.k.ring.sqKTail ∧ s.k.pend = [] ∧ s.k.ovf = []) ∧
    (step .fixed s.k.ring .reap).2 = .noCqe := by decide +kernel

/-! non-vacuity of the contract theorems: concrete interleavings on the concrete kernel `nopKern` (entry =
`sqeWord user_data flags len`, the "system call" returns `len`, negative = failure) -/

/-- both rings cross the 32-bit wrap; completions out of submission order (request 1 before 0); an IOSQE_IO_LINK
chain 2→3 whose head fails (res -1): 3 cannot complete before 2 and is then cancelled (-ECANCELED = 4294967171);
the completion ring (2 entries) is full: two completions go to the overflow list and are flushed later, in order
(a flush finds room only after the NEXT `get_next_cqe` call has released the slot of the entry reaped before) -/
example :
    (krun nopKern .fixed (kinit 0 1 1 4294967295 4294967295)
      [.get (sqeWord 1 0 7), .get (sqeWord 2 0 8), .flush, .consume 2, .complete 1,
       .get (sqeWord 3 4 4294967295), .get (sqeWord 4 0 9), .flush, .consume 2,
       .complete 2, .complete 1, .complete 1, .complete 0, .flushOvf 5, .reap, .flushOvf 5, .reap, .flushOvf 5,
       .reap, .flushOvf 5, .reap, .reap]).2 =
    [.app (.slot 1), .app (.slot 0), .app (.flushed 2),
     .consumed [⟨0, ⟨1, sqeWord 1 0 7⟩, none⟩, ⟨1, ⟨0, sqeWord 2 0 8⟩, none⟩], .completed 1 (cqeWord 2 8) true,
     .app (.slot 1), .app (.slot 0), .app (.flushed 2),
     .consumed [⟨2, ⟨1, sqeWord 3 4 4294967295⟩, none⟩, ⟨3, ⟨0, sqeWord 4 0 9⟩, some 2⟩],
     .notReady, .completed 2 (cqeWord 3 4294967295) true, .completed 3 (cqeWord 4 ECANCELED) false,
     .completed 0 (cqeWord 1 7) false, .flushedOvf 0, .app (.cqe (cqeWord 2 8)), .flushedOvf 0,
     .app (.cqe (cqeWord 3 4294967295)), .flushedOvf 1, .app (.cqe (cqeWord 4 ECANCELED)), .flushedOvf 1,
     .app (.cqe (cqeWord 1 7)), .app .noCqe] := by decide +kernel

/-- the hypotheses of `cqe_complete_at_quiescence` / `link_chain_order` are met by that run: the kernel is quiet,
the ring is reaped empty, request 3 is linked behind 2, and the reaped request numbers are 1, 2, 3, 0 -/
example :
    let s := kreached nopKern 0 1 1 4294967295 4294967295
      [.get (sqeWord 1 0 7), .get (sqeWord 2 0 8), .flush, .consume 2, .complete 1,
       .get (sqeWord 3 4 4294967295), .get (sqeWord 4 0 9), .flush, .consume 2,
       .complete 2, .complete 1, .complete 1, .complete 0, .flushOvf 5, .reap, .flushOvf 5, .reap, .flushOvf 5,
       .reap, .flushOvf 5, .reap, .reap]
    (s.ring.sqKHead = s.ring.sqKTail ∧ s.pend = [] ∧ s.ovf = []) ∧ (step .fixed s.ring .reap).2 = .noCqe ∧
    s.deps = [none, none, none, some 2] ∧ reapedSeq s = [1, 2, 3, 0] ∧
    reapedPairs s = [(2, 8), (3, 4294967295), (4, 4294967171), (1, 7)] := by decide +kernel

/-- an SQPOLL ring: the idle kernel thread consumes nothing until the application's wake step, also with
IORING_SQ_CQ_OVERFLOW up (flags word 3) -/
example :
    (krun nopKern .fixed (kinit 2 0 0 0 0)
      [.get (sqeWord 1 0 7), .flush, .consume 1, .complete 0, .get (sqeWord 2 0 8), .flush, .consume 1, .complete 0,
       .idle, .get (sqeWord 3 0 9), .flush, .consume 1, .wake, .consume 1]).2 =
    [.app (.slot 0), .app (.flushed 1), .consumed [⟨0, ⟨0, sqeWord 1 0 7⟩, none⟩], .completed 0 (cqeWord 1 7) true,
     .app (.slot 0), .app (.flushed 1), .consumed [⟨1, ⟨0, sqeWord 2 0 8⟩, none⟩], .completed 1 (cqeWord 2 8) false,
     .idle, .app (.slot 0), .app (.flushed 1), .consumed [], .wake true,
     .consumed [⟨2, ⟨0, sqeWord 3 0 9⟩, none⟩]] := by decide +kernel

/-- `Kern` is inhabited by a kernel without links (hypothesis of `one_cqe_per_sqe`) -/
example : ∀ e ∈ (kreached nopKern 0 1 1 0 0 [.get (sqeWord 1 0 7), .get (sqeWord 2 2 8)]).ring.filled,
    nopKern.link e.val = false := by decide +kernel

end TinyVerif.C18
