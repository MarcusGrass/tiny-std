/-
C13 — spawn returns only in the caller; the child runs exactly what was configured, or the caller gets Err.

Model: Model/Spawn.lean.  `fixed = true` is the code as it is now (after the `fix:` commits of this property),
`fixed = false` the code before: witnesses `child_dup2_fail_returns_twice`, `old_env_dropped_without_start`.
-/
import TinyVerif.Model.Spawn
import TinyVerif.Model.SpawnEnv
import TinyVerif.Model.SpawnIds
namespace TinyVerif.Spawn

/-- the vectors handed to execve are the strings' pointers followed by NULL -/
def WF (c : Cmd) : Prop :=
  c.argv = c.args.map ptr ++ [0] ∧
  match c.env with
  | .provided vars envp => envp = vars.map ptr ++ [0]
  | _ => True

/-- variables held by the environment (none for Inherit / None) -/
def envVars : Env → List Nat
  | .provided v _ => v
  | _ => []

def isProvided : Env → Prop
  | .provided _ _ => True
  | _ => False

/-- states a build can be in: `Environment::Inherit` exists only with the `start` feature -/
def Reach (start : Bool) (c : Cmd) : Prop := start = true ∨ c.env ≠ .inherit

/-- `c'` is `c` after builder calls asking for `as` more arguments and `es` more variables -/
def Ext (c c' : Cmd) (as es : List Nat) : Prop :=
  c'.args = c.args ++ as ∧ envVars c'.env = envVars c.env ++ es ∧
    ((es ≠ [] ∧ isProvided c'.env) ∨ (es = [] ∧ c'.env = c.env))

/-- `r` is `c` after builder calls asking for `as` more arguments and `es` more variables: no panic, and the result
    is well formed and reachable again -/
def Steps (start : Bool) (c : Cmd) (r : Option Cmd) (as es : List Nat) : Prop :=
  ∃ c', r = some c' ∧ WF c' ∧ Reach start c' ∧ Ext c c' as es

theorem Steps.refl {start : Bool} {c : Cmd} (h : WF c) (hr : Reach start c) : Steps start c (some c) [] [] :=
  ⟨c, rfl, h, hr, by simp, by simp, Or.inr ⟨rfl, rfl⟩⟩

theorem Steps.bind {start : Bool} {c : Cmd} {r : Option Cmd} {g : Cmd → Option Cmd} {as1 es1 as2 es2 : List Nat}
    (h1 : Steps start c r as1 es1) (h2 : ∀ c', WF c' → Reach start c' → Steps start c' (g c') as2 es2) :
    Steps start c (r.bind g) (as1 ++ as2) (es1 ++ es2) := by
  obtain ⟨c1, rfl, w1, r1, a1, e1, p1⟩ := h1
  obtain ⟨c2, e, w2, r2, a2, e2, p2⟩ := h2 c1 w1 r1
  refine ⟨c2, e, w2, r2, by rw [a2, a1, List.append_assoc], by rw [e2, e1, List.append_assoc], ?_⟩
  rcases p2 with h | h
  · exact Or.inl ⟨by simp [h.1], h.2⟩
  · rcases p1 with g | g
    · rw [h.2]; exact Or.inl ⟨by simp [g.1], g.2⟩
    · exact Or.inr ⟨by simp [h.1, g.1], by rw [h.2, g.2]⟩

theorem setAt_last (xs : List Ptr) (y v : Ptr) : setAt (xs ++ [y]) xs.length v = some (xs ++ [v]) := by
  induction xs with
  | nil => rfl
  | cons h t ih => simp [setAt, ih]

theorem arg_step (start : Bool) (a : Nat) (c : Cmd) (h : WF c) (hr : Reach start c) :
    Steps start c (arg c a) [a] [] := by
  obtain ⟨h1, h2⟩ := h
  have := setAt_last (c.args.map ptr) 0 (ptr a)
  rw [List.length_map] at this
  exact ⟨{ c with args := c.args ++ [a], argv := (c.args.map ptr ++ [ptr a]) ++ [0] }, by simp [arg, h1, this],
    ⟨by simp, h2⟩, hr, rfl, by simp, Or.inr ⟨rfl, rfl⟩⟩

theorem env_step (start : Bool) (e : Nat) (c : Cmd) (h : WF c) (hr : Reach start c) :
    Steps start c (env true start c e) [] [e] := by
  obtain ⟨h1, h2⟩ := h
  cases hc : c.env with
  | provided v p =>
    rw [hc] at h2
    have := setAt_last (v.map ptr) 0 (ptr e)
    rw [List.length_map] at this
    exact ⟨{ c with env := .provided (v ++ [e]) ((v.map ptr ++ [ptr e]) ++ [0]) }, by simp [env, envSwitch, hc, h2, this],
      ⟨h1, by simp⟩, hr.imp_right (by simp), by simp, by simp [envVars, hc], Or.inl ⟨by simp, trivial⟩⟩
  | _ =>
    -- Inherit (only with `start`) and None: the mode switch makes the environment an empty Provided first
    have hs : start = true ∨ c.env = .none := by rcases hr with h | h <;> simp_all
    exact ⟨{ c with env := .provided [e] [ptr e, 0] }, by rcases hs with h | h <;> simp_all [env, envSwitch, setAt],
      ⟨h1, rfl⟩, hr.imp_right (by simp), by simp, by simp [envVars, hc], Or.inl ⟨by simp, trivial⟩⟩

theorem argsL_step (start : Bool) (l : List Nat) : ∀ c, WF c → Reach start c → Steps start c (argsL c l) l [] := by
  induction l with
  | nil => exact fun c => Steps.refl
  | cons a r ih => exact fun c h hr => (arg_step start a c h hr).bind ih

theorem envsL_step (start : Bool) (l : List Nat) :
    ∀ c, WF c → Reach start c → Steps start c (envsL true start c l) [] l := by
  induction l with
  | nil => exact fun c => Steps.refl
  | cons a r ih => exact fun c h hr => (env_step start a c h hr).bind ih

theorem applyAll_inv (start : Bool) (ops : List Op) :
    ∀ c, WF c → Reach start c → Steps start c (applyAll true start c ops) (wantedArgs ops) (wantedEnv ops) := by
  induction ops with
  | nil => exact fun c => Steps.refl
  | cons o r ih =>
    intro c h hr
    cases o with
    | arg a => exact (arg_step start a c h hr).bind ih
    | args l => exact (argsL_step start l c h hr).bind ih
    | env e => exact (env_step start e c h hr).bind ih
    | envs l => exact (envsL_step start l c h hr).bind ih

theorem new_wf (start : Bool) (bin : Nat) : WF (new start bin) := ⟨rfl, by cases start <;> simp [new]⟩

theorem new_reach (start : Bool) (bin : Nat) : Reach start (new start bin) := by cases start <;> simp [Reach, new]

theorem WF.provided {c : Cmd} (w : WF c) (hp : isProvided c.env) :
    c.env = .provided (envVars c.env) ((envVars c.env).map ptr ++ [0]) := by
  cases hc : c.env with
  | provided v p => have := w.2; rw [hc] at this; simp only at this; rw [this]; rfl
  | _ => rw [hc] at hp; exact hp.elim

/-- After ANY sequence of builder calls on `Command::new(bin)` (either build): no indexing panic; `argv` is
    exactly the pointers of `bin` and of every requested argument, in order, then NULL; and if any variable was
    requested the environment is Provided with exactly the requested variables, in order, `envp` being their
    pointers then NULL; otherwise it is still the default (Inherit with `start`, None without). -/
theorem argv_envp_wellformed (start : Bool) (bin : Nat) (ops : List Op) :
    ∃ c, applyAll true start (new start bin) ops = some c ∧
      c.argv = (bin :: wantedArgs ops).map ptr ++ [0] ∧
      (wantedEnv ops ≠ [] → c.env = .provided (wantedEnv ops) ((wantedEnv ops).map ptr ++ [0])) ∧
      (wantedEnv ops = [] → c.env = (new start bin).env) := by
  obtain ⟨c, e, w, _, xa, xe, xp⟩ := applyAll_inv start ops _ (new_wf start bin) (new_reach start bin)
  have ev0 : envVars (new start bin).env = [] := by cases start <;> rfl
  rw [ev0, List.nil_append] at xe
  refine ⟨c, e, by rw [w.1, xa]; rfl, fun hne => ?_, fun he => ?_⟩
  · rcases xp with hp | h
    · rw [w.provided hp.2, xe]
    · exact absurd h.1 hne
  · rcases xp with h | h
    · exact absurd he h.1
    · exact h.2

/-- before the repair, without the `start` feature, `env()` dropped the variable: the default environment is
    None, the mode switch only fired for an environment that was NOT None -/
theorem old_env_dropped_without_start :
    (applyAll false false (new false 7) [.env 1, .env 2]).map (·.env) = some .none := by decide

theorem childRun_fixed_not_returned (steps : List CStep) (cf : CFault) (e : Option Nat) :
    childRun true steps cf ≠ .returned e := by
  unfold childRun
  cases cf with
  | none => simp
  | some p =>
    obtain ⟨k, x⟩ := p
    simp only
    split
    · simp
    · simp only [Bool.or_true, if_true]
      cases x <;> simp

/-- For every configuration, every caller-side and every child-side fault: exactly one process comes back out
    of `spawn`, and it is the caller. -/
theorem spawn_single_return (c : Config) (pf : PFault) (cf : CFault) :
    returners (spawn true c pf cf) = [.caller] := by
  unfold spawn returners
  cases hb : pf.before with
  | some e => simp
  | none =>
    simp only
    cases hce : childRun true (childSteps c) cf with
    | returned e => exact absurd hce (childRun_fixed_not_returned _ _ _)
    | execd => rfl
    | reported e => rfl

/-- The code before the repair: dup2 of stdin fails with EBADF in the child ⇒ two processes return from spawn,
    and the caller is even told Ok (it sees EOF on the pipe when the stray copy finally exits). -/
theorem child_dup2_fail_returns_twice :
    let r := spawn false ⟨[0, 1, 2], false, false, false, false, 0⟩ PFault.none (some (0, some 9))
    returners r = [.caller, .child] ∧ r.parent = .ok := by decide

/-- ... and so did every other set-up step before execve: chdir, setuid, setgid, setpgid, a closure -/
theorem old_every_setup_step_returns_in_child (c : Config) (k : Nat) (e : Option Nat)
    (hk : k + 1 < (childSteps c).length) :
    returners (spawn false c PFault.none (some (k, e))) = [.caller, .child] := by
  have h1 : ¬ k ≥ (childSteps c).length := by omega
  have h2 : ¬ k + 1 = (childSteps c).length := by omega
  simp [spawn, returners, PFault.none, childRun, h1, h2]

/-- Ok means exec: the caller gets Ok exactly when no caller-side call failed and the child went through every
    configured step and execve succeeded — whatever fails in the child, with or without an errno. -/
theorem spawn_ok_means_exec (c : Config) (pf : PFault) (cf : CFault) :
    (spawn true c pf cf).parent = .ok ↔
      (pf.before = none ∧ pf.readErr = none ∧ (spawn true c pf cf).child = some .execd) := by
  unfold spawn
  cases hb : pf.before with
  | some e => simp [parentRun, hb]
  | none =>
    cases hce : childRun true (childSteps c) cf with
    | returned e => exact absurd hce (childRun_fixed_not_returned _ _ _)
    | execd => cases hr : pf.readErr <;> cases hw : pf.waitErr <;> simp [parentRun, hb, hr, hw, pipeOf]
    | reported e =>
      cases hr : pf.readErr <;> cases hw : pf.waitErr <;> by_cases he : e = 0 <;>
        simp [parentRun, hb, hr, hw, pipeOf, he]

/-- Err carries the failing step's errno: whichever child-side step `k` (dup2, chdir, setuid, setgid, setpgid,
    closure, execve) fails with errno `e`, the caller gets `Err(e)`, has reaped the child, and the child exited
    after reporting — nobody is left running the caller's code. -/
theorem spawn_err_code (c : Config) (k e : Nat) (hk : k < (childSteps c).length) (he : 0 < e) :
    spawn true c PFault.none (some (k, some e)) = ⟨.err (some e) true, some (.reported e)⟩ := by
  have h1 : ¬ k ≥ (childSteps c).length := by omega
  have h2 : e ≠ 0 := by omega
  simp [spawn, PFault.none, childRun, h1, parentRun, pipeOf, h2]

/-- a step failing WITHOUT an errno (only a pre-exec closure can): the child reports code 0, the caller returns an
    error without a code and has reaped the child -/
theorem spawn_err_nocode (c : Config) (k : Nat) (hk : k < (childSteps c).length) :
    spawn true c PFault.none (some (k, none)) = ⟨.err none true, some (.reported 0)⟩ := by
  have h1 : ¬ k ≥ (childSteps c).length := by omega
  simp [spawn, PFault.none, childRun, h1, parentRun, pipeOf]

/-- a caller-side failure before the fork (stdio set-up, pipe2, fork) is returned with its errno; no child exists -/
theorem spawn_err_before_fork (c : Config) (pf : PFault) (cf : CFault) (e : Nat) (h : pf.before = some e) :
    spawn true c pf cf = ⟨.noChild (some e), none⟩ := by
  simp [spawn, h, parentRun]

/-- EINTR on the pipe read is invisible in the result -/
theorem spawn_eintr_transparent (c : Config) (pf : PFault) (cf : CFault) (n : Nat) :
    spawn true c { pf with eintr := n } cf = spawn true c pf cf := rfl

/-- repaired (was: the child exited silently and the caller reported Ok): a closure failing with an error that has
    no errno is an error for the caller -/
theorem closure_without_errno_is_error :
    spawn true ⟨[], false, false, false, false, 1⟩ PFault.none (some (0, none)) = ⟨.err none true, some (.reported 0)⟩ := by decide

/-- wait reports the reaped status once and caches it: after a successful wait, every later wait / try_wait
    returns the same status without another wait4 -/
theorem wait_status (p : Proc) (k k' : WaitAns) (s : Int) (h : (wait p k).2.1 = .ok s) :
    wait (wait p k).1 k' = ((wait p k).1, .ok s, 0) ∧ tryWait (wait p k).1 k' = ((wait p k).1, .ok (some s), 0) := by
  unfold wait at h ⊢
  cases hp : p.status with
  | some t =>
    simp only [hp] at h ⊢
    cases h
    simp [tryWait, hp]
  | none =>
    simp only [hp] at h ⊢
    cases k with
    | exited t => simp at h; subst h; simp [tryWait]
    | err e => simp at h
    | running => simp at h

/-- the first wait of a fresh handle performs exactly one wait4 and returns the kernel's status -/
theorem wait_first (pid : Nat) (s : Int) : wait ⟨pid, none⟩ (.exited s) = (⟨pid, some s⟩, .ok s, 1) := rfl

/-- `spawn(&mut self)` leaves the Command exactly as it found it — whatever the outcome (Ok, a caller-side
    failure before or after the fork, any child-side failure): streams, cwd, uid, gid, pgroup, closures, argv and
    environment are all still there for the next spawn. -/
theorem spawn_preserves_config (fixed : Bool) (b : Builder) (pf : PFault) (cf : CFault) :
    (spawnB fixed b pf cf).1 = b := rfl

/-- no RawFd stream.  The model has no descriptor table: a `Stdio::RawFd` is closed in the caller by the first
    spawn that gets past `setup_io` (known finding C12 `spawn_rawfd_late`), so a later spawn of the same Command
    refers to a descriptor that is gone; that class is excluded from the respawn theorems. -/
def NoRaw (b : Builder) : Prop := Stdio.rawFd ∉ stdioOf b

instance (b : Builder) : Decidable (NoRaw b) := by unfold NoRaw; exact inferInstance

theorem closuresRunUpTo_all : ∀ (l : List CStep) (k : Nat), l.length ≤ k → closuresRunUpTo l k = (l.map isClosure).sum := by
  intro l
  induction l with
  | nil => intro k _; rfl
  | cons s r ih =>
    intro k hk
    cases k with
    | zero => simp at hk
    | succ k =>
      simp only [closuresRunUpTo, List.map_cons, List.sum_cons]
      rw [ih k (by simpa using hk)]

theorem closureSteps_length : ∀ (n i : Nat), (closureSteps i n).length = n := by
  intro n
  induction n with
  | zero => intro i; rfl
  | succ n ih => intro i; simp [closureSteps, ih]

theorem closureSteps_sum : ∀ (n i : Nat), ((closureSteps i n).map isClosure).sum = n := by
  intro n
  induction n with
  | zero => intro i; rfl
  | succ n ih => intro i; simp [closureSteps, isClosure, ih]; omega

theorem dup2_sum (l : List Nat) : ((l.map CStep.dup2).map isClosure).sum = 0 := by
  induction l with
  | nil => rfl
  | cons a r ih => simpa [isClosure] using ih

/-- a child that meets no failure calls every registered closure, once -/
theorem closuresRun_clean (c : Config) : closuresRun (childSteps c) none = c.closures := by
  unfold closuresRun
  rw [closuresRunUpTo_all _ _ (Nat.le_refl _)]
  unfold childSteps
  simp only [List.map_append, List.sum_append, closureSteps_sum, dup2_sum]
  cases c.cwd <;> cases c.uid <;> cases c.gid <;> cases c.pgroup <;> simp [isClosure]

/-- one spawn that meets no failure: Ok, the child is the configured image with the configured streams, the
    caller is handed exactly the MakePipe ends, every closure ran -/
theorem spawnB_clean (b : Builder) :
    (spawnB true b PFault.none none).2 =
      ⟨⟨.ok, some .execd⟩, some (imageOf b), some (pipesOf b), b.closures⟩ := by
  have h : spawn true (configOf b) PFault.none none = ⟨.ok, some .execd⟩ := rfl
  simp only [spawnB, h]
  simp [closuresRun_clean, configOf]

/-- every round of interleaved builder calls and spawns on one Command is the spawn of the builder state the
    CALLS alone produce, under that round's own faults: no earlier spawn — successful or failed — has any
    influence on it -/
theorem respawn_round_depends_only_on_calls_and_own_faults (fixed start : Bool) :
    ∀ (stages : List Stage) (b : Builder), runStages fixed start b stages =
      (buildersOf fixed start b (stages.map (·.ops))).map fun bs =>
        List.zipWith (fun b s => (spawnB fixed b s.pf s.cf).2) bs stages := by
  intro stages
  induction stages with
  | nil => intro b; rfl
  | cons s r ih =>
    intro b
    simp only [runStages, buildersOf, List.map_cons]
    cases h : applyAllB fixed start b s.ops with
    | none => rfl
    | some b1 =>
      simp only [Option.bind_some, spawn_preserves_config, ih b1]
      cases buildersOf fixed start b1 (r.map (·.ops)) with
      | none => rfl
      | some bs => simp

/-- any number of spawns from one configuration, each under its own faults: every round behaves as a first
    spawn of that configuration would -/
theorem respawn_rounds (start : Bool) (b : Builder) (fs : List (PFault × CFault)) :
    runStages true start b (fs.map fun f => ⟨[], f.1, f.2⟩) = some (fs.map fun f => (spawnB true b f.1 f.2).2) := by
  induction fs with
  | nil => rfl
  | cons f r ih => simp [runStages, applyAllB, spawn_preserves_config, ih]

/-- n spawns from one configuration give n children with the same image and the same streams, and the caller
    is handed the same pipe ends each time -/
theorem respawn_same_child (start : Bool) (b : Builder) (_h : NoRaw b) (n : Nat) :
    runStages true start b (List.replicate n ⟨[], PFault.none, none⟩) =
      some (List.replicate n ⟨⟨.ok, some .execd⟩, some (imageOf b), some (pipesOf b), b.closures⟩) := by
  have := respawn_rounds start b (List.replicate n (PFault.none, none))
  simpa [spawnB_clean] using this

/-- a spawn that failed (anywhere, on either side of the fork) followed by one that meets no failure: the second
    is Ok and its child is the configured one -/
theorem respawn_after_failed_spawn (start : Bool) (b : Builder) (_h : NoRaw b) (pf : PFault) (cf : CFault) :
    runStages true start b [⟨[], pf, cf⟩, ⟨[], PFault.none, none⟩] =
      some [(spawnB true b pf cf).2, ⟨⟨.ok, some .execd⟩, some (imageOf b), some (pipesOf b), b.closures⟩] := by
  have := respawn_rounds start b [(pf, cf), (PFault.none, none)]
  simpa [spawnB_clean] using this

/-- builder calls between spawns: the arg/args/env/envs calls act on bin/args/argv/env exactly as `applyAll` -/
def cmdOps : List BOp → List Op
  | [] => []
  | .cmd o :: r => o :: cmdOps r
  | _ :: r => cmdOps r

theorem applyAllB_cmd (fixed start : Bool) : ∀ (ops : List BOp) (b : Builder),
    (applyAllB fixed start b ops).map (·.cmd) = applyAll fixed start b.cmd (cmdOps ops) := by
  intro ops
  induction ops with
  | nil => intro b; rfl
  | cons o r ih =>
    intro b
    cases o with
    | cmd o =>
      simp only [applyAllB, applyB, cmdOps, applyAll]
      cases apply fixed start b.cmd o with
      | none => rfl
      | some c => simpa using ih { b with cmd := c }
    | _ => exact ih _

theorem applyAllB_append (fixed start : Bool) : ∀ (o1 o2 : List BOp) (b : Builder),
    applyAllB fixed start b (o1 ++ o2) = (applyAllB fixed start b o1).bind (applyAllB fixed start · o2) := by
  intro o1
  induction o1 with
  | nil => intro o2 b; rfl
  | cons o r ih =>
    intro o2 b
    simp only [List.cons_append, applyAllB]
    cases applyB fixed start b o with
    | none => rfl
    | some b1 => simpa using ih o2 b1

theorem cmdOps_append (o1 o2 : List BOp) : cmdOps (o1 ++ o2) = cmdOps o1 ++ cmdOps o2 := by
  induction o1 with
  | nil => rfl
  | cons o r ih => cases o <;> simp [cmdOps, ih]

theorem applyAllB_total (start : Bool) : ∀ (ops : List BOp) (b : Builder), WF b.cmd → Reach start b.cmd →
    ∃ b', applyAllB true start b ops = some b' ∧ WF b'.cmd ∧ Reach start b'.cmd := by
  intro ops b w r
  obtain ⟨c, e, w', r', _⟩ := applyAll_inv start (cmdOps ops) b.cmd w r
  have h := applyAllB_cmd true start ops b
  rw [e] at h
  cases hb : applyAllB true start b ops with
  | none => rw [hb] at h; simp at h
  | some b' =>
    rw [hb] at h
    simp at h
    exact ⟨b', rfl, h ▸ w', h ▸ r'⟩

/-- Builder calls and spawns interleaved in any way on `Command::new(bin)`: no builder call panics, and the
    Command a round spawns from is the one all builder calls made SO FAR produce from `Command::new(bin)` (spawns in
    between leave no trace).  What its argv and envp then are is `argv_envp_wellformed` for the concatenated calls. -/
theorem respawn_interleaved (start : Bool) (bin : Nat) :
    ∀ (opss : List (List BOp)) (pre : List BOp) (b : Builder),
      applyAllB true start (newB start bin) pre = some b → WF b.cmd → Reach start b.cmd →
      ∃ bs, buildersOf true start b opss = some bs ∧ bs.length = opss.length ∧
        ∀ k (hk : k < bs.length),
          applyAllB true start (newB start bin) (pre ++ (opss.take (k + 1)).flatten) = some bs[k] := by
  intro opss
  induction opss with
  | nil => intro pre b _ _ _; exact ⟨[], rfl, rfl, by intro k hk; simp at hk⟩
  | cons ops r ih =>
    intro pre b hb w rc
    obtain ⟨b1, e1, w1, r1⟩ := applyAllB_total start ops b w rc
    have hpre : applyAllB true start (newB start bin) (pre ++ ops) = some b1 := by
      rw [applyAllB_append, hb]; simpa using e1
    obtain ⟨bs, e2, l2, g2⟩ := ih (pre ++ ops) b1 hpre w1 r1
    refine ⟨b1 :: bs, by simp [buildersOf, e1, e2], by simp [l2], ?_⟩
    intro k hk
    cases k with
    | zero => simpa using hpre
    | succ k =>
      have hk' : k < bs.length := by simpa using hk
      have := g2 k hk'
      simpa [List.append_assoc] using this

/-! ## the environment builder as a state machine: what the child receives

Model/SpawnEnv.lean: `childEnv penv e` = the strings execve copies for a Command whose environment is `e` when the
caller's own environment is `penv`; `specEnv` = what the sequence of builder calls asks for. -/

theorem deref_ptrs (l : List Nat) : deref (l.map ptr ++ [0]) = l := by
  induction l with
  | nil => rfl
  | cons a r ih => simp [deref, ptr, ih]

/-- `envs` over an iterator that yields nothing is the identity on the Command, in every environment mode and
    in either build (the seeded C13-m7 made it switch Inherit to an empty list) -/
theorem envs_nil_identity (fixed start : Bool) (c : Cmd) : apply fixed start c (.envs []) = some c := rfl

/-- `envs(it)` is `env(s)` for each item in turn, nothing else -/
theorem envs_eq_foldl_env (fixed start : Bool) : ∀ (l : List Nat) (c : Cmd),
    apply fixed start c (.envs l) = applyAll fixed start c (l.map .env) := by
  intro l
  induction l with
  | nil => intro c; rfl
  | cons e r ih =>
    intro c
    simp only [apply, envsL, List.map_cons, applyAll]
    cases env fixed start c e with
    | none => rfl
    | some c1 => simpa [apply] using ih c1

theorem applyAll_append (fixed start : Bool) : ∀ (o1 o2 : List Op) (c : Cmd),
    applyAll fixed start c (o1 ++ o2) = (applyAll fixed start c o1).bind (applyAll fixed start · o2) := by
  intro o1
  induction o1 with
  | nil => intro o2 c; rfl
  | cons o r ih =>
    intro o2 c
    simp only [List.cons_append, applyAll]
    cases apply fixed start c o with
    | none => rfl
    | some c1 => simpa using ih o2 c1

/-- one `envs` over a concatenation = two `envs` calls (any split point, an empty half included) -/
theorem envs_append (fixed start : Bool) (l1 l2 : List Nat) (c : Cmd) :
    apply fixed start c (.envs (l1 ++ l2)) = (apply fixed start c (.envs l1)).bind (apply fixed start · (.envs l2)) := by
  rw [envs_eq_foldl_env, List.map_append, applyAll_append, ← envs_eq_foldl_env]
  cases apply fixed start c (.envs l1) with
  | none => rfl
  | some c1 => simp [envs_eq_foldl_env]

/-- an empty `envs` may be inserted at (or removed from) any position of any call sequence without effect -/
theorem envs_nil_anywhere (fixed start : Bool) (o1 o2 : List Op) (c : Cmd) :
    applyAll fixed start c (o1 ++ .envs [] :: o2) = applyAll fixed start c (o1 ++ o2) := by
  rw [applyAll_append, applyAll_append]
  cases applyAll fixed start c o1 with
  | none => rfl
  | some c1 => simp [applyAll, envs_nil_identity]

/-- From ANY builder state (environment Inherit, None or Provided with any content; either build), after ANY
    sequence of arg/args/env/envs calls: no panic, and the child gets — if no variable was given — what it would
    have got before, otherwise the variables held before followed by the given ones, in order, duplicates kept -/
theorem builder_env_exact_from (start : Bool) (penv : List Nat) (ops : List Op) (c : Cmd) (w : WF c) (r : Reach start c) :
    ∃ c', applyAll true start c ops = some c' ∧ childEnv penv c'.env = specEnvFrom penv c.env (wantedEnv ops) := by
  obtain ⟨c', e, w', _, _, xe, xp⟩ := applyAll_inv start ops c w r
  refine ⟨c', e, ?_⟩
  rcases xp with h | h
  · rw [w'.provided h.2, xe]
    simp only [childEnv, deref_ptrs, specEnvFrom, h.1, if_false]
    rfl
  · simp [specEnvFrom, h.1, h.2]

/-- `Command::new(bin)` followed by ANY sequence of builder calls, either build, any caller environment: the
    child's environment is exactly `specEnv` of the variables given (entries, order, multiplicity) -/
theorem builder_env_exact (start : Bool) (bin : Nat) (penv : List Nat) (ops : List Op) :
    ∃ c, applyAll true start (new start bin) ops = some c ∧ childEnv penv c.env = specEnv start penv (wantedEnv ops) := by
  obtain ⟨c, e, h⟩ := builder_env_exact_from start penv ops _ (new_wf start bin) (new_reach start bin)
  refine ⟨c, e, ?_⟩
  rw [h]
  cases start <;> simp [specEnvFrom, specEnv, new, childEnv]

theorem imageEnv_imageOf (penv : List Nat) (b : Builder) : imageEnv penv (imageOf b) = childEnv penv b.cmd.env := by
  simp only [imageEnv, imageOf, envpOf]
  cases b.cmd.env <;> rfl

theorem envRounds_eq (start : Bool) (penv : List Nat) : ∀ (opss : List (List BOp)) (b : Builder),
    envRounds start penv b opss =
      (buildersOf true start b opss).map fun bs => bs.map fun b => some (childEnv penv b.cmd.env) := by
  intro opss
  induction opss with
  | nil => intro b; rfl
  | cons ops r ih =>
    intro b
    have ih' := ih
    simp only [envRounds] at ih' ⊢
    simp only [List.map_cons, runStages, buildersOf]
    cases applyAllB true start b ops with
    | none => rfl
    | some b1 =>
      simp only [Option.bind_some, spawn_preserves_config, spawnB_clean, Option.map_map]
      have := ih' b1
      generalize buildersOf true start b1 r = bo at this ⊢
      generalize runStages true start b1 (r.map fun ops => ⟨ops, PFault.none, Option.none⟩) = ro at this ⊢
      -- by `this` the remaining rounds panic on both sides or on neither; in the latter case it gives the tails
      cases bo <;> cases ro <;> simp_all [Function.comp, imageEnv_imageOf]

/-- Builder calls (of any kind) and spawns interleaved in any way on `Command::new(bin)`: the image of EVERY
    spawn gets exactly `specEnv` of the variables given in all calls made so far -/
theorem respawn_env_exact (start : Bool) (bin : Nat) (penv : List Nat) (opss : List (List BOp)) :
    ∃ envs, envRounds start penv (newB start bin) opss = some envs ∧ envs.length = opss.length ∧
      ∀ k (hk : k < envs.length),
        envs[k] = some (specEnv start penv (wantedEnv (cmdOps (opss.take (k + 1)).flatten))) := by
  obtain ⟨bs, e, l, g⟩ := respawn_interleaved start bin opss [] (newB start bin) rfl (new_wf start bin) (new_reach start bin)
  refine ⟨bs.map fun b => some (childEnv penv b.cmd.env), by rw [envRounds_eq, e]; rfl, by simpa using l, ?_⟩
  intro k hk
  have hk' : k < bs.length := by simpa using hk
  have h1 := g k hk'
  simp only [List.nil_append] at h1
  have h2 := applyAllB_cmd true start (opss.take (k + 1)).flatten (newB start bin)
  rw [h1] at h2
  obtain ⟨c, ec, hc⟩ := builder_env_exact start bin penv (cmdOps (opss.take (k + 1)).flatten)
  have : (newB start bin).cmd = new start bin := rfl
  rw [this, ec] at h2
  simp only [Option.map_some, Option.some.injEq] at h2
  simp only [List.getElem_map, h2, hc]

/-- `env` does NOT extend the inherited environment (as `std::process::Command::env` would): with the `start`
    feature, the first variable given replaces the caller's whole environment.  For every non-empty caller
    environment and every call sequence that gives at least one variable the child's environment differs from
    "inherited ++ given". -/
theorem env_drops_inherited (bin : Nat) (penv : List Nat) (ops : List Op) (hp : penv ≠ []) (hg : wantedEnv ops ≠ []) :
    ∃ c, applyAll true true (new true bin) ops = some c ∧
      childEnv penv c.env = wantedEnv ops ∧ childEnv penv c.env ≠ extendSpecEnv true penv (wantedEnv ops) := by
  obtain ⟨c, e, h⟩ := builder_env_exact true bin penv ops
  have h' : childEnv penv c.env = wantedEnv ops := by rw [h]; simp [specEnv, hg]
  refine ⟨c, e, h', ?_⟩
  rw [h']
  intro heq
  have := congrArg List.length heq
  simp only [extendSpecEnv, if_true, List.length_append] at this
  have : penv.length = 0 := by omega
  exact hp (List.eq_nil_of_length_eq_zero this)

/-- concrete witness of the above: caller environment {100, 101}, one call `env(1)`: the child gets [1] -/
theorem env_replaces_inherited_witness :
    (applyAll true true (new true 7) [.env 1]).map (fun c => childEnv [100, 101] c.env) = some [1] ∧
      extendSpecEnv true [100, 101] (wantedEnv [.env 1]) = [100, 101, 1] := by decide

/-- the same string (a fortiori the same key) given twice is passed twice: nothing is overridden or merged -/
theorem env_duplicates_kept (start : Bool) (bin e : Nat) (penv : List Nat) :
    ∃ c, applyAll true start (new start bin) [.env e, .envs [e]] = some c ∧ childEnv penv c.env = [e, e] := by
  obtain ⟨c, ec, h⟩ := builder_env_exact start bin penv [.env e, .envs [e]]
  exact ⟨c, ec, by rw [h]; simp [specEnv, wantedEnv]⟩

/-- the theorems discriminate: an `envs` whose mode switch is hoisted in front of its loop (seeded C13-m7) is
    not the identity on an empty iterator and the child loses the inherited environment -/
theorem envsHoisted_violates_spec :
    envsHoisted true true (new true 7) [] ≠ some (new true 7) ∧
      (envsHoisted true true (new true 7) []).map (fun c => childEnv [100, 101] c.env) = some [] ∧
      specEnv true [100, 101] (wantedEnv [.envs []]) = [100, 101] := by decide

/-- ... and one that drops its last item does not deliver what was given -/
theorem envsSkipLast_violates_spec :
    (envsSkipLast true false (new false 7) [1, 2]).map (fun c => childEnv [] c.env) = some [1] ∧
      specEnv false [] (wantedEnv [.envs [1, 2]]) = [1, 2] := by decide

/-! ## the caller's identity state and the identity of the image (Model/SpawnIds.lean) -/

theorem setIds_ok (cap : Bool) (i i' : Ids) (x : Nat) :
    setIds cap i x = .ok i' ↔
      (cap = true ∧ i' = ⟨x, x, x⟩) ∨ (cap = false ∧ (x = i.r ∨ x = i.s) ∧ i' = { i with e := x }) := by
  unfold setIds
  cases cap <;> by_cases h : x = i.r ∨ x = i.s <;> simp [h, eq_comm]

theorem setIds_err (cap : Bool) (i : Ids) (x e : Nat) :
    setIds cap i x = .error e ↔ cap = false ∧ ¬ (x = i.r ∨ x = i.s) ∧ e = EPERM := by
  unfold setIds
  cases cap <;> by_cases h : x = i.r ∨ x = i.s <;> simp [h, eq_comm]

theorem setIds_ok_e (cap : Bool) (i i' : Ids) (x : Nat) (h : setIds cap i x = .ok i') :
    i'.e = x ∧ (i'.r = x ∨ (cap = false ∧ i'.r = i.r)) := by
  rcases (setIds_ok cap i i' x).1 h with ⟨_, rfl⟩ | ⟨hc, _, rfl⟩
  · exact ⟨rfl, .inl rfl⟩
  · exact ⟨rfl, .inr ⟨hc, rfl⟩⟩

theorem optStep_ok {α : Type} (st : CStep) (o : Option Nat) (f : Nat → Except Nat α) (d a : α) :
    optStep st o f d = .ok a ↔ (o = none ∧ a = d) ∨ (∃ x, o = some x ∧ f x = .ok a) := by
  cases o with
  | none => simp [optStep, eq_comm]
  | some x => cases hf : f x <;> simp [optStep, hf]

theorem optStep_err {α : Type} (st s' : CStep) (o : Option Nat) (f : Nat → Except Nat α) (d : α) (e : Nat) :
    optStep st o f d = .error (s', e) ↔ ∃ x, o = some x ∧ f x = .error e ∧ st = s' := by
  cases o with
  | none => simp [optStep]
  | some x => cases hf : f x <;> simp [optStep, hf, and_comm]

theorem setuid_ok (c c' : Cred) (u : Nat) :
    setuid c u = .ok c' ↔ ∃ i, setIds (capable c) c.uid u = .ok i ∧ c' = { c with uid := i } := by
  unfold setuid
  cases setIds (capable c) c.uid u <;> simp [eq_comm]

theorem setgid_ok (c c' : Cred) (g : Nat) :
    setgid c g = .ok c' ↔ ∃ i, setIds (capable c) c.gid g = .ok i ∧ c' = { c with gid := i } := by
  unfold setgid
  cases setIds (capable c) c.gid g <;> simp [eq_comm]

theorem setuid_err (c : Cred) (u e : Nat) : setuid c u = .error e ↔ setIds (capable c) c.uid u = .error e := by
  unfold setuid
  cases setIds (capable c) c.uid u <;> simp

theorem setgid_err (c : Cred) (g e : Nat) : setgid c g = .error e ↔ setIds (capable c) c.gid g = .error e := by
  unfold setgid
  cases setIds (capable c) c.gid g <;> simp

theorem setpgid_ok (p : PCtx) (pg g : Nat) :
    setpgid p pg = .ok g ↔ (pg = 0 ∧ g = p.self) ∨ (pg ≠ 0 ∧ (pg = p.callerPgid ∨ pg ∈ p.session) ∧ g = pg) := by
  unfold setpgid
  by_cases h0 : pg = 0 <;> by_cases h1 : pg = p.callerPgid ∨ pg ∈ p.session <;> simp [h0, h1, eq_comm]

theorem setpgid_err (p : PCtx) (pg e : Nat) :
    setpgid p pg = .error e ↔ pg ≠ 0 ∧ ¬ (pg = p.callerPgid ∨ pg ∈ p.session) ∧ e = EPERM := by
  unfold setpgid
  by_cases h0 : pg = 0 <;> by_cases h1 : pg = p.callerPgid ∨ pg ∈ p.session <;> simp [h0, h1, eq_comm]

/-- the three identity steps, one after the other (gid, uid, pgroup), then the exec -/
theorem idSteps_ok (p : PCtx) (c : Cred) (q : IdReq) (ch : ChildId) :
    idSteps p c q = .ok ch ↔ ∃ c1 c2 pg,
      optStep .setgid q.gid (setgid c) c = .ok c1 ∧ optStep .setuid q.uid (setuid c1) c1 = .ok c2 ∧
        optStep .setpgid q.pgroup (setpgid p) p.callerPgid = .ok pg ∧ ch = ⟨execCred c2, pg⟩ := by
  unfold idSteps
  cases optStep .setgid q.gid (setgid c) c with
  | error x => simp
  | ok c1 =>
    cases h2 : optStep .setuid q.uid (setuid c1) c1 with
    | error x => simp [h2]
    | ok c2 => cases optStep .setpgid q.pgroup (setpgid p) p.callerPgid <;> simp [h2, eq_comm]

theorem idSteps_err (p : PCtx) (c : Cred) (q : IdReq) (x : CStep × Nat) :
    idSteps p c q = .error x ↔
      optStep .setgid q.gid (setgid c) c = .error x ∨
      (∃ c1, optStep .setgid q.gid (setgid c) c = .ok c1 ∧ optStep .setuid q.uid (setuid c1) c1 = .error x) ∨
      (∃ c1 c2, optStep .setgid q.gid (setgid c) c = .ok c1 ∧ optStep .setuid q.uid (setuid c1) c1 = .ok c2 ∧
        optStep .setpgid q.pgroup (setpgid p) p.callerPgid = .error x) := by
  unfold idSteps
  cases optStep .setgid q.gid (setgid c) c with
  | error y => simp
  | ok c1 =>
    cases h2 : optStep .setuid q.uid (setuid c1) c1 with
    | error y => simp [h2]
    | ok c2 => cases optStep .setpgid q.pgroup (setpgid p) p.callerPgid <;> simp [h2]

/-- the gid step leaves the uids (hence the privilege) and the supplementary groups alone -/
theorem gidStep_keeps (c c1 : Cred) (o : Option Nat) (h : optStep .setgid o (setgid c) c = .ok c1) :
    c1.uid = c.uid ∧ c1.groups = c.groups ∧ capable c1 = capable c := by
  rw [optStep_ok] at h
  rcases h with ⟨_, rfl⟩ | ⟨g, _, hs⟩
  · exact ⟨rfl, rfl, rfl⟩
  · obtain ⟨i, _, rfl⟩ := (setgid_ok c c1 g).1 hs; exact ⟨rfl, rfl, rfl⟩

/-- the uid step leaves the gids and the supplementary groups alone -/
theorem uidStep_keeps (c c1 : Cred) (o : Option Nat) (h : optStep .setuid o (setuid c) c = .ok c1) :
    c1.gid = c.gid ∧ c1.groups = c.groups := by
  rw [optStep_ok] at h
  rcases h with ⟨_, rfl⟩ | ⟨u, _, hs⟩
  · exact ⟨rfl, rfl⟩
  · obtain ⟨i, _, rfl⟩ := (setuid_ok c c1 u).1 hs; exact ⟨rfl, rfl⟩

/-- a PRIVILEGED caller in closed form: the gid step and the uid step (in this order, both still privileged) put the
    requested id into all three fields, so only the pgroup step can fail -/
theorem idSteps_capable (p : PCtx) (c : Cred) (q : IdReq) (hc : capable c = true) :
    idSteps p c q =
      match optStep .setpgid q.pgroup (setpgid p) p.callerPgid with
      | .error x => .error x
      | .ok pg => .ok ⟨execCred ⟨match q.uid with | some u => ⟨u, u, u⟩ | none => c.uid,
                                 match q.gid with | some g => ⟨g, g, g⟩ | none => c.gid, c.groups⟩, pg⟩ := by
  have he : c.uid.e = 0 := by simpa [capable] using hc
  cases hq1 : q.gid <;> cases hq2 : q.uid <;>
    simp [idSteps, optStep, setgid, setuid, setIds, capable, he, hq1, hq2] <;> rfl

/-- A PRIVILEGED caller (effective uid 0 — plain root, or a set-user-ID-root program / a daemon after
    setresuid(u, 0, 0), whatever its real and saved uid): if `spawn` is Ok the image runs with EXACTLY the requested
    uid in all three fields AND exactly the requested gid in all three fields, whenever requested (the gid step comes
    first, 925c7e5: it still has the privilege); ids that were not requested are the caller's (saved := effective at
    the exec); the supplementary groups are the caller's, untouched; the process group is the caller's, its own, or
    the requested one. -/
theorem spawn_ids_exact (p : PCtx) (c : Cred) (q : IdReq) (ch : ChildId)
    (h : idSteps p c q = .ok ch) (hc : capable c = true) :
    (∀ u, q.uid = some u → ch.cred.uid = ⟨u, u, u⟩) ∧
    (∀ g, q.gid = some g → ch.cred.gid = ⟨g, g, g⟩) ∧
    (q.uid = none → ch.cred.uid = ⟨c.uid.r, c.uid.e, c.uid.e⟩) ∧
    (q.gid = none → ch.cred.gid = ⟨c.gid.r, c.gid.e, c.gid.e⟩) ∧
    ch.cred.groups = c.groups ∧
    (q.pgroup = none → ch.pgid = p.callerPgid) ∧ (q.pgroup = some 0 → ch.pgid = p.self) ∧
    (∀ g, g ≠ 0 → q.pgroup = some g → ch.pgid = g) := by
  rw [idSteps_capable p c q hc] at h
  cases h3 : optStep .setpgid q.pgroup (setpgid p) p.callerPgid with
  | error x => simp [h3] at h
  | ok pg =>
    obtain rfl : _ = ch := by simpa [h3] using h
    rw [optStep_ok] at h3
    refine ⟨fun u hq => by simp [execCred, hq], fun g hq => by simp [execCred, hq], fun hq => by simp [execCred, hq],
      fun hq => by simp [execCred, hq], rfl, fun hq => ?_, fun hq => ?_, fun g hne hq => ?_⟩
    · simpa [hq] using h3
    · simpa [hq, setpgid_ok] using h3
    · exact (by simpa [hq, setpgid_ok, hne] using h3 : _ ∧ pg = g).2

/-- ANY caller, privileged or not: if `spawn` is Ok, the effective and the saved id of the image are the requested
    ones; the real id is too, except that an UNPRIVILEGED caller's setuid/setgid only moves the effective id (kernel
    rule): then the real id is still the caller's — see `unprivileged_setuid_keeps_real_uid`. -/
theorem spawn_ids_effective (p : PCtx) (c : Cred) (q : IdReq) (ch : ChildId) (h : idSteps p c q = .ok ch) :
    (∀ u, q.uid = some u → ch.cred.uid.e = u ∧ ch.cred.uid.s = u ∧
      (ch.cred.uid.r = u ∨ (capable c = false ∧ ch.cred.uid.r = c.uid.r))) ∧
    (∀ g, q.gid = some g → ch.cred.gid.e = g ∧ ch.cred.gid.s = g ∧
      (ch.cred.gid.r = g ∨ (capable c = false ∧ ch.cred.gid.r = c.gid.r))) := by
  obtain ⟨c1, c2, pg, h1, h2, _, rfl⟩ := (idSteps_ok p c q ch).1 h
  obtain ⟨ku, _, kc⟩ := gidStep_keeps c c1 q.gid h1
  obtain ⟨k2g, _⟩ := uidStep_keeps c1 c2 q.uid h2
  rw [optStep_ok] at h1 h2
  refine ⟨fun u hq => ?_, fun g hq => ?_⟩
  · obtain ⟨i, hi, rfl⟩ := (setuid_ok c1 c2 u).1 (by simpa [hq] using h2)
    obtain ⟨e1, e2⟩ := setIds_ok_e _ _ _ _ hi
    rw [kc, ku] at e2
    exact ⟨e1, e1, e2⟩
  · obtain ⟨i, hi, rfl⟩ := (setgid_ok c c1 g).1 (by simpa [hq] using h1)
    obtain ⟨e1, e2⟩ := setIds_ok_e _ _ _ _ hi
    simpa [execCred, k2g] using And.intro e1 e2

/-- If an identity step fails, it fails with EPERM, and exactly for the kernel's reason: the gid (uid) step when the
    caller is unprivileged and the id is neither its real nor its saved one — the privilege at the uid step is the
    caller's own, the gid step before it does not touch it; the pgroup step when the group does not exist in the
    session.  A privileged caller's uid and gid steps never fail. -/
theorem spawn_ids_err (p : PCtx) (c : Cred) (q : IdReq) (st : CStep) (e : Nat) (h : idSteps p c q = .error (st, e)) :
    e = EPERM ∧
    ((st = .setgid ∧ ∃ g, q.gid = some g ∧ capable c = false ∧ g ≠ c.gid.r ∧ g ≠ c.gid.s) ∨
     (st = .setuid ∧ ∃ u, q.uid = some u ∧ capable c = false ∧ u ≠ c.uid.r ∧ u ≠ c.uid.s) ∨
     (st = .setpgid ∧ ∃ g, q.pgroup = some g ∧ g ≠ 0 ∧ g ≠ p.callerPgid ∧ g ∉ p.session)) := by
  rw [idSteps_err] at h
  rcases h with h | ⟨c1, h1, h2⟩ | ⟨c1, c2, _, _, h3⟩
  · obtain ⟨g, hq, hs, rfl⟩ := (optStep_err _ _ _ _ _ _).1 h
    rw [setgid_err, setIds_err, not_or] at hs
    exact ⟨hs.2.2, Or.inl ⟨rfl, g, hq, hs.1, hs.2.1⟩⟩
  · obtain ⟨u, hq, hs, rfl⟩ := (optStep_err _ _ _ _ _ _).1 h2
    obtain ⟨ku, _, kc⟩ := gidStep_keeps c c1 q.gid h1
    rw [setuid_err, setIds_err, kc, ku, not_or] at hs
    exact ⟨hs.2.2, Or.inr (Or.inl ⟨rfl, u, hq, hs.1, hs.2.1⟩)⟩
  · obtain ⟨g, hq, hs, rfl⟩ := (optStep_err _ _ _ _ _ _).1 h3
    rw [setpgid_err, not_or] at hs
    exact ⟨hs.2.2, Or.inr (Or.inr ⟨rfl, g, hq, hs.1, hs.2.1⟩)⟩

/-- a privileged caller: no uid or gid request is ever refused -/
theorem privileged_ids_never_refused (p : PCtx) (c : Cred) (q : IdReq) (st : CStep) (e : Nat)
    (hc : capable c = true) (h : idSteps p c q = .error (st, e)) : st = .setpgid := by
  obtain ⟨_, hst⟩ := spawn_ids_err p c q st e h
  rcases hst with ⟨_, _, _, hf, _⟩ | ⟨_, _, _, hf, _⟩ | ⟨hs, _⟩
  · rw [hc] at hf; cases hf
  · rw [hc] at hf; cases hf
  · exact hs

/-- Tie to the protocol (`spawn`): with the fault the identity steps themselves cause, the caller gets Ok and the
    image runs iff every identity step succeeded; otherwise Err with the failing step's errno (EPERM), the child
    reported it through the CLOEXEC pipe and exited, and was reaped — no image, nobody left. -/
theorem spawn_ids_result (p : PCtx) (c : Cred) (q : IdReq) (cfg : Config) (hm : cfgMatches cfg q) :
    spawn true cfg PFault.none (idFault cfg (idSteps p c q)) =
      match idSteps p c q with
      | .ok _ => ⟨.ok, some .execd⟩
      | .error (_, e) => ⟨.err (some e) true, some (.reported e)⟩ := by
  cases h : idSteps p c q with
  | ok ch => rfl
  | error x =>
    obtain ⟨st, e⟩ := x
    obtain ⟨he, hst⟩ := spawn_ids_err p c q st e h
    obtain ⟨m1, m2, m3⟩ := hm
    have hmem : st ∈ childSteps cfg := by
      rcases hst with ⟨rfl, g, hq, _⟩ | ⟨rfl, u, hq, _⟩ | ⟨rfl, g, hq, _⟩
      · rw [hq] at m2; simp [childSteps, m2]
      · rw [hq] at m1; simp [childSteps, m1]
      · rw [hq] at m3; simp [childSteps, m3]
    simp only [idFault]
    exact spawn_err_code cfg _ e (List.idxOf_lt_length_of_mem hmem) (by rw [he]; decide)

/-! the seeded class, the repaired order defect (Legacy) — witnesses on concrete states (A = 4242, B = 4343) -/

/-- SEEDED C13-m8: skipping the uid step "because the real uid already is the requested one" leaves a caller with
    (real, effective, saved) = (A, 0, 0) — every set-user-ID-root program — with a child that still has effective and
    saved uid 0; the code as written gives (A, A, A), which is what `spawn_ids_exact` demands. -/
theorem skip_setuid_when_real_equal_violates :
    let p : PCtx := ⟨1000, 900, [950]⟩
    let c : Cred := ⟨⟨4242, 0, 0⟩, ⟨0, 0, 0⟩, []⟩
    let q : IdReq := ⟨some 4242, none, none⟩
    (idSteps p c q).toOption.map (·.cred.uid) = some ⟨4242, 4242, 4242⟩ ∧
      (idStepsSkipUid p c q).toOption.map (·.cred.uid) = some ⟨4242, 0, 0⟩ := by decide

/-- the same "optimisation" on the gid step: (real, effective, saved) gid = (B, 0, 0), `.gid(B)` -/
theorem skip_setgid_when_real_equal_violates :
    let p : PCtx := ⟨1000, 900, [950]⟩
    let c : Cred := ⟨⟨0, 0, 0⟩, ⟨4343, 0, 0⟩, []⟩
    let q : IdReq := ⟨none, some 4343, none⟩
    (idSteps p c q).toOption.map (·.cred.gid) = some ⟨4343, 4343, 4343⟩ ∧
      (idStepsSkipGid p c q).toOption.map (·.cred.gid) = some ⟨4343, 0, 0⟩ := by decide

/-- THE CURRENT CODE (gid first, 925c7e5): a privileged caller's `.uid(u).gid(g)` — the ordinary "drop to user and
    group" of a root process — is delivered exactly, for every state, uid and gid -/
theorem gid_first_delivers (p : PCtx) (c : Cred) (u g : Nat) (hc : capable c = true) :
    idSteps p c ⟨some u, some g, none⟩ =
      .ok ⟨⟨⟨u, u, u⟩, ⟨g, g, g⟩, c.groups⟩, p.callerPgid⟩ := by
  rw [idSteps_capable p c _ hc]
  rfl

/-- REPAIRED DEFECT (925c7e5; found by this model).  Before, the uid step came first: a privileged caller asking for
    a uid other than 0 AND a gid that is not already its real or saved gid had given the privilege away before the
    gid step: `spawn` returned Err(EPERM), for every such state. -/
theorem legacy_root_uid_then_gid_fails (p : PCtx) (c : Cred) (u g : Nat) (pg : Option Nat)
    (hc : capable c = true) (hu : u ≠ 0) (h1 : g ≠ c.gid.r) (h2 : g ≠ c.gid.s) :
    Legacy.idSteps p c ⟨some u, some g, pg⟩ = .error (.setgid, EPERM) := by
  have he : c.uid.e = 0 := by simpa [capable] using hc
  simp [Legacy.idSteps, optStep, setuid, setgid, setIds, capable, he, hu, h1, h2]

/-- the same defect, silent form: root with SAVED gid B asking `.uid(A).gid(B)` got Ok, but the gid step ran
    unprivileged, only the effective gid moved — the image's REAL gid was still 0; the current code delivers B -/
theorem legacy_gid_after_uid_keeps_real_gid :
    (Legacy.idSteps ⟨1000, 900, [950]⟩ ⟨⟨0, 0, 0⟩, ⟨0, 0, 4343⟩, []⟩ ⟨some 4242, some 4343, none⟩).toOption.map (·.cred)
      = some ⟨⟨4242, 4242, 4242⟩, ⟨0, 4343, 4343⟩, []⟩ ∧
    (idSteps ⟨1000, 900, [950]⟩ ⟨⟨0, 0, 0⟩, ⟨0, 0, 4343⟩, []⟩ ⟨some 4242, some 4343, none⟩).toOption.map (·.cred)
      = some ⟨⟨4242, 4242, 4242⟩, ⟨4343, 4343, 4343⟩, []⟩ := by decide

/-- why `spawn_ids_exact` needs the privilege: (A, A, 0) asking `.uid(0)` is allowed (saved uid) and moves the
    effective uid only — Ok, real uid still A.  Kernel semantics of the promised step, not a defect of the code. -/
theorem unprivileged_setuid_keeps_real_uid :
    (idSteps ⟨1000, 900, [950]⟩ ⟨⟨4242, 4242, 0⟩, ⟨0, 0, 0⟩, []⟩ ⟨some 0, none, none⟩).toOption.map (·.cred.uid)
      = some ⟨4242, 0, 0⟩ := by decide

/-- DOCUMENTED FACT (Command has no groups API, no setgroups call): the supplementary groups survive a full drop of
    uid and gid -/
theorem groups_survive_drop :
    (idSteps ⟨1000, 900, [950]⟩ ⟨⟨0, 0, 0⟩, ⟨4242, 4242, 4242⟩, [0, 4343]⟩ ⟨some 4242, some 4242, some 0⟩).toOption
      = some ⟨⟨⟨4242, 4242, 4242⟩, ⟨4242, 4242, 4242⟩, [0, 4343]⟩, 1000⟩ := by decide

example : (childSteps ⟨[0, 2], true, true, false, true, 2⟩) =
    [.dup2 0, .dup2 2, .chdir, .setuid, .setpgid, .closure 0, .closure 1, .execve] := by decide
/-- a fault at the chdir of that configuration is reported; one past execve does not exist -/
example : spawn true ⟨[0, 2], true, true, false, true, 2⟩ PFault.none (some (2, some 13)) = ⟨.err (some 13) true, some (.reported 13)⟩ := by decide
example : spawn true ⟨[0, 2], true, true, false, true, 2⟩ PFault.none none = ⟨.ok, some .execd⟩ := by decide
example : spawn true ⟨[], false, false, false, false, 0⟩ ⟨none, 3, some 5, none⟩ none = ⟨.err none true, some .execd⟩ := by decide
/-- the builder theorem on a concrete call sequence (both builds) -/
example : (applyAll true false (new false 7) [.arg 1, .envs [4, 5], .args [2, 3], .env 6]) =
    some ⟨[7, 1, 2, 3], [8, 2, 3, 4, 0], .provided [4, 5, 6] [5, 6, 7, 0]⟩ := by decide
example : (applyAll true true (new true 7) [.arg 1]).map (·.env) = some .inherit := by decide


/-- respawn: one Command (stdin Null, stdout MakePipe, one closure) spawned three times; the second spawn's child
    fails at its second dup2 (EBADF); before the third an argument is added and stderr set to Null -/
example : runStages true false (newB false 7)
    [⟨[.stdin .null, .stdout .makePipe, .preExec], PFault.none, none⟩, ⟨[], PFault.none, some (1, some 9)⟩,
     ⟨[.cmd (.arg 1), .stderr .null], PFault.none, none⟩] =
    some [⟨⟨.ok, some .execd⟩, some ⟨[8, 0], some [0], [.null, .makePipe, .inherit], false, false, false, false, 1⟩, some [false, true, false], 1⟩,
          ⟨⟨.err (some 9) true, some (.reported 9)⟩, none, none, 0⟩,
          ⟨⟨.ok, some .execd⟩, some ⟨[8, 2, 0], some [0], [.null, .makePipe, .null], false, false, false, false, 1⟩, some [false, true, false], 1⟩] := by
  decide
/-- the hypothesis of the respawn theorems holds for a non-trivial Command -/
example : NoRaw ⟨new false 7, some .null, some .makePipe, none, true, false, false, true, 2⟩ := by decide
/-- and fails for a RawFd stream: that class is excluded, not silently covered -/
example : ¬ NoRaw ⟨new false 7, none, some .rawFd, none, false, false, false, false, 0⟩ := by decide
/-- a closure that fails has been called; the ones after it have not -/
example : closuresRun (childSteps ⟨[1], true, false, false, false, 3⟩) (some (3, some 5)) = 2 := by decide

example : (applyAll true true (new true 7) [.envs [], .arg 3, .envs []]).map (fun c => childEnv [100, 101] c.env) = some [100, 101] := by decide
example : (applyAll true false (new false 7) [.envs [], .arg 3, .envs []]).map (fun c => childEnv [100, 101] c.env) = some [] := by decide
example : (applyAll true true (new true 7) [.envs [], .env 1, .envs [], .envs [2, 1], .arg 9, .env 1]).map (fun c => childEnv [100, 101] c.env)
    = some [1, 2, 1, 1] := by decide
example : (applyAll true true (new true 7) [.envs [], .env 1, .envs [], .envs [2, 1], .arg 9, .env 1]).map (·.env)
    = some (.provided [1, 2, 1, 1] [2, 3, 2, 2, 0]) := by decide
example : specEnvFrom [100] (.provided [5] [6, 0]) [1, 2] = [5, 1, 2] := by decide
example : specEnvFrom [100] .inherit [] = [100] := by decide
example : envRounds true [100, 101] (newB true 7) [[.cmd (.envs [])], [.cwd], [.cmd (.env 4), .stdout .makePipe], [.cmd (.envs [])]]
    = some [some [100, 101], some [100, 101], some [4], some [4]] := by decide
example : deref [3, 1, 0, 9] = [2, 0] := by decide

example : Legacy.idSteps ⟨1000, 900, [950]⟩ ⟨⟨0, 0, 0⟩, ⟨0, 0, 0⟩, [7]⟩ ⟨some 4242, some 4343, some 950⟩ = .error (.setgid, EPERM) := by rfl
example : idSteps ⟨1000, 900, [950]⟩ ⟨⟨0, 0, 0⟩, ⟨0, 0, 0⟩, [7]⟩ ⟨some 4242, some 4343, some 950⟩
    = .ok ⟨⟨⟨4242, 4242, 4242⟩, ⟨4343, 4343, 4343⟩, [7]⟩, 950⟩ := by rfl
example : idSteps ⟨1000, 900, [950]⟩ ⟨⟨0, 0, 0⟩, ⟨0, 0, 0⟩, [7]⟩ ⟨none, some 4343, some 950⟩
    = .ok ⟨⟨⟨0, 0, 0⟩, ⟨4343, 4343, 4343⟩, [7]⟩, 950⟩ := by rfl
example : idSteps ⟨1000, 900, [950]⟩ ⟨⟨4242, 4343, 4242⟩, ⟨0, 0, 0⟩, []⟩ ⟨some 0, none, none⟩ = .error (.setuid, EPERM) := by rfl
example : idSteps ⟨1000, 900, [950]⟩ ⟨⟨0, 0, 0⟩, ⟨0, 0, 0⟩, []⟩ ⟨none, none, some 999⟩ = .error (.setpgid, EPERM) := by rfl
example : idSteps ⟨1000, 900, [950]⟩ ⟨⟨4242, 4343, 0⟩, ⟨0, 0, 0⟩, []⟩ ⟨none, none, some 0⟩
    = .ok ⟨⟨⟨4242, 4343, 4343⟩, ⟨0, 0, 0⟩, []⟩, 1000⟩ := by rfl
example : idFault ⟨[1], true, true, true, false, 0⟩ (.error (.setgid, EPERM)) = some (2, some 1) := by decide
example : idFault ⟨[1], true, true, true, false, 0⟩ (.error (.setuid, EPERM)) = some (3, some 1) := by decide
example : cfgMatches ⟨[1], true, true, true, false, 0⟩ ⟨some 1, some 2, none⟩ := ⟨rfl, rfl, rfl⟩

/-- a poll (`try_wait`) that finds the child still running leaves the handle exactly as it was — nothing is cached —
so a later `wait` still reaps the child and reports its real status -/
theorem try_wait_running_keeps_handle (p : Proc) (h : p.status = none) :
    tryWait p .running = (p, .ok none, 1) := by
  simp [tryWait, h]

theorem wait_after_running_poll (p : Proc) (h : p.status = none) (st : Int) :
    (wait (tryWait p .running).1 (.exited st)).2.1 = .ok st := by
  simp [tryWait, wait, h]

end TinyVerif.Spawn
