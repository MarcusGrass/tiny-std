/-
C03 — the inductive part: `wf_step` for the strengthened invariant, and the block-level guarantees of
`Props/C03.lean` WITHOUT a well-formedness hypothesis on the produced state.

`WF` (the 12-conjunct executable checker) alone is not inductive (`Proofs/DlIndCex.lean`: kernel-checked `WF`
states from which one `malloc` / `free` leaves `WF`).  The invariant that IS inductive:

    Inv2 hs  :=  WF hs  ∧  RecsOk ∧ FenceOk ∧ TailOk ∧ HeadOk ∧ RecIn (of hs.st)
                 ∧ block ids unique ∧ recorded alignments are powers of two ≤ 2^32

(`Proofs/DlIndSpec.lean`, `Proofs/DlIndStep.lean`; executable as `invB`, `Model/DlmallocWF2.lean`, evaluated by the
driver on every state of every explored history of the real allocator).

`OpOk hs op os` is what the caller of one operation must guarantee: a power-of-two alignment ≤ 2^32, a padded
request below 2^63, and the mmap contract for the answer the operation may be served (`OsOk`: page-aligned,
non-null, inside the address space, disjoint from every segment held).

Quantifiers: every history, every size and alignment, every OS answer sequence (any placement the contract
allows, refusal at any position, munmap / mremap refused or not).
-/
import TinyVerif.Props.C03
import TinyVerif.Proofs.DlIndAll
namespace TinyVerif.Dl

/-- **wf_step** (full, for the strengthened invariant): one operation preserves `Inv2` -/
theorem inv_step {hs hs' : Hist} {op : Op} {os : List OsDir} {out : Out}
    (hi : Inv2 hs) (hop : OpOk hs op os) (h : hs.step op os = .ok (hs', out)) : Inv2 hs' :=
  inv_step_of_leaf_specs all_malloc_nosys all_sys_alloc all_free_heap all_sys_trim all_release_unused_segments
    all_try_realloc_chunk all_memalign_fix hi hop h

/-- in particular `WF` (the executable checker `wfb` of `Props/C03.lean`) holds after the step -/
theorem wf_step {hs hs' : Hist} {op : Op} {os : List OsDir} {out : Out}
    (hi : Inv2 hs) (hop : OpOk hs op os) (h : hs.step op os = .ok (hs', out)) : WF hs' :=
  (inv_step hi hop h).wf

/-- **every reachable state**: the invariant holds initially and after every history whose operations satisfy
`OpOk` in the state they are applied to -/
theorem inv_reachable {ops : List (Op × List OsDir)} {hs' : Hist} {evs : List OsEv}
    (hok : RunOk Hist.init ops) (h : Hist.init.run ops = .ok (hs', evs)) : Inv2 hs' := by
  obtain ⟨hm, hf, hr⟩ := as_entry_specs all_malloc_nosys all_sys_alloc all_free_heap all_sys_trim
    all_release_unused_segments all_try_realloc_chunk all_memalign_fix
  exact (inv_run_of_specs hm hf hr).2 hok h

theorem wf_reachable {ops : List (Op × List OsDir)} {hs' : Hist} {evs : List OsEv}
    (hok : RunOk Hist.init ops) (h : Hist.init.run ops = .ok (hs', evs)) : WF hs' :=
  (inv_reachable hok h).wf

/-! ## the block-level guarantees, from the invariant of the state BEFORE the call only -/

/-- **alloc_ok** (full): a non-null `malloc` result is aligned as requested, designates `size` bytes inside one
segment, was not live before, overlaps no other live block; the live set grows by exactly this block -/
theorem alloc_ok (hs hs' : Hist) (id size align : Nat) (os : List OsDir) (out : Out) (hi : Inv2 hs)
    (hop : OpOk hs (.malloc id size align) os)
    (h : hs.step (.malloc id size align) os = .ok (hs', out)) (hp : out.ptr ≠ 0) :
    AllocPost hs' hs.live { id := id, ptr := out.ptr, size := size, align := align } :=
  alloc_ok_partial hs hs' id size align os out h hp (wf_step hi hop h)

/-- **calloc_ok** (full): as `alloc_ok`, and the `size` bytes are zeroed by the call -/
theorem calloc_ok (hs hs' : Hist) (id size align : Nat) (os : List OsDir) (out : Out) (hi : Inv2 hs)
    (hop : OpOk hs (.calloc id size align) os)
    (h : hs.step (.calloc id size align) os = .ok (hs', out)) (hp : out.ptr ≠ 0) :
    AllocPost hs' hs.live { id := id, ptr := out.ptr, size := size, align := align } ∧ out.zeroed = true :=
  calloc_ok_partial hs hs' id size align os out h hp (wf_step hi hop h)

/-- **realloc_ok** (full): a successful reallocation yields a block of the new size with all the properties of a
fresh allocation relative to the other live blocks; it stays in place without a copy, or exactly one copy from the
old to the new block is made before the old block is freed -/
theorem realloc_ok (hs hs' : Hist) (id newsize : Nat) (os : List OsDir) (out : Out) (hi : Inv2 hs)
    (hop : OpOk hs (.realloc id newsize) os)
    (h : hs.step (.realloc id newsize) os = .ok (hs', out)) (hp : out.ptr ≠ 0) :
    ∃ b, findBlock hs.live id = some b ∧
      AllocPost hs' (hs.live.filter fun x => x.id ≠ id) { b with ptr := out.ptr, size := newsize } ∧
      ((out.copy = none ∧ out.ptr = b.ptr) ∨
       ∃ len, out.copy = some { src := b.ptr, dst := out.ptr, len := len } ∧ len ≤ newsize ∧
         (b.align > MALLOC_ALIGNMENT → len = min b.size newsize)) :=
  realloc_ok_partial hs hs' id newsize os out h hp (wf_step hi hop h)

/-- **free_ok** (full): `free` removes exactly the named block; the remaining blocks stay pairwise disjoint -/
theorem free_ok (hs hs' : Hist) (id : Nat) (os : List OsDir) (out : Out) (hi : Inv2 hs)
    (h : hs.step (.free id) os = .ok (hs', out)) :
    ∃ b, findBlock hs.live id = some b ∧ hs'.live = hs.live.filter (fun x => x.id ≠ id) ∧
      ∀ b1 ∈ hs'.live, ∀ b2 ∈ hs'.live, b1.ptr ≠ b2.ptr →
        b1.ptr + b1.size ≤ b2.ptr ∨ b2.ptr + b2.size ≤ b1.ptr := by
  obtain ⟨b, hb, hl, hd⟩ := free_ok_partial hs hs' id os out h
  exact ⟨b, hb, hl, hd (wf_step (op := .free id) (os := os) hi (by unfold OpOk; trivial) h)⟩

/-- **the heap stays fully usable after a failed operation**: a step during which the OS refused a call still ends
in the invariant (`_hr` only names the situation; that the state is the old one after a refused mmap is `oom_null`,
`Props/C03.lean`) -/
theorem oom_keeps_invariant (hs hs' : Hist) (op : Op) (os : List OsDir) (out : Out) (hi : Inv2 hs)
    (hop : OpOk hs op os) (h : hs.step op os = .ok (hs', out)) (_hr : refused hs'.st.evs = true) :
    Inv2 hs' := inv_step hi hop h

/-- **owner-only writes, dynamic form**: the model's memory is the header table, so the words an operation writes are
the header words (and free-chunk links) of entries that exist before or after it. For every operation from a good
state, every entry of the table BEFORE or AFTER the step — hence every header the step creates, rewrites or deletes —
lies outside every block that stays live across the step: its two header words end before the block's payload or start
after it, and if it is a free chunk so does its whole interior beyond the `prev_foot` word. (User bytes themselves are
not modelled; the byte-pattern oracle on the real code covers them.) -/
theorem step_metadata_outside_persisting_blocks {hs hs' : Hist} {op : Op} {os : List OsDir} {out : Out}
    (hi : Inv2 hs) (hop : OpOk hs op os) (h : hs.step op os = .ok (hs', out))
    (b : Block) (hb : b ∈ hs.live) (hb' : b ∈ hs'.live) (x : Ent)
    (hx : x ∈ hs.st.h.ents ∨ x ∈ hs'.st.h.ents) :
    (x.addr + 16 ≤ b.ptr ∨ b.ptr + b.size ≤ x.addr + 8) ∧
    (isFree x = true → x.addr + x.size ≤ b.ptr ∨ b.ptr + b.size ≤ x.addr + 8) := by
  rcases hx with hx | hx
  · exact metadata_outside_live_blocks hs hi.wf b hb x hx
  · exact metadata_outside_live_blocks hs' (wf_step hi hop h) b hb' x hx

/-- the same, by address: wherever the header table answers differently before and after the step (a header written,
changed or removed at `a`), the two header words at `a` lie outside every block that stays live across the step -/
theorem changed_header_outside_persisting_blocks {hs hs' : Hist} {op : Op} {os : List OsDir} {out : Out}
    (hi : Inv2 hs) (hop : OpOk hs op os) (h : hs.step op os = .ok (hs', out))
    (b : Block) (hb : b ∈ hs.live) (hb' : b ∈ hs'.live) (a : Nat)
    (hne : findEnt hs.st.h.ents a ≠ findEnt hs'.st.h.ents a) :
    a + 16 ≤ b.ptr ∨ b.ptr + b.size ≤ a + 8 := by
  cases h1 : findEnt hs.st.h.ents a with
  | some e =>
    obtain ⟨hm, ha⟩ := findEnt_some h1
    have := (step_metadata_outside_persisting_blocks hi hop h b hb hb' e (Or.inl hm)).1
    rw [ha] at this
    exact this
  | none =>
    cases h2 : findEnt hs'.st.h.ents a with
    | some e =>
      obtain ⟨hm, ha⟩ := findEnt_some h2
      have := (step_metadata_outside_persisting_blocks hi hop h b hb hb' e (Or.inr hm)).1
      rw [ha] at this
      exact this
    | none => exact absurd (h1.trans h2.symm) hne

/-! ## non-vacuity -/

example : Inv2 Hist.init := inv2_init

set_option maxRecDepth 20000 in
/-- the hypotheses of `inv_step` on the demo state of `Props/C03.lean` (two bins in use, one live block) for a
request the OS serves with a fresh mapping below the heap -/
example : Inv2 demoState ∧ OpOk demoState (.calloc 7 70000 4096) [.m (some 524288)] := by
  refine ⟨as_inv2B_ok (by decide +kernel), 12, by decide +kernel, by decide +kernel, by unfold as_BigOk; decide, ?_⟩
  intro tbase q hq
  injection hq with h1 _
  injection h1 with h1
  injection h1 with h1
  subst h1
  refine ⟨⟨by decide +kernel, by decide +kernel, by decide +kernel, ?_⟩, by decide +kernel⟩
  intro g hg
  have : demoState.st.segs = [{ base := 1048576, size := 65536, recAt := 0 }] := by decide +kernel
  have hg : g ∈ demoState.st.segs := hg
  rw [this] at hg
  simp only [List.mem_singleton] at hg
  subst hg
  left
  decide

end TinyVerif.Dl
