/-
C20 — parsers derived with `ArgParse` / `Subcommand` accept exactly their declared grammar and never panic.
Property theorems about `TinyVerif.Model.Cli` (tied to tiny-cli's derives by the correspondence run of `bin/check C20`:
the same shape table generates the Rust structs with the real derives and the Lean `Shape` terms).

All theorems quantify over *every* shape (any number of fields, any nesting depth), every argument list of arbitrary
byte strings and every rendering `dbg` of the `{:?}` text of an unrecognised argument.
-/
import TinyVerif.Model.Cli
import TinyVerif.Proofs.CliLemmas
namespace TinyVerif.Cli

/-! ## the 128-byte cause buffer -/

/-- **cause_buf_in_bounds**: whatever pieces are written, building the cause never panics (the `unwrap` on
`get_mut(len..len+n)` and the subtraction `128 - len` are unreachable), the stored text is at most 128 bytes, it is
exactly the concatenation of the pieces when that fits and exactly the fallback text when it does not. -/
theorem cause_buf_in_bounds (pieces : List Bytes) :
    ∃ c, newCause pieces = .ok c ∧ c.length ≤ 128 ∧
      (pieces.flatten.length ≤ 128 → c = pieces.flatten) ∧
      (128 < pieces.flatten.length → c = M_OVERFLOW) := by
  refine ⟨_, newCause_spec pieces, ?_, ?_, ?_⟩
  · by_cases h : pieces.flatten.length ≤ CAP
    · rw [if_pos h]; exact h
    · rw [if_neg h]; decide
  · intro h; rw [if_pos h]
  · intro h; rw [if_neg (by simp only [CAP]; omega)]

/-- the invariant `len ≤ 128 ∧ len = bytes written` is kept by every successful `write_str`, a refused write means the
text really does not fit, and no write panics -/
theorem cause_buf_write_inv (b : CauseBuf) (s : Bytes) (hb : b.Inv) :
    (∀ b', b.writeStr s = .ok b' → b'.Inv ∧ b'.data = b.data ++ s) ∧
    (b.writeStr s = .fmtErr → CAP < b.len + s.length) ∧
    b.writeStr s ≠ .panic := by
  rw [writeStr_spec hb]
  by_cases hs : b.len + s.length ≤ CAP
  · rw [if_pos hs]
    refine ⟨fun b' h => ?_, fun h => ?_, fun h => ?_⟩
    · cases h; exact ⟨hb.append hs, rfl⟩
    · cases h
    · cases h
  · rw [if_neg hs]
    refine ⟨fun b' h => ?_, fun _ => by omega, fun h => ?_⟩
    · cases h
    · cases h

example : newCause [M_UNREC, dbgAscii ([122, 122] ++ [0])] =
    .ok (M_UNREC ++ [79, 107, 40, 34, 122, 122, 92, 48, 34, 41]) := by decide
-- a 110-byte unrecognised argument: the fallback text
set_option maxRecDepth 8000 in
example : newCause [M_UNREC, dbgAscii (List.replicate 110 120 ++ [0])] = .ok M_OVERFLOW := by decide

/-! ## totality: `ok` or an error value, never a panic -/

/-- **parse_total**: for every shape, every list of arbitrary byte strings (non-UTF-8, empty, option-like, arbitrarily
long) and every `{:?}` rendering, the outcome is a parsed value or an error value whose cause text is at most 128 bytes
— never a panic. -/
theorem parse_total (dbg : Bytes → Bytes) (sh : Shape) (args : List Bytes) :
    (∃ v, report dbg sh args = .ok v) ∨
    (∃ help kind cause, report dbg sh args = .err help kind cause ∧ cause.length ≤ 128) := by
  unfold report
  cases hp : parse sh args with
  | ok v => exact Or.inl ⟨v, rfl⟩
  | error e =>
    obtain ⟨c, hc, hlen, _, _⟩ := cause_buf_in_bounds (e.kind.pieces dbg)
    exact Or.inr ⟨e.help, e.kind, c, by simp only [hc], hlen⟩

/-! ## one struct level: a well-formed prefix followed by anything -/

/-- after a prefix of well-formed occurrences the parser is in the state the occurrences denote -/
theorem parse_prefix (fs : List Field) (sub : SubSpec) (its : List Item) (tail : List Bytes)
    (hg : GoodItems fs sub.present (initAccs fs) its) :
    parse (.mk fs sub) (renderItems fs its ++ tail) =
      match loop fs sub.present (subParse sub) (applyItems (initAccs fs) its) .none tail with
      | .error e => .error e
      | .ok (accs, sv) => finish fs sub accs sv := by
  rw [parse, loop_items fs sub.present (subParse sub) .none tail its (initAccs fs) hg]
  rfl

/-- **help_err**: `-h` / `--help` in any position after well-formed occurrences (and not shadowed by an option of the
struct spelled `-h`) yields the help error of this struct with an empty cause. -/
theorem help_err (dbg : Bytes → Bytes) (fs : List Field) (sub : SubSpec) (its : List Item) (h : Bytes) (rest : List Bytes)
    (hg : GoodItems fs sub.present (initAccs fs) its) (hh : isHelp h = true) (hns : findOpt fs 0 h = none) :
    parse (.mk fs sub) (renderItems fs its ++ h :: rest) = .error ⟨[], .help⟩ ∧
    report dbg (.mk fs sub) (renderItems fs its ++ h :: rest) = .err [] .help [] := by
  have hp : parse (.mk fs sub) (renderItems fs its ++ h :: rest) = .error ⟨[], .help⟩ := by
    rw [parse_prefix fs sub its _ hg, loop]
    simp only [hns, hh, if_true]
  refine ⟨hp, ?_⟩
  unfold report
  rw [hp]
  rfl

/-- **unknown_option_err**: an argument that is no option literal of the struct, no help request, no subcommand name
and for which no positional is left is rejected with "Unrecognized argument" and this struct's help. -/
theorem unknown_option_err (fs : List Field) (sub : SubSpec) (its : List Item) (x : Bytes) (rest : List Bytes)
    (hg : GoodItems fs sub.present (initAccs fs) its) (hx : findOpt fs 0 x = none) (hh : isHelp x = false)
    (hno : (sub.present = true ∧ subParse sub x rest = .noMatch) ∨
           (sub.present = false ∧ firstEmptyPos fs (applyItems (initAccs fs) its) 0 = none)) :
    parse (.mk fs sub) (renderItems fs its ++ x :: rest) = .error ⟨[], .unrecognized x⟩ := by
  rw [parse_prefix fs sub its _ hg, loop]
  rcases hno with ⟨hp, hs⟩ | ⟨hp, hs⟩
  · simp only [hx, hh, hp, hs, if_true, Bool.false_eq_true, if_false]
  · simp only [hx, hh, hp, hs, Bool.false_eq_true, if_false]

/-- the cause of an unrecognised argument is `Unrecognized argument: ` + its `{:?}` text, or the fallback when that
exceeds 128 bytes (e.g. a 10 kB argument) -/
theorem unknown_option_cause (dbg : Bytes → Bytes) (sh : Shape) (args : List Bytes) (path : List Bytes) (x : Bytes)
    (hp : parse sh args = .error ⟨path, .unrecognized x⟩) :
    report dbg sh args = .err path (.unrecognized x)
      (if (M_UNREC ++ dbg (x ++ [0])).length ≤ 128 then M_UNREC ++ dbg (x ++ [0]) else M_OVERFLOW) := by
  unfold report
  rw [hp]
  simp only [ErrKind.pieces, newCause_spec, List.flatten_cons, List.flatten_nil, List.append_nil, CAP]

/-- **missing_value_err**: a value-taking option as the last argument -/
theorem missing_value_err (fs : List Field) (sub : SubSpec) (its : List Item) (i : Nat) (f : Field) (l : Bytes)
    (hg : GoodItems fs sub.present (initAccs fs) its) (hfind : findOpt fs 0 l = some (i, f)) (hk : f.kind ≠ .bool) :
    parse (.mk fs sub) (renderItems fs its ++ [l]) = .error ⟨[], .missingValue f.litMatch⟩ := by
  rw [parse_prefix fs sub its _ hg, loop]
  simp only [hfind, hk, if_false]

/-- **malformed_value_err**: a value that does not convert (not UTF-8, not an `i32`) is an error naming the option;
the argument after a value-taking option is consumed whatever it looks like -/
theorem malformed_value_err (fs : List Field) (sub : SubSpec) (its : List Item) (i : Nat) (f : Field) (l x : Bytes)
    (rest : List Bytes) (ce : ConvErr)
    (hg : GoodItems fs sub.present (initAccs fs) its) (hfind : findOpt fs 0 l = some (i, f)) (hk : f.kind ≠ .bool)
    (hc : convert f.kind x = .error ce) :
    parse (.mk fs sub) (renderItems fs its ++ l :: x :: rest) = .error ⟨[], ce.atOpt f.litMatch⟩ := by
  rw [parse_prefix fs sub its _ hg, loop]
  simp only [hfind, hk, if_false, hc]

/-- **missing_required_err**: when the arguments end and a required option/positional was never given, the error names
the first such field in declaration order -/
theorem missing_required_err (fs : List Field) (sub : SubSpec) (its : List Item) (k : ErrKind)
    (hg : GoodItems fs sub.present (initAccs fs) its)
    (hm : firstMissing fs (applyItems (initAccs fs) its) = some k) :
    parse (.mk fs sub) (renderItems fs its) = .error ⟨[], k⟩ := by
  have := parse_prefix fs sub its [] hg
  rw [List.append_nil] at this
  rw [this, loop]
  simp only [finish, hm]

/-- a required subcommand that was never given -/
theorem missing_command_err (fs : List Field) (sub : SubSpec) (its : List Item)
    (hg : GoodItems fs sub.present (initAccs fs) its)
    (hm : firstMissing fs (applyItems (initAccs fs) its) = none) (hr : sub.required = true) :
    parse (.mk fs sub) (renderItems fs its) = .error ⟨[], .missingCommand sub.names⟩ := by
  have := parse_prefix fs sub its [] hg
  rw [List.append_nil] at this
  rw [this, loop]
  simp only [finish, hm, hr]


/-! ## round trip: every arrangement of every admissible assignment parses back to it -/

/-- a subcommand name must reach the subcommand tail: it is not an option literal of the parent and not `-h`/`--help` -/
def NameOk (fs : List Field) (n : Bytes) : Prop := findOpt fs 0 n = none ∧ isHelp n = false

mutual
/-- `Admissible sh v lay`: `lay` arranges exactly the values of `v` — per struct level (`LevelAdm`, Proofs/CliLemmas):
* match literals are not shadowed by an earlier field, positional fields are `T`/`Option<T>`;
* every occurrence is typed for its field and its printed value converts back (`convert kind (print a) = ok a`:
  UTF-8 for `str`, print/parse round trip for `FromStr` kinds); a positional value is not an option literal of the
  struct nor `-h`/`--help` (option values may be anything);
* positional values appear in declaration order with none skipped; options in *any* order, interleaved anyhow,
  short or long alias per occurrence;
* per field the occurrences denote the value: flag set iff it occurs, `Vec` = its occurrences in order, required
  exactly once, `Option` at most once;
* the chosen subcommand is a declared variant whose name is not captured by the parent, and (recursively) the
  variant's struct is admissible one level down. -/
def Admissible : Shape → Value → List (List Item) → Prop
  | .mk fs sub, v, lay =>
    match v with
    | .mk vs sv => LevelAdm fs sub.present vs (lay.headD []) ∧ AdmSub fs sub sv lay.tail
def AdmSub (fs : List Field) : SubSpec → SubVal → List (List Item) → Prop
  | .none, sv, _ => sv = .none
  | .cmds opt cs, sv, lay => (sv = .none ∧ opt = true) ∨ AdmCmds fs cs sv lay
def AdmCmds (fs : List Field) : Cmds → SubVal → List (List Item) → Prop
  | .nil, _, _ => False
  | .unit n r, sv, lay =>
    match sv with
    | .unit m => if m = n then NameOk fs n else AdmCmds fs r sv lay
    | .args m _ => m ≠ n ∧ AdmCmds fs r sv lay
    | .none => False
  | .args n sh r, sv, lay =>
    match sv with
    | .args m v => if m = n then NameOk fs n ∧ Admissible sh v lay else AdmCmds fs r sv lay
    | .unit m => m ≠ n ∧ AdmCmds fs r sv lay
    | .none => False
end

theorem renderCmds_none : (cs : Cmds) → (lay : List (List Item)) → renderCmds cs .none lay = []
  | .nil, _ => by simp only [renderCmds]
  | .unit n r, lay => by simp only [renderCmds]; exact renderCmds_none r lay
  | .args n sh r, lay => by simp only [renderCmds]; exact renderCmds_none r lay

/-- what the subcommand tail of an admissible value looks like to the parent's loop -/
def TailOk (fs : List Field) (cs : Cmds) (sv : SubVal) (tail : List Bytes) : Prop :=
  ∃ n rest, tail = n :: rest ∧ NameOk fs n ∧
    ((sv = .unit n ∧ rest = [] ∧ cmdsParse cs n [] = .unit n) ∨
     (∃ v, sv = .args n v ∧ cmdsParse cs n rest = .inner n (.ok v)))

/-- a variant in front whose tag is not the one of `sv` is passed over by `subcommand_parse` -/
theorem TailOk.skip {fs : List Field} {cs cs' : Cmds} {sv : SubVal} {tail : List Bytes} (h : TailOk fs cs sv tail)
    (hc : ∀ n rest, (sv = .unit n ∨ ∃ v, sv = .args n v) → cmdsParse cs' n rest = cmdsParse cs n rest) :
    TailOk fs cs' sv tail := by
  obtain ⟨n, rest, h1, h2, h3⟩ := h
  refine ⟨n, rest, h1, h2, h3.imp (fun ⟨a, b, c⟩ => ⟨a, b, ?_⟩) (fun ⟨v, a, b⟩ => ⟨v, a, ?_⟩)⟩
  · rw [hc n [] (Or.inl a), c]
  · rw [hc n rest (Or.inr ⟨v, a⟩), b]

/-- one struct level, given what its subcommand tail does -/
theorem parse_level (fs : List Field) (sub : SubSpec) (vs : List Acc) (sv : SubVal) (its : List Item) (tail : List Bytes)
    (hl : LevelAdm fs sub.present vs its)
    (ht : (sv = .none ∧ tail = [] ∧ sub.required = false) ∨ (∃ o cs, sub = .cmds o cs ∧ TailOk fs cs sv tail)) :
    parse (.mk fs sub) (renderItems fs its ++ tail) = .ok (.mk vs sv) := by
  obtain ⟨hg, hap, hm⟩ := level_sound hl
  rw [parse_prefix fs sub its tail hg, hap]
  rcases ht with ⟨h1, h2, h3⟩ | ⟨o, cs, hsub, n, rest, htl, ⟨hn1, hn2⟩, hcase⟩
  · subst h1; subst h2
    rw [loop]
    simp only [finish, hm, h3]
  · subst hsub; subst htl
    rw [loop]
    simp only [hn1, hn2, SubSpec.present, if_true, Bool.false_eq_true, if_false, subParse]
    rcases hcase with ⟨h1, h2, h3⟩ | ⟨v, h1, h2⟩
    · subst h1; subst h2
      rw [h3]
      simp only []
      rw [loop]
      simp only [finish, hm]
      cases o <;> rfl
    · subst h1
      rw [h2]
      simp only [finish, hm]
      cases o <;> rfl

mutual
/-- **parse_render**: for every shape (any number of fields, any nesting of required/optional subcommands), every
value assignment and every admissible arrangement of it (options in any order and interleaved with the positionals,
short or long alias per occurrence), rendering and parsing gives back exactly the assignment. -/
theorem parse_render : (sh : Shape) → (v : Value) → (lay : List (List Item)) →
    Admissible sh v lay → parse sh (render sh v lay) = .ok v
  | .mk fs sub, .mk vs sv, lay, h => by
    rw [Admissible] at h
    obtain ⟨hl, hs⟩ := h
    rw [render]
    apply parse_level fs sub vs sv _ _ hl
    cases sub with
    | none =>
      rw [AdmSub] at hs
      subst hs
      left
      exact ⟨rfl, by rw [renderSub], rfl⟩
    | cmds o cs =>
      rw [AdmSub] at hs
      rw [renderSub]
      rcases hs with ⟨h1, h2⟩ | hc
      · subst h1; subst h2
        left
        exact ⟨rfl, renderCmds_none cs _, rfl⟩
      · right
        exact ⟨o, cs, rfl, cmds_render fs cs sv lay.tail hc⟩
theorem cmds_render (fs : List Field) : (cs : Cmds) → (sv : SubVal) → (lay : List (List Item)) →
    AdmCmds fs cs sv lay → TailOk fs cs sv (renderCmds cs sv lay)
  | .nil, sv, lay, h => by simp only [AdmCmds] at h
  | .unit n r, .none, lay, h => by simp only [AdmCmds] at h
  | .unit n r, .unit m, lay, h => by
    simp only [AdmCmds] at h
    simp only [renderCmds]
    by_cases hmn : m = n
    · subst hmn
      simp only [if_true] at h ⊢
      exact ⟨m, [], rfl, h, Or.inl ⟨rfl, rfl, by simp only [cmdsParse, if_true]⟩⟩
    · simp only [hmn, if_false] at h ⊢
      refine (cmds_render fs r (.unit m) lay h).skip fun k rest hk => ?_
      rcases hk with hk | ⟨v, hk⟩ <;> cases hk
      simp only [cmdsParse, hmn, if_false]
  | .unit n r, .args m v, lay, h => by
    simp only [AdmCmds] at h
    simp only [renderCmds]
    refine (cmds_render fs r (.args m v) lay h.2).skip fun k rest hk => ?_
    rcases hk with hk | ⟨v, hk⟩ <;> cases hk
    simp only [cmdsParse, h.1, if_false]
  | .args n sh r, .none, lay, h => by simp only [AdmCmds] at h
  | .args n sh r, .unit m, lay, h => by
    simp only [AdmCmds] at h
    simp only [renderCmds]
    refine (cmds_render fs r (.unit m) lay h.2).skip fun k rest hk => ?_
    rcases hk with hk | ⟨v, hk⟩ <;> cases hk
    simp only [cmdsParse, h.1, if_false]
  | .args n sh r, .args m v, lay, h => by
    simp only [AdmCmds] at h
    simp only [renderCmds]
    by_cases hmn : m = n
    · subst hmn
      simp only [if_true] at h ⊢
      exact ⟨m, render sh v lay, rfl, h.1, Or.inr ⟨v, rfl, by simp only [cmdsParse, if_true]; rw [parse_render sh v lay h.2]⟩⟩
    · simp only [hmn, if_false] at h ⊢
      refine (cmds_render fs r (.args m v) lay h).skip fun k rest hk => ?_
      rcases hk with hk | ⟨v, hk⟩ <;> cases hk
      simp only [cmdsParse, hmn, if_false]
end

/-! ## non-vacuity -/

/-- `struct { #[cli(long="num", short="n")] num: i32, #[cli(short="v")] v: bool, file: &str }` -/
def exFs : List Field :=
  [⟨[110,117,109], some [45,45,110,117,109], some [45,110], .int, .req⟩,
   ⟨[118], none, some [45,118], .bool, .req⟩,
   ⟨[102,105,108,101], none, none, .str, .req⟩]
def exSh : Shape := .mk exFs .none
def exV : Value := .mk [.single (some (.int (-5))), .flag true, .single (some (.bytes [120]))] .none
/-- `x -v --num -5`: the positional first, then the flag, then the option by its long alias -/
def exLay : List (List Item) := [[.posv 2 (.bytes [120]), .flag 1 false, .optv 0 true (.int (-5))]]

example : render exSh exV exLay = [[120], [45,118], [45,45,110,117,109], [45,53]] := by decide

theorem exAdm : Admissible exSh exV exLay := by
  rw [exSh, exV, Admissible]
  refine ⟨⟨?_, ?_, ?_, ?_, rfl, ?_⟩, rfl⟩
  · intro i f ul l hf hl
    rcases i with _ | _ | _ | i
    · simp [exFs] at hf; subst hf; cases ul <;> simp [Field.lit] at hl <;> subst hl <;> decide
    · simp [exFs] at hf; subst hf; cases ul <;> simp [Field.lit] at hl <;> subst hl <;> decide
    · simp [exFs] at hf; subst hf; cases ul <;> simp [Field.lit] at hl
    · simp [exFs] at hf
  · intro i f hf hp
    rcases i with _ | _ | _ | i
    · simp [exFs] at hf; subst hf; simp [Field.isPos] at hp
    · simp [exFs] at hf; subst hf; simp [Field.isPos] at hp
    · simp [exFs] at hf; subst hf; simp
    · simp [exFs] at hf
  · intro it hit
    simp [exLay] at hit
    rcases hit with h | h | h <;> subst h
    · exact ⟨_, rfl, by decide, rfl, by decide, by decide, rfl⟩
    · exact ⟨_, rfl, by decide, rfl⟩
    · exact ⟨_, rfl, by decide, by decide, rfl⟩
  · simp only [exLay, List.headD, PosOrdered]
    refine ⟨by simp, ?_, trivial⟩
    intro j g hj hg hp
    rcases j with _ | _ | j
    · simp [exFs] at hg; subst hg; simp [Field.isPos] at hp
    · simp [exFs] at hg; subst hg; simp [Field.isPos] at hp
    · omega
  · intro j f hf
    rcases j with _ | _ | _ | j
    · simp [exFs] at hf; subst hf
      exact ⟨_, rfl, by simp [FieldVal, exLay, occs, Item.target, Item.atom?]⟩
    · simp [exFs] at hf; subst hf
      exact ⟨_, rfl, by simp [FieldVal, exLay, occs, Item.target]⟩
    · simp [exFs] at hf; subst hf
      exact ⟨_, rfl, by simp [FieldVal, exLay, occs, Item.target, Item.atom?]⟩
    · simp [exFs] at hf

/-- non-vacuity of `parse_render`: the instance above, obtained from the theorem -/
example : parse exSh (render exSh exV exLay) = .ok exV := parse_render _ _ _ exAdm

/-! concrete behaviours of the generated grammar (each also replayed on the compiled derive by `bin/check C20`) -/

-- the hypotheses of the error lemmas are satisfiable: `x -v` is a well-formed prefix of `exSh`
example : GoodItems exFs false (initAccs exFs) [.posv 2 (.bytes [120]), .flag 1 false] :=
  ⟨⟨rfl, by decide, by decide, _, rfl, rfl⟩, ⟨_, _, rfl, rfl, by decide, rfl⟩, trivial⟩
-- `x -v -h` : help;  `x -v --num` : missing value;  `x -v` : required option missing;  `x -v y` : unrecognised
example : parse exSh [[120], [45,118], [45,104]] = .error ⟨[], .help⟩ := rfl
example : parse exSh [[120], [45,118], [45,45,110,117,109]] = .error ⟨[], .missingValue [45,110,32,124,32,45,45,110,117,109]⟩ := rfl
example : parse exSh [[120], [45,118]] = .error ⟨[], .missingOption [45,110,32,124,32,45,45,110,117,109]⟩ := rfl
example : parse exSh [[120], [45,118], [121]] = .error ⟨[], .unrecognized [121]⟩ := rfl
-- a value-taking option consumes the next argument whatever it is: `--num -h` is a malformed value, not a help request
example : parse exSh [[45,45,110,117,109], [45,104]] = .error ⟨[], .badIntAt [45,110,32,124,32,45,45,110,117,109] .invalidDigit⟩ := rfl
-- a repeated single-valued option: the last one wins (`-n 1 -n 2 x`)
example : parse exSh [[45,110], [49], [45,110], [50], [120]] =
    .ok (.mk [.single (some (.int 2)), .flag false, .single (some (.bytes [120]))] .none) := rfl
-- non-UTF-8 positional for a `&str` field
example : parse exSh [[255]] = .error ⟨[], .badUtf8Pos⟩ := rfl
-- `FromStr` boundary values print and parse back
example : parseI32 (printInt I32_MIN) = .ok I32_MIN := rfl
example : parseI32 (printInt I32_MAX) = .ok I32_MAX := rfl
example : parseI32 [50,49,52,55,52,56,51,54,52,56] = .error .posOverflow := rfl


end TinyVerif.Cli
