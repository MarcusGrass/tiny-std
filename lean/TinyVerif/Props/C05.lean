/-
C05 — Threads: the closure runs exactly once on a new thread; join awaits the thread's exit and returns its
value (None exactly on panic); a thread that cannot be created is an error, never a handle whose join hangs.

Model: `Model/Thread.lean` (three parties per thread instance — handle side H, thread side T, kernel K —
at the granularity of spawn.rs's atomic operations / heap calls / system calls, over a resource ledger).
The inductive invariant of one instance is `Proofs/ThreadInv.lean` + `Proofs/ThreadStep.lean`; instances
are independent, so it lifts to the unbounded family `Nat → Inst` and, by induction over event lists, to
every interleaving of H/T/K steps of any number of concurrently live threads (`reachable_inv`).

Tie to the code, re-checked on every run of `bin/check C05`:
 * T: `Gen/ThreadSites.lean` is regenerated from spawn.rs by a *semantic* extractor (helper functions of the file
   inlined, operations recognised by what they do, every path through `spawn`, the thread's entry closure,
   `on_panic`, `join`, `drop` enumerated, branches tagged by what they decide).  `gen_params_from_paths` (by
   `decide`) re-derives every model parameter from those paths with position-independent predicates,
   `gen_shape_ok` checks the partial order between operations the model relies on and that every atomic site has
   at least the ordering the argument needs (`isAcq` / `isRel`, never an equality), `gen_cfg_good` that the
   parameters are the ones the proofs need.  Where the extractor does not understand the source it says so
   (`Op.unknown`, `…Static = false`): the parameter is then what the running code was observed to do and the
   evidence records that; `gen_cfg_good` is demanded all the same;
 * C: a no-libc probe runs the real code under `strace -f`; every observed history must be accepted by
   `stepI` (driver `drv_c05`), which also predicts each join result.

Environment: the kernel's CLONE_CHILD_CLEARTID write + FUTEX_WAKE at thread exit is the synchronisation between
the exited thread and whoever observes the 0 (a waiter woken by it, a FUTEX_WAIT refused with EAGAIN because of
it, the `Acquire` load of `wait_for_exit` that reads it); that the kernel's write is a release of everything the
thread did is an assumption, exercised by the probe.  Nothing else is assumed of the environment for the repaired
code: the theorems hold for `spurious = true` (a FUTEX_WAIT may return 0 without a wake on the word, which the
futex contract allows — e.g. the late wake of a previous thread whose block had the same address) and for
`loadSync = false`.  The code before commit 2967946 called `futex_wait_fast` once and relied on both:
`spurious_wake_breaks_join` and `relaxed_fast_path_needs_hw_ordering` are the model witnesses on that code, the
first one replayed on the implementation with `strace -e inject=futex:retval=0`.
-/
import TinyVerif.Model.Thread
import TinyVerif.Proofs.ThreadStep
import TinyVerif.Proofs.ThreadLayout
import TinyVerif.Gen.ThreadSites
namespace TinyVerif.Thread
open TinyVerif.Gen.Thread

/-! frame facts of `takeVal` -/
@[simp] theorem takeVal_runs (x : Inst) : (takeVal x).runs = x.runs := by rw [takeVal_eq]
@[simp] theorem takeVal_t (x : Inst) : (takeVal x).t = x.t := by rw [takeVal_eq]
@[simp] theorem takeVal_kdone (x : Inst) : (takeVal x).kdone = x.kdone := by rw [takeVal_eq]
@[simp] theorem takeVal_word (x : Inst) : (takeVal x).word = x.word := by rw [takeVal_eq]
@[simp] theorem takeVal_tlsFrees (x : Inst) : (takeVal x).tlsFrees = x.tlsFrees := by rw [takeVal_eq]

/-! ## tie T

`Gen/ThreadSites.lean` lists, for `spawn` (handle side), the thread's entry closure, `on_panic`, `join` and
`Drop::drop`, every *path* through the function after the helper functions of the file have been inlined, as a
list of protocol operations with the decision each branch stands for (`cas_lost`/`cas_won`, `mmap_err`/`mmap_ok`,
`clone_neg`/`clone_nonneg`, `is_thread`/`is_main`), and the atomic / futex sites with their resolved location
(hand-over flag `sync`, exit word `futex`) and orderings.  Nothing below speaks about positions in the source,
about which helper performs an operation, or about the syntactic form of a branch or a loop.

The model's step sequence fixes a total order per party; what the proofs *rely on* is the partial order stated
here, everything else commutes (each release touches its own resource only — `undo_releases_commute`):

 * spawn: the block is allocated and its three members (flag `false`, word `UNFINISHED`, slot `None`) are written
   before it is published by `clone`; closure boxed, stack mapped, tls boxed before `clone`; `clone` before the
   handle; after a failed `clone` (a failed `mmap`) tls, stack, closure and block (closure and block) are each
   released exactly once, in any order, and an error — never a handle — is returned  [`checkClone`, `mmapCleanup`];
 * thread: call → store of the result → hand-over CAS; a thread that lost the CAS resets its clear-tid address,
   then drops the unread result, then frees the block  [`setTidRet`, `dropValT`]; the thread-local block is freed
   exactly once, after every piece of user code (the call, the drop of the result); the winner frees nothing shared.
   The drop of the result is user code that may panic: the model lets the panic handler start from that point
   (`tDropPanic`), and that the block and the thread-local block are released only *after* it is exactly what
   `dropValTOf` / `epilogueShape` demand of the source (Props/C06 `destructor_runs_before_any_release`);
 * panic handler: tls is copied out before it is freed, exactly once on every thread path; loser: CAS → clear-tid
   reset → free  [`setTidPanic`]; the stack-unmap + exit asm is last; on a thread path it never takes one of the
   library's (non-reentrant) print locks — the closure may have panicked inside an argument of `eprintln!` /
   `println!` / `dbg!`, holding it, and the handler would wait for itself for ever (the thread never exits, join hangs);
 * join: wait → read the slot → free the block, on every path; the handle's destructor is suppressed;
 * drop: CAS first; the loser waits, then drops the unread result, then frees  [`dropValH`]; the winner touches
   nothing;
 * the exit wait re-reads the word after every return of the futex wait and leaves only when it differs from the
   value waited on  [`recheck`].

Orderings are demanded as *at least* what the argument needs (`isAcq` / `isRel`), never as equalities.
A path with an operation the extractor did not understand (`Op.unknown`) makes its function "not understood":
the parameters that depend on it are then taken from the running code by the check (`…Static = false`, reported in
the evidence) and the order of its operations is checked on every observed history by the model replay (tie C)
alone; the obligations about sites and orderings, and `gen_cfg_good`, hold regardless. -/

abbrev Path := List Op

def has (a : Op) (p : Path) : Bool := p.contains a
def once (a : Op) (p : Path) : Bool := p.count a == 1
/-- both occur and the first `a` comes before the first `b` -/
def bef (a b : Op) (p : Path) : Bool := has a p && has b p && decide (p.idxOf a < p.idxOf b)
def understood (p : Path) : Bool := !has .unknown p
def noneOf (xs : List Op) (p : Path) : Bool := xs.all (fun x => !has x p)
def onceAfter (a : Op) (xs : List Op) (p : Path) : Bool := xs.all (fun x => once x p && bef a x p)
def lostP (ps : List Path) : List Path := ps.filter (has .cas_lost)
def wonP (ps : List Path) : List Path := ps.filter (has .cas_won)
def threadP (ps : List Path) : List Path := ps.filter (has .is_thread)

/-! the model's parameters as predicates over the path lists -/

def checkCloneOf (ps : List Path) : Bool :=
  let neg := ps.filter (has .clone_neg)
  let pos := ps.filter (has .clone_nonneg)
  !neg.isEmpty && !pos.isEmpty &&
  (ps.filter (has .clone)).all (fun p => understood p && once .clone p && (has .clone_neg p != has .clone_nonneg p)) &&
  neg.all (fun p => bef .clone .clone_neg p && onceAfter .clone_neg [.drop_tls, .munmap, .drop_closure, .tsm_dealloc] p &&
    has .ret_err p && !has .ok_handle p) &&
  pos.all (fun p => bef .clone_nonneg .ok_handle p && noneOf [.drop_tls, .munmap, .drop_closure, .tsm_dealloc, .ret_err] p)

def mmapCleanupOf (ps : List Path) : Bool :=
  let err := ps.filter (has .mmap_err)
  !err.isEmpty &&
  (ps.filter (has .mmap)).all (fun p => once .mmap p && (has .mmap_err p != has .mmap_ok p) && !has .try_return p) &&
  err.all (fun p => understood p && bef .mmap .mmap_err p && onceAfter .mmap_err [.drop_closure, .tsm_dealloc] p &&
    has .ret_err p && noneOf [.ok_handle, .clone, .tls_box, .munmap] p)

def setTidOf (ps : List Path) : Bool :=
  !(lostP ps).isEmpty &&
  (lostP ps).all (fun p => understood p && once .set_tid_0 p && bef .cas .set_tid_0 p && bef .set_tid_0 .tsm_dealloc p) &&
  (wonP ps).all (fun p => understood p && !has .set_tid_0 p)

def dropValTOf (ps : List Path) : Bool :=
  !(lostP ps).isEmpty &&
  (lostP ps).all (fun p => understood p && once .drop_value p && bef .cas .drop_value p && bef .drop_value .tsm_dealloc p)

def dropValHOf (ps : List Path) : Bool :=
  !(lostP ps).isEmpty &&
  (lostP ps).all (fun p => understood p && once .drop_value p && bef .cas .wait p && bef .wait .drop_value p &&
    bef .drop_value .tsm_dealloc p)

/-- one iteration of the exit wait: load; leave iff the word differs from V; else futex_wait(word, V) and again -/
def goodIter : List Path := [[.load, .word_eq, .futex_wait, .cont], [.load, .word_ne, .brk]]

def recheckOf (ls : List WaitLoop) (jd : List Path) : Bool :=
  !jd.any (has .futex_wait) && !ls.isEmpty &&
  ls.all (fun l => l.iter == goodIter && l.cmp.length == 1 && l.cmp == l.arg)

/-- every parameter the extractor decided from the source is the value of its predicate on the emitted paths -/
def genParamsFromPaths : Bool :=
  (!checkCloneStatic || Gen.Thread.checkClone == checkCloneOf spawnPaths) &&
  (!mmapCleanupStatic || Gen.Thread.mmapCleanup == mmapCleanupOf spawnPaths) &&
  (!setTidRetStatic || Gen.Thread.setTidRet == setTidOf epiloguePaths) &&
  (!dropValTStatic || Gen.Thread.dropValT == dropValTOf epiloguePaths) &&
  (!setTidPanicStatic || Gen.Thread.setTidPanic == setTidOf (threadP panicPaths)) &&
  (!dropValHStatic || Gen.Thread.dropValH == dropValHOf dropPaths) &&
  (!recheckStatic || Gen.Thread.recheck == recheckOf waitLoops (joinPaths ++ dropPaths))

theorem gen_params_from_paths : genParamsFromPaths = true := by decide

/-! the partial order between operations (for the functions whose every path is understood) -/

def spawnShape (ps : List Path) : Bool :=
  ps.any (has .clone) &&
  ps.all (fun p => once .tsm_alloc p && onceAfter .tsm_alloc [.init_flag_false, .init_word, .init_slot_none] p &&
    !has .tsm_alloc_zeroed p) &&
  (ps.filter (has .clone)).all (fun p =>
    [Op.tsm_alloc, .init_flag_false, .init_word, .init_slot_none, .box_closure, .mmap, .tls_box].all (fun x => once x p && bef x .clone p)) &&
  (ps.filter (has .ok_handle)).all (fun p => bef .clone .ok_handle p)

def epilogueShape (ps : List Path) : Bool :=
  !(lostP ps).isEmpty && !(wonP ps).isEmpty &&
  ps.all (fun p => once .call_func p && once .write_slot p && once .cas p && bef .call_func .write_slot p &&
    bef .write_slot .cas p && (has .cas_won p != has .cas_lost p) && once .tls_dealloc p && bef .call_func .tls_dealloc p &&
    noneOf [.wait, .futex_wait, .load] p) &&
  (lostP ps).all (fun p => once .tsm_dealloc p && bef .cas .tsm_dealloc p && (!has .drop_value p || bef .drop_value .tls_dealloc p)) &&
  (wonP ps).all (fun p => noneOf [.tsm_dealloc, .drop_value] p)

def panicShape (ps : List Path) : Bool :=
  let thr := threadP ps
  let main := ps.filter (has .is_main)
  !(lostP thr).isEmpty && !(wonP thr).isEmpty && !main.isEmpty &&
  -- on a spawned thread the handler takes none of the library's print locks (`print!`/`eprintln!`/`dbg!`..): they are not
  -- reentrant and the panic may have been raised inside an argument of such a macro, i.e. with the lock held by this thread
  thr.all (fun p => !has .print_lock p) &&
  thr.all (fun p => once .tls_read p && once .tls_dealloc p && bef .tls_read .tls_dealloc p && once .cas p &&
    (has .cas_won p != has .cas_lost p) && once .asm_unmap_exit p &&
    [Op.tls_dealloc, .cas, .set_tid_0, .tsm_dealloc].all (fun x => !has x p || bef x .asm_unmap_exit p)) &&
  (lostP thr).all (fun p => once .tsm_dealloc p && bef .cas .tsm_dealloc p) &&
  (wonP thr).all (fun p => !has .tsm_dealloc p) &&
  main.all (fun p => noneOf [.cas, .tsm_dealloc, .tls_dealloc, .set_tid_0, .asm_unmap_exit] p)

def joinShape (ps : List Path) : Bool :=
  !ps.isEmpty &&
  ps.all (fun p => once .wait p && once .read_slot p && once .tsm_dealloc p && bef .wait .read_slot p &&
    bef .read_slot .tsm_dealloc p && has .forget p && noneOf [.cas, .set_tid_0] p)

def dropShape (ps : List Path) : Bool :=
  !(lostP ps).isEmpty && !(wonP ps).isEmpty &&
  ps.all (fun p => once .cas p && (has .cas_won p != has .cas_lost p) && !has .set_tid_0 p) &&
  (lostP ps).all (fun p => once .wait p && once .tsm_dealloc p && bef .cas .wait p && bef .wait .tsm_dealloc p) &&
  (wonP ps).all (fun p => noneOf [.wait, .tsm_dealloc, .drop_value, .futex_wait] p)

/-- `f ps` is demanded when the extractor understood every path of the function (otherwise: model replay only) -/
def whenUnderstood (ps : List Path) (f : List Path → Bool) : Bool := !ps.all understood || f ps

def isAcq : Gen.Thread.Ord → Bool
  | .acquire | .acqrel | .seqcst => true
  | _ => false
def isRel : Gen.Thread.Ord → Bool
  | .release | .acqrel | .seqcst => true
  | _ => false

/-- the hand-over RMW on the flag: a strong compare_exchange(false, true) — or a swap(true) / fetch_or(true), which
decide the same thing by the previous value — whose (success) ordering is at least Acquire and at least Release;
any failure ordering.  `compare_exchange_weak` is not accepted: it may fail spuriously, and then both sides lose. -/
def goodCas (s : Site) : Bool :=
  ((s.op == "compare_exchange" && s.vals == ["false", "true"]) || ((s.op == "swap" || s.op == "fetch_or") && s.vals == ["true"])) &&
  s.loc == "sync" && isAcq (s.ords.getD 0 .relaxed) && isRel (s.ords.getD 0 .relaxed)

/-- a site of the exit wait: a load of the exit word that is at least Acquire, or the futex wait on that word -/
def goodWaitSite (s : Site) : Bool :=
  s.loc == "futex" && ((s.op == "load" && isAcq (s.ords.getD 0 .relaxed)) || s.op == "futex_wait_fast")

/-- exactly one hand-over CAS, and every other atomic operation of the function belongs to the exit wait -/
def casOk (l : List Site) : Bool := (l.filter goodCas).length == 1 && l.all (fun s => goodCas s || goodWaitSite s)

def genShapeOk : Bool :=
  -- sites, whatever the control structure: drop / thread / panic handler do exactly one good CAS; join does none
  -- and touches nothing but the exit word; spawn's handle side does no atomic operation at all
  casOk dropSites && casOk spawnSites && spawnSites.length == 1 && casOk panicSites && panicSites.length == 1 &&
  joinSites.all goodWaitSite && joinSites.any (fun s => s.op == "load") && hspawnSites.isEmpty &&
  -- the partial orders
  whenUnderstood spawnPaths spawnShape && whenUnderstood epiloguePaths epilogueShape &&
  whenUnderstood panicPaths panicShape && whenUnderstood joinPaths joinShape && whenUnderstood dropPaths dropShape &&
  -- x86-64 trampoline: clone (56), then in the child munmap (11) and exit (60)
  cloneAsmSyscalls == [56, 11, 60] &&
  -- join / drop wait with the same (shared) key kind the kernel's clear-tid wake uses
  futexWaitPrivate == false

theorem gen_shape_ok : genShapeOk = true := by decide

/-- the model's parameters as derived from the current source; the environment may wake waiters spuriously and
gives no ordering to relaxed loads -/
def genCfg : Cfg :=
  { checkClone := Gen.Thread.checkClone, mmapCleanup := Gen.Thread.mmapCleanup, initWord := Gen.Thread.initWord,
    joinExpect := Gen.Thread.joinExpect, dropExpect := Gen.Thread.dropExpect, setTidRet := Gen.Thread.setTidRet,
    setTidPanic := Gen.Thread.setTidPanic, recheck := Gen.Thread.recheck, loadSync := false, spurious := true,
    dropValH := Gen.Thread.dropValH, dropValT := Gen.Thread.dropValT }

theorem gen_cfg_good : genCfg.Good := by decide

/-- the four releases of spawn's error path touch one resource each: as functions on the ledger they commute, so
the order in which the source performs them is immaterial (the check replays them in the model's order) -/
theorem undo_releases_commute (x : Inst) :
    freeTls (freeStack x) = freeStack (freeTls x) ∧ freeTls (freeBox x) = freeBox (freeTls x) ∧
    freeStack (freeBox x) = freeBox (freeStack x) ∧
    freeTsm (touchTsm (freeTls x)) = freeTls (freeTsm (touchTsm x)) ∧
    freeTsm (touchTsm (freeStack x)) = freeStack (freeTsm (touchTsm x)) ∧
    freeTsm (touchTsm (freeBox x)) = freeBox (freeTsm (touchTsm x)) := by
  -- the two sides differ only in the order in which `bad` collects the liveness tests
  simp only [freeTls, freeStack, freeBox, freeTsm, touchTsm, Bool.or_assoc, Bool.or_comm, Bool.or_left_comm, and_self]

/-! ## reachability: every interleaving, any number of threads -/

def Reachable (c : Cfg) (s : St) : Prop := ∃ evs, run c St.init evs = some s

theorem reachable_inv (c : Cfg) (hc : c.Good) (s : St) (h : Reachable c s) : SInv s := by
  obtain ⟨evs, h⟩ := h
  exact run_sinv c hc _ s evs h init_sinv

theorem run_snoc (c : Cfg) {s s' : St} {i : Nat} {e : Ev} (hs : step c s i e = some s') :
    ∀ (l : List (Nat × Ev)) (s0 : St), run c s0 l = some s → run c s0 (l ++ [(i, e)]) = some s'
  | [], s0, h => by cases h; simp only [List.nil_append, run, hs]
  | (j, f) :: rest, s0, h => by
    simp only [run, List.cons_append] at h ⊢
    split at h
    · next s1 _ => exact run_snoc c hs rest s1 h
    · cases h

theorem Reachable.step {c : Cfg} {s s' : St} {i : Nat} {e : Ev} (h : Reachable c s) (hs : step c s i e = some s') :
    Reachable c s' :=
  h.elim fun evs hr => ⟨evs ++ [(i, e)], run_snoc c hs evs _ hr⟩

/-! ## closure_runs_once -/

def isRunEv : Ev → Bool
  | .tRet _ | .tPanic => true
  | _ => false

theorem of_ite_none {α : Type} {p : Prop} [Decidable p] {a : Option α} {b : α} (h : (if p then a else none) = some b) :
    p ∧ a = some b := by
  split at h
  · exact ⟨‹_›, h⟩
  · cases h

/-- One pass over the events.  A guard whose other branch is `none` is taken off `h` with `of_ite_none` (`split` on a
hypothesis of this size is slow), any other test by `split`, until `cases h` closes the branch or puts the record for `x'`. -/
theorem stepI_frame (c : Cfg) (x x' : Inst) (e : Ev) (h : stepI c x e = some x') :
    (x'.runs = x.runs ∨ (isRunEv e = true ∧ x.t = .run ∧ x'.runs = x.runs + 1)) ∧
    x.tlsFrees ≤ x'.tlsFrees ∧
    (x.t = .notStarted → spawnedOk x.h = true → x'.t = .notStarted ∧ x'.kdone = x.kdone ∧ x'.word = x.word) := by
  cases e <;> simp only [stepI] at h <;>
    (repeat' (first | cases h | (replace h := of_ite_none h; obtain ⟨hg, h⟩ := h) | split at h)) <;> (try split) <;>
    simp [*, isRunEv, spawnedOk, touchTsm, touchTls, touchStack, touchBox, freeTsm, freeTls, freeStack, freeBox]

/-- the closure body is entered only by T's own step from `start_fn`, which exists only after a successful clone -/
theorem closure_entered_only_on_T (c : Cfg) (x x' : Inst) (e : Ev) (h : stepI c x e = some x')
    (hne : x'.runs ≠ x.runs) : isRunEv e = true ∧ x.t = .run ∧ x'.runs = x.runs + 1 :=
  (stepI_frame c x x' e h).1.resolve_left hne

theorem isFailed_of_spawnedOk {h : HPc} (hs : spawnedOk h = true) : isFailed h = false := by
  cases h <;> first | rfl | cases hs

theorem complete_spawned {x : Inst} (hc : complete x = true) (hs : spawnedOk x.h = true) :
    hFinal x.h = true ∧ x.t = .dead ∧ x.kdone = true := by
  simpa only [complete, isFailed_of_spawnedOk hs, Bool.false_or, Bool.and_eq_true, beq_iff_eq] using hc

/-- **closure_runs_once**: in every reachable state of every instance the closure body has been entered at most
once; exactly once in every complete execution of a spawned instance; never while no handle has been returned (in
particular if spawn failed) -/
theorem closure_runs_once (c : Cfg) (hc : c.Good) (s : St) (h : Reachable c s) (i : Nat) :
    (s.inst i).runs ≤ 1 ∧
    (complete (s.inst i) = true → spawnedOk (s.inst i).h = true → (s.inst i).runs = 1) ∧
    (spawnedOk (s.inst i).h = false → (s.inst i).runs = 0) := by
  have inv := reachable_inv c hc s h i
  have hr := inv.runsI
  refine ⟨by rw [hr]; unfold b2n; split <;> omega, ?_, ?_⟩
  · intro hcmp hsp
    rw [hr, (complete_spawned hcmp hsp).2.1]; rfl
  · intro hsp
    have : (s.inst i).t = .notStarted := inv.started.mpr hsp
    rw [hr, this]; rfl

/-! ## join_returns_value -/

/-- **join_returns_value**: whenever `join` has returned `r`, the thread has issued its exit, the kernel has
cleared and woken the futex word, H has synchronised with that (so the slot read happens-after the slot write:
no race), and `r` is the closure's outcome — `some v` iff it returned `v`, `none` iff it panicked (`panicked` = the
thread entered the panic handler; for a joined thread that can only be the closure's panic: the destructor of a
result runs on the thread only when the handle was dropped, `dpanic`) -/
theorem join_returns_value (c : Cfg) (hc : c.Good) (s : St) (h : Reachable c s) (i : Nat) (r : Option Nat)
    (hj : (s.inst i).joinRes = some r) :
    (s.inst i).t = .dead ∧ (s.inst i).kdone = true ∧ (s.inst i).hsees = true ∧ (s.inst i).raced = false ∧
    (s.inst i).ret = some r ∧ (∀ v, r = some v ↔ (s.inst i).ret = some (some v)) ∧
    (r = none ↔ (s.inst i).panicked = true) ∧ (s.inst i).runs = 1 := by
  have inv := reachable_inv c hc s h i
  have hrd : hReadDone (s.inst i).h = true := by
    have := inv.joinI
    by_cases hh : hReadDone (s.inst i).h = true
    · exact hh
    · simp [hh] at this; simp [this] at hj
  have hslot : r = (s.inst i).slot := by
    have := inv.joinI; simp [hrd] at this; rw [this] at hj; simpa using hj.symm
  have haw := inv.aw (hRead_after _ hrd)
  have hdead := inv.kd haw.1
  have hpw : tPastWrite (s.inst i).t = true := by rw [hdead]; rfl
  have hret := inv.ret2 hpw
  refine ⟨hdead, haw.1, haw.2, inv.nrace, by rw [hret.1, hslot], ?_, ?_, ?_⟩
  · intro v; rw [hret.1, hslot]; simp
  · -- a destructor panic happens only on a thread whose handle was dropped: never on a joined one
    have hdp : (s.inst i).dpanic = false := by
      cases hd : (s.inst i).dpanic
      · rfl
      · have hw := (inv.dpI hd).2.1
        have hdet := inv.wH.mp hw
        rw [hdet] at hrd; cases hrd
    rw [hslot, ← hret.2, hdp]; simp
  · rw [inv.runsI, hdead]; rfl

/-- join's read of the slot is enabled only once the kernel has finished the thread's exit -/
theorem join_reads_only_after_exit (c : Cfg) (hc : c.Good) (s : St) (h : Reachable c s) (i : Nat) (x' : Inst)
    (hs : stepI c (s.inst i) .hReadSlot = some x') :
    (s.inst i).t = .dead ∧ (s.inst i).kdone = true ∧ (s.inst i).hsees = true := by
  have inv := reachable_inv c hc s h i
  simp only [stepI] at hs
  split at hs
  · rename_i hh
    have haw := inv.aw (by rw [hh]; rfl)
    exact ⟨inv.kd haw.1, haw.1, haw.2⟩
  · simp at hs

/-- a T or K event that is enabled for program counter `t` (T is never blocked) -/
def nextTK (x : Inst) : Ev :=
  match x.t with
  | .notStarted => .kExit
  | .run => .tRet 0
  | .write _ => .tWrite
  | .pRead => .tPanicRead
  | .cas => .tCas (!x.flag)
  | .setTid => .tSetTid
  | .dropVal => .tDropVal
  | .freeTsm => .tFreeTsm
  | .freeTls => .tFreeTls
  | .freeBox => .tFreeBox
  | .munmap => .tMunmap
  | .exit => .tExit
  | .dead => .kExit

theorem nextTK_enabled (c : Cfg) (x : Inst) (hns : x.t ≠ .notStarted) (hk : x.kdone = false) :
    ∃ x', stepI c x (nextTK x) = some x' := by
  unfold nextTK
  split <;> rename_i ht
  · exact absurd ht hns
  all_goals simp only [stepI, ht, hk, if_true, and_self]
  any_goals exact ⟨_, rfl⟩
  · cases x.flag <;> exact ⟨_, rfl⟩
  · split
    · split <;> exact ⟨_, rfl⟩
    · exact ⟨_, rfl⟩

/-- **join never hangs**: while H is blocked in the futex wait of join or drop, the thread exists, its exit has
not been processed yet, and a step of T or K is enabled — the wait is never left without someone who will end it -/
theorem join_wait_has_waker (c : Cfg) (hc : c.Good) (s : St) (h : Reachable c s) (i : Nat)
    (hp : isParked (s.inst i).h = true) :
    (s.inst i).t ≠ .notStarted ∧ (s.inst i).kdone = false ∧ ∃ x', stepI c (s.inst i) (nextTK (s.inst i)) = some x' := by
  have inv := reachable_inv c hc s h i
  have hk := inv.parkedI hp
  have hsp : spawnedOk (s.inst i).h = true := by
    rcases isParked_cases _ hp with h1 | h1 <;> rw [h1] <;> rfl
  have hns : (s.inst i).t ≠ .notStarted := by
    intro h0; have := inv.started.mp h0; rw [hsp] at this; cases this
  exact ⟨hns, hk, nextTK_enabled c _ hns hk⟩

/-! ## tsm_layout_sound -/

/-- **tsm_layout_sound**: for every size and every power-of-two alignment of `UnsafeCell<Option<T>>` (zero-sized
to over-aligned) that fits the address space: the layout computation does not fail, the futex word is at offset 4,
size/align at 8/16, the value starts after them at the offset `value_offset` computes, properly aligned and inside
the block, the block's alignment is the largest field alignment and its size a multiple of it, and every field is
aligned at its absolute address whenever the allocator honours the block's alignment.  (`hfit`: head 24, paddings below
`2^k` and below `max 8 (2^k) ≤ 8 + 2^k`: `vSize + 2 * 2^k + 32` bounds the size; 64 is that rounded up.) -/
theorem tsm_layout_sound (vSize k : Nat) (hfit : vSize + 2 * 2 ^ k + 64 < USIZE) :
    ∃ L voff, layoutTsm vSize (2 ^ k) = some L ∧ valueOffset (2 ^ k) = some voff ∧ LayoutOk vSize (2 ^ k) L voff := by
  have hpos : 0 < 2 ^ k := Nat.pow_pos (by decide)
  obtain ⟨p, hp, hplt, hpm⟩ := padding_spec 24 (2 ^ k) hpos
  have hmpos : 0 < max 8 (2 ^ k) := by omega
  obtain ⟨q, hq, hqlt, hqm⟩ := padding_spec (24 + p + vSize) (max 8 (2 ^ k)) hmpos
  have hmax : max 8 (2 ^ k) ≤ 8 + 2 ^ k := by omega
  refine ⟨⟨24 + p + vSize + q, max 8 (2 ^ k)⟩, 24 + p, ?_, ?_, ?_⟩
  · simp only [layoutTsm, head_layout, pushAligned, hp]
    rw [uadd_some 24 p (by omega)]
    simp only []
    rw [uadd_some (24 + p) vSize (by omega)]
    simp only [hq]
    rw [uadd_some (24 + p + vSize) q (by omega)]
  · simp only [valueOffset, self_align_offset]
    rw [uadd_some 16 8 (by decide)]
    simp only [offsetAfter, hp]
    rw [uadd_some 24 p (by omega)]
  · have hdv : 2 ^ k ∣ max 8 (2 ^ k) := max8_pow k ▸ Nat.pow_dvd_pow 2 (Nat.le_max_right 3 k)
    have h8 : 2 ^ 3 ∣ max 8 (2 ^ k) := max8_pow k ▸ Nat.pow_dvd_pow 2 (Nat.le_max_left 3 k)
    refine ⟨futex_offset, self_sz_offset, self_align_offset, by omega, by simp only []; omega, by omega, hpm, rfl, hqm, ?_⟩
    intro base hb
    simp only [] at hb
    have b8 : base % 8 = 0 := mod_of_dvd_mod base 8 _ h8 hb
    have bv : base % 2 ^ k = 0 := mod_of_dvd_mod base _ _ hdv hb
    refine ⟨by omega, by omega, by omega, add_mod_zero _ _ _ bv hpm⟩

/-- an alignment of 0 (no Rust type has it) is reported, not silently totalised -/
theorem padding_zero_align_panics (b : Nat) : padding b 0 = none := by simp [padding]

/-! ## spawn_failure_is_error -/

def runI (c : Cfg) : Inst → List Ev → Option Inst
  | x, [] => some x
  | x, e :: rest =>
      match stepI c x e with
      | some x' => runI c x' rest
      | none => none

theorem runI_inv (c : Cfg) (hc : c.Good) (x x' : Inst) (es : List Ev) (h : runI c x es = some x') (hinv : IInv x) :
    IInv x' := by
  induction es generalizing x with
  | nil => simp [runI] at h; subst h; exact hinv
  | cons e rest ih =>
    simp only [runI] at h
    split at h
    · rename_i x1 h1; exact ih x1 h (stepI_inv c hc x x1 e h1 hinv)
    · simp at h

/-- **spawn_failure_is_error** (1): a handle exists exactly when a thread was created -/
theorem handle_iff_thread (c : Cfg) (hc : c.Good) (s : St) (h : Reachable c s) (i : Nat) :
    spawnedOk (s.inst i).h = true ↔ (s.inst i).t ≠ .notStarted := by
  have inv := reachable_inv c hc s h i
  constructor
  · intro hsp h0; have := inv.started.mp h0; rw [hsp] at this; cases this
  · intro hns
    cases hh : spawnedOk (s.inst i).h
    · exact absurd (inv.started.mpr hh) hns
    · rfl

/-- `cl`: spawn failed at the clone (else at the mmap) -/
theorem IInv.failed {y : Inst} (inv : IInv y) {cl : Bool} (hh : y.h = .failed cl) :
    y.t = .notStarted ∧ y.tsm = .freed ∧ y.box = .freed ∧ y.tls = (if cl then .freed else .unalloc) ∧
    y.stack = (if cl then .freed else .unalloc) ∧ y.val = .unalloc := by
  have ht : y.t = .notStarted := inv.started.mpr (by rw [hh]; rfl)
  refine ⟨ht, ?_, ?_, ?_, ?_, ?_⟩
  · rw [inv.tsmEq]; simp [tsmOf, hh, hFreedTsm]
  · rw [inv.boxEq]; simp [boxOf, hh, spawnedOk, boxH]
  · rw [inv.tlsEq]; simp [tlsOf, hh, spawnedOk, tlsH]
  · rw [inv.stackEq]; simp [stackOf, hh, spawnedOk, stackH]
  · rw [inv.valEq]; simp [valOf, ht, tRan]

/-- **spawn_failure_is_error** (2): when `clone` fails, spawn's only continuation releases tls, stack, closure
and shared block (each exactly once) and returns Err; no handle exists -/
theorem clone_failure_is_error (c : Cfg) (hc : c.Good) (s : St) (h : Reachable c s) (i : Nat)
    (hpc : (s.inst i).h = .sp4) :
    ∃ y, runI c (s.inst i) [.hClone false, .hUndoTls, .hUndoStack, .hUndoBox, .hUndoTsm] = some y ∧
      y.h = .failed true ∧ spawnedOk y.h = false ∧ y.t = .notStarted ∧ y.bad = false ∧
      y.tsm = .freed ∧ y.tls = .freed ∧ y.stack = .freed ∧ y.box = .freed ∧
      y.tsmFrees = 1 ∧ y.tlsFrees = 1 ∧ y.stackFrees = 1 ∧ y.boxFrees = 1 ∧ y.runs = 0 := by
  have hrun : ∃ y, runI c (s.inst i) [.hClone false, .hUndoTls, .hUndoStack, .hUndoBox, .hUndoTsm] = some y ∧
      y.h = .failed true := by
    simp [runI, stepI, hpc, hc.1, freeTls, freeStack, freeBox, freeTsm, touchTsm]
  obtain ⟨y, hy, hyh⟩ := hrun
  have invy := runI_inv c hc _ y _ hy (reachable_inv c hc s h i)
  obtain ⟨ht, h1, h2, h3, h4, _⟩ := invy.failed hyh
  exact ⟨y, hy, hyh, by rw [hyh]; rfl, ht, invy.nbad, h1, h3, h4, h2, by rw [invy.tsmC, h1]; rfl, by rw [invy.tlsC, h3]; rfl,
    by rw [invy.stackC, h4]; rfl, by rw [invy.boxC, h2]; rfl, by rw [invy.runsI, ht]; rfl⟩

/-- **spawn_failure_is_error** (3): when the stack `mmap` fails, spawn releases the closure and the shared block
and returns Err; nothing else had been set up -/
theorem mmap_failure_is_error (c : Cfg) (hc : c.Good) (s : St) (h : Reachable c s) (i : Nat)
    (hpc : (s.inst i).h = .sp2) :
    ∃ y, runI c (s.inst i) [.hMmap false, .hUndoBox, .hUndoTsm] = some y ∧
      y.h = .failed false ∧ spawnedOk y.h = false ∧ y.t = .notStarted ∧ y.bad = false ∧
      y.tsm = .freed ∧ y.tls = .unalloc ∧ y.stack = .unalloc ∧ y.box = .freed ∧
      y.tsmFrees = 1 ∧ y.boxFrees = 1 ∧ y.tlsFrees = 0 ∧ y.stackFrees = 0 := by
  have hrun : ∃ y, runI c (s.inst i) [.hMmap false, .hUndoBox, .hUndoTsm] = some y ∧ y.h = .failed false := by
    simp [runI, stepI, hpc, hc.2.1, freeBox, freeTsm, touchTsm]
  obtain ⟨y, hy, hyh⟩ := hrun
  have invy := runI_inv c hc _ y _ hy (reachable_inv c hc s h i)
  obtain ⟨ht, h1, h2, h3, h4, _⟩ := invy.failed hyh
  exact ⟨y, hy, hyh, by rw [hyh]; rfl, ht, invy.nbad, h1, h3, h4, h2, by rw [invy.tsmC, h1]; rfl, by rw [invy.boxC, h2]; rfl,
    by rw [invy.tlsC, h3]; rfl, by rw [invy.stackC, h4]; rfl⟩

/-! ## the defect of the code as it was (DESIGN §4 #20, #21), on the model of that code -/

/-- spawn.rs before commit ad01f67: `__clone`'s result ignored, `mmap(..)?` without clean-up, one-shot wait -/
def origCfg : Cfg := { genCfg with checkClone := false, mmapCleanup := false, recheck := false, spurious := false, loadSync := true }

def cloneFailTrace : List (Nat × Ev) :=
  [(0, .hAllocTsm), (0, .hBox), (0, .hMmap true), (0, .hAllocTls), (0, .hClone false),
   (0, .hJoin), (0, .hLoad 1), (0, .hFwait true)]

/-- (H's pc, spawn returned Ok, T's pc, futex word, live heap blocks, live mappings) after the trace -/
def cloneFailOutcome (c : Cfg) : Option (HPc × Bool × TPc × Nat × Nat × Nat) :=
  (run c St.init cloneFailTrace).map
    (fun s => ((s.inst 0).h, spawnedOk (s.inst 0).h, (s.inst 0).t, (s.inst 0).word, liveHeap (s.inst 0), liveMaps (s.inst 0)))

/-- **spawn_clone_fail_counterexample**: with the result of `__clone` ignored, a failed clone still yields
Ok(handle); `join` on it parks on a futex word that is 1 while no thread exists (nobody will ever clear it), and
tsm, tls, closure (3 heap blocks) and the stack mapping stay allocated -/
theorem spawn_clone_fail_counterexample :
    cloneFailOutcome origCfg = some (.wParked true, true, .notStarted, 1, 3, 1) := by decide

/-- the repaired code refuses that history: after the failed clone spawn does not return a handle -/
theorem fixed_code_rejects_clone_fail_trace : cloneFailOutcome genCfg = none := by decide

/-- a thread that was never created never starts: the park of the counterexample is for ever -/
theorem never_created_never_runs (c : Cfg) (x x' : Inst) (e : Ev) (h : stepI c x e = some x')
    (ht : x.t = .notStarted) (hh : spawnedOk x.h = true) : x'.t = .notStarted ∧ x'.kdone = x.kdone ∧ x'.word = x.word :=
  (stepI_frame c x x' e h).2.2 ht hh

def mmapFailTrace : List (Nat × Ev) := [(0, .hAllocTsm), (0, .hBox), (0, .hMmap false)]

/-- (#21) as it was, a failed stack mmap returned Err but left the shared block and the boxed closure allocated -/
theorem spawn_mmap_fail_leak_counterexample :
    (run origCfg St.init mmapFailTrace).map (fun s => ((s.inst 0).h, liveHeap (s.inst 0))) = some (.failed false, 2) := by
  decide

/-! ## what the one-shot wait of the code before the repair depended on -/

/-- the code before the re-check loop, in an environment that behaves as the futex contract allows -/
def oneShotCfg : Cfg := { genCfg with recheck := false }

def fastPathTrace : List (Nat × Ev) :=
  [(0, .hAllocTsm), (0, .hBox), (0, .hMmap true), (0, .hAllocTls), (0, .hClone true),
   (0, .tRet 7), (0, .tWrite), (0, .tCas true), (0, .tFreeTls), (0, .tFreeBox), (0, .tMunmap), (0, .tExit), (0, .kExit),
   (0, .hJoin), (0, .hLoad 0), (0, .hReadSlot)]

def racedOf (c : Cfg) (tr : List (Nat × Ev)) : Option (Bool × Option (Option Nat)) :=
  (run c St.init tr).map (fun s => ((s.inst 0).raced, (s.inst 0).joinRes))

/-- with the one-shot `load(Relaxed)` the slot read was ordered after the slot write only by the hardware (TSO) -/
theorem relaxed_fast_path_needs_hw_ordering : racedOf oneShotCfg fastPathTrace = some (true, some (some 7)) := by decide
/-- the `Acquire` re-check of the repaired code orders it in the language-level model -/
theorem acquire_recheck_orders_fast_path : racedOf genCfg fastPathTrace = some (false, some (some 7)) := by decide

def spuriousTrace : List (Nat × Ev) :=
  [(0, .hAllocTsm), (0, .hBox), (0, .hMmap true), (0, .hAllocTls), (0, .hClone true),
   (0, .hJoin), (0, .hLoad 1), (0, .hFwait true), (0, .hSpur), (0, .hReadSlot)]

/-- the same spurious wake on the repaired code: H goes back to the load, sees 1, waits again -/
def spuriousTraceFixed : List (Nat × Ev) :=
  [(0, .hAllocTsm), (0, .hBox), (0, .hMmap true), (0, .hAllocTls), (0, .hClone true),
   (0, .hJoin), (0, .hLoad 1), (0, .hFwait true), (0, .hSpur), (0, .hLoad 1), (0, .hFwait true),
   (0, .tRet 9), (0, .tWrite), (0, .tCas true), (0, .tFreeTls), (0, .tFreeBox), (0, .tMunmap), (0, .tExit), (0, .kExit),
   (0, .hLoad 0), (0, .hReadSlot)]

/-- **spurious_wake_breaks_join** (the code before the repair): `futex_wait_fast` returns on Ok(()) without
re-reading the word, so a wake that is not the kernel's clear-tid wake lets join read the slot of a thread that is
still running — it returns None for a closure that has not finished, and then frees the block under the thread -/
theorem spurious_wake_breaks_join : racedOf oneShotCfg spuriousTrace = some (true, some none) := by decide
/-- the repaired code does not take that step (after the spurious return it is back at the load) ... -/
theorem recheck_refuses_early_read : racedOf genCfg spuriousTrace = none := by decide
/-- ... and completes the join correctly once the thread has exited -/
theorem recheck_survives_spurious_wake : racedOf genCfg spuriousTraceFixed = some (false, some (some 9)) := by decide

/-! ## non-vacuity -/

def fullJoinTrace : List (Nat × Ev) :=
  [(0, .hAllocTsm), (0, .hBox), (0, .hMmap true), (0, .hAllocTls), (0, .hClone true),
   (1, .hAllocTsm), (0, .hJoin), (0, .hLoad 1), (0, .hFwait true),
   (1, .hBox), (1, .hMmap true), (1, .hAllocTls), (1, .hClone true), (1, .tPanic),
   (0, .tRet 42), (0, .tWrite), (0, .tCas true), (0, .tFreeTls), (0, .tFreeBox), (0, .tMunmap), (0, .tExit), (0, .kExit),
   (0, .hLoad 0), (0, .hReadSlot), (0, .hFreeTsm),
   (1, .hDrop), (1, .hCas true), (1, .tPanicRead), (1, .tFreeTls), (1, .tCas false), (1, .tSetTid), (1, .tFreeTsm),
   (1, .tMunmap), (1, .tExit), (1, .kExit)]

/-- two threads live at once: one joined through the futex park (returns 42), one panicking and detached -/
example : (run genCfg St.init fullJoinTrace).map
    (fun s => ((s.inst 0).joinRes, complete (s.inst 0) && complete (s.inst 1) && (s.inst 1).panicked,
               (s.inst 0).bad || (s.inst 1).bad, liveHeap (s.inst 0) + liveHeap (s.inst 1) + liveMaps (s.inst 0) + liveMaps (s.inst 1))) =
    some (some (some 42), true, false, 1) := by decide
example : Reachable genCfg St.init := ⟨[], rfl⟩
example : genCfg.Good := gen_cfg_good
example : ∃ L voff, layoutTsm 0 (2 ^ 0) = some L ∧ valueOffset (2 ^ 0) = some voff ∧ L = ⟨24, 8⟩ ∧ voff = 24 :=
  ⟨_, _, by decide, by decide, rfl, rfl⟩
example : layoutTsm 128 64 = some ⟨192, 64⟩ ∧ valueOffset 64 = some 64 := by decide
example : layoutTsm 4097 1 = some ⟨4128, 8⟩ ∧ valueOffset 1 = some 24 := by decide

/-! ## thread topology: spawned threads as the handle side of other threads -/

/-- tie T: `set_tid_address` acts on the calling thread, so only code that runs on the spawned thread itself (its entry
closure, the panic handler's thread paths) may issue it; no path of `spawn`, `join` or `Drop::drop` — which run on the
thread that owns the handle, possibly itself a spawned thread — contains it (helper functions inlined) -/
def handleSideResetsTid : Bool :=
  joinPaths.any (has .set_tid_0) || dropPaths.any (has .set_tid_0) || spawnPaths.any (has .set_tid_0)

theorem gen_handle_side_never_resets_tid : handleSideResetsTid = false := by decide

/-- the topology parameters of the current source, for any ownership forest -/
def genTopo (owner : Nat → Option Nat) : Topo :=
  { owner := owner, hTidDrop := (lostP dropPaths).any (has .set_tid_0),
    hTidDealloc := joinPaths.any (has .set_tid_0) || (spawnPaths.filter (has .ret_err)).any (has .set_tid_0) }

theorem gen_topo_good (owner : Nat → Option Nat) : (genTopo owner).Good := by
  constructor <;> (simp only [genTopo]; decide)

def ReachableN (c : Cfg) (tp : Topo) (s : St) : Prop := ∃ evs, runN c tp St.init evs = some s

/-- with no handle-side `set_tid_address`, a step of a nested family is a step of the flat family: attributing the
handle side to the thread that executes it only *restricts* when its steps can happen (the owner must be inside its closure) -/
theorem stepN_is_step (c : Cfg) (tp : Topo) (htp : tp.Good) (s s' : St) (i : Nat) (e : Ev)
    (h : stepN c tp s i e = some s') : step c s i e = some s' := by
  obtain ⟨h1, h2⟩ := htp
  unfold stepN at h
  split at h
  · simp at h
  · split at h
    · simp at h
    · rename_i s1 hs1
      have hw : hWipes tp (s.inst i) e = false := by
        cases e <;> simp [hWipes, h1, h2]
      simp only [hw, Bool.false_eq_true, if_false, Option.some.injEq] at h
      rw [hs1, h]

theorem runN_is_run (c : Cfg) (tp : Topo) (htp : tp.Good) (s s' : St) (evs : List (Nat × Ev))
    (h : runN c tp s evs = some s') : run c s evs = some s' := by
  induction evs generalizing s with
  | nil => simpa [runN, run] using h
  | cons x rest ih =>
    obtain ⟨i, e⟩ := x
    simp only [runN] at h
    split at h
    · rename_i s1 h1
      simp only [run, stepN_is_step c tp htp s s1 i e h1]
      exact ih s1 h
    · simp at h

/-- **every nested family is a flat family**: whatever the ownership forest (any depth, any fan-out, threads that are
handle side and thread side at once), every state it can reach is reachable by the flat model — so every theorem of
C05 / C06 holds for nested families as it stands -/
theorem reachableN_reachable (c : Cfg) (tp : Topo) (htp : tp.Good) (s : St) (h : ReachableN c tp s) : Reachable c s := by
  obtain ⟨evs, h⟩ := h
  exact ⟨evs, runN_is_run c tp htp _ s evs h⟩

/-- **the clear-tid address of a spawned thread is its own exit word unless IT lost the hand-over**: in a nested family,
whatever handle-side work a thread has done for other instances (spawned them, had spawns fail, joined them, dropped
their handles early or late), its clear-tid address has been reset only if its own handle was dropped first — the
thread went (is going) through the lost-CAS branch of its own epilogue / panic handler -/
theorem clear_tid_intact_nested (c : Cfg) (hc : c.Good) (tp : Topo) (htp : tp.Good) (s : St) (h : ReachableN c tp s) (j : Nat)
    (hst : (s.inst j).t ≠ .notStarted) (hct : (s.inst j).ctid = false) :
    (s.inst j).winner = some .H ∧ (s.inst j).h = .detached := by
  have inv := reachable_inv c hc s (reachableN_reachable c tp htp s h) j
  have hw := inv.ctidW hst hct
  exact ⟨hw, inv.wH.mp hw⟩

/-- **join never hangs, nested**: while the thread that owns the handle of `i` — main or a spawned thread — is blocked in
the futex wait of join / drop, instance `i`'s thread exists, its exit has not been processed and a step of `i`'s thread
or of the kernel is enabled *in the nested family* (thread and kernel steps need nobody's permission) -/
theorem join_wait_has_waker_nested (c : Cfg) (hc : c.Good) (tp : Topo) (htp : tp.Good) (s : St) (h : ReachableN c tp s) (i : Nat)
    (hp : isParked (s.inst i).h = true) :
    (s.inst i).t ≠ .notStarted ∧ (s.inst i).kdone = false ∧ ∃ s', stepN c tp s i (nextTK (s.inst i)) = some s' := by
  obtain ⟨h1, h2, x', hx⟩ := join_wait_has_waker c hc s (reachableN_reachable c tp htp s h) i hp
  refine ⟨h1, h2, ?_⟩
  have hne : isHEv (nextTK (s.inst i)) = false := by
    unfold nextTK; cases (s.inst i).t <;> simp [isHEv]
  have hw : hWipes tp (s.inst i) (nextTK (s.inst i)) = false := by
    unfold nextTK; cases (s.inst i).t <;> simp [hWipes]
  simp [stepN, hne, step, hx, hw]

/-- and a thread that has exited with its clear-tid address intact is what ends the wait: the kernel's step is enabled
and it clears the word and wakes the parked owner -/
theorem exit_wakes_parked_owner (c : Cfg) (hc : c.Good) (tp : Topo) (htp : tp.Good) (s : St) (h : ReachableN c tp s) (i : Nat) (jn : Bool)
    (hp : (s.inst i).h = .wParked jn) (hd : (s.inst i).t = .dead) :
    (s.inst i).ctid = true ∧ ∃ s', stepN c tp s i .kExit = some s' ∧ (s'.inst i).word = 0 ∧ (s'.inst i).h = retTo c jn := by
  have hr := reachableN_reachable c tp htp s h
  have inv := reachable_inv c hc s hr i
  have hk : (s.inst i).kdone = false := inv.parkedI (by rw [hp]; rfl)
  have hct : (s.inst i).ctid = true := by
    cases hcc : (s.inst i).ctid
    · have := (clear_tid_intact_nested c hc tp htp s h i (by rw [hd]; simp) hcc).2
      rw [hp] at this; cases this
    · rfl
  refine ⟨hct, ?_⟩
  simp [stepN, isHEv, hWipes, step, stepI, hd, hk, hct, hp, setInst, touchTsm]

/-- the variants: a handle-side `set_tid_address(0)` — in `Drop for JoinHandle` (`hTidDrop`) or in `Tsm::dealloc`
(`hTidDealloc`) — executed by a SPAWNED thread resets that thread's own clear-tid address -/
def dropTidTopo : Topo := { owner := fun i => if i = 1 then some 0 else none, hTidDrop := true, hTidDealloc := false }
def deallocTidTopo : Topo := { dropTidTopo with hTidDrop := false, hTidDealloc := true }
def nestedTopo : Topo := genTopo (fun i => if i = 1 then some 0 else none)

def spawn01 : List (Nat × Ev) :=
  [(0, .hAllocTsm), (0, .hBox), (0, .hMmap true), (0, .hAllocTls), (0, .hClone true),
   (1, .hAllocTsm), (1, .hBox), (1, .hMmap true), (1, .hAllocTls), (1, .hClone true),
   (1, .tRet 3), (1, .tWrite), (1, .tCas true), (1, .tFreeTls), (1, .tFreeBox), (1, .tMunmap), (1, .tExit), (1, .kExit)]
def parentExits : List (Nat × Ev) :=
  [(0, .tRet 7), (0, .tWrite), (0, .tCas true), (0, .tFreeTls), (0, .tFreeBox), (0, .tMunmap), (0, .tExit), (0, .kExit)]
/-- thread 0 (spawned by main) spawns thread 1, drops its handle after it finished, returns; main joins thread 0 -/
def nestedDropLate : List (Nat × Ev) :=
  spawn01 ++ [(1, .hDrop), (1, .hCas false), (1, .hLoad 0), (1, .hFreeTsm)] ++ parentExits ++ [(0, .hJoin), (0, .hLoad 1), (0, .hFwait true)]
/-- ... joins thread 1 instead -/
def nestedJoin : List (Nat × Ev) :=
  spawn01 ++ [(1, .hJoin), (1, .hLoad 0), (1, .hReadSlot), (1, .hFreeTsm)] ++ parentExits ++ [(0, .hJoin), (0, .hLoad 1), (0, .hFwait true)]

/-- the outer thread after the history: main is parked in `join` on it, it has exited, the kernel has finished its exit, its
exit word is still 1, its join state is still allocated; the inner thread's execution is complete -/
def outerOf (tp : Topo) (tr : List (Nat × Ev)) : Option Bool :=
  (runN genCfg tp St.init tr).map (fun s => (s.inst 0).h == .wParked true && (s.inst 0).t == .dead && (s.inst 0).kdone &&
    (s.inst 0).word == 1 && (s.inst 0).tsm == .live && complete (s.inst 1))

/-- **caller_settid_breaks_join**: with the reset moved into `Drop for JoinHandle` (into `Tsm::dealloc`), a spawned
thread that drops the handle of a finished child (joins a child) wipes its own clear-tid address: it exits, the kernel
is done with it, its exit word is still 1, and main is parked on it in `join` with the join state still allocated -/
theorem caller_settid_breaks_join :
    outerOf dropTidTopo nestedDropLate = some true ∧ outerOf deallocTidTopo nestedJoin = some true ∧
    outerOf deallocTidTopo nestedDropLate = some true := by decide

/-- ... for ever: once the thread is gone and the kernel has finished its exit, no thread or kernel step is left for it -/
theorem no_waker_after_exit (c : Cfg) (x : Inst) (e : Ev) (ht : x.t = .dead) (hk : x.kdone = true) (he : isHEv e = false) :
    stepI c x e = none := by
  cases e <;> simp_all [stepI, isHEv]

/-- the source as it is refuses those histories (the kernel has cleared the word: main cannot park on it) and completes them -/
theorem current_code_nested_ok :
    outerOf nestedTopo nestedDropLate = none ∧ outerOf nestedTopo nestedJoin = none ∧
    (runN genCfg nestedTopo St.init
      (spawn01 ++ [(1, .hDrop), (1, .hCas false), (1, .hLoad 0), (1, .hFreeTsm)] ++ parentExits ++ [(0, .hJoin), (0, .hLoad 0), (0, .hReadSlot), (0, .hFreeTsm)])).map
      (fun s => (complete (s.inst 0) && complete (s.inst 1), (s.inst 0).joinRes, (s.inst 0).bad || (s.inst 1).bad, liveHeap (s.inst 0) + liveHeap (s.inst 1)))
      = some (true, some (some 7), false, 0) := by decide

/-- a handle-side step of a nested instance needs its owner inside its closure: before the owner exists, and after its
closure returned, the model refuses it (non-vacuity of the attribution) -/
example : runN genCfg nestedTopo St.init [(1, .hAllocTsm)] = none := by decide
example : (runN genCfg nestedTopo St.init (spawn01 ++ [(0, .tRet 7), (1, .hDrop)])).isNone = true := by decide
example : ReachableN genCfg nestedTopo St.init := ⟨[], rfl⟩

end TinyVerif.Thread
