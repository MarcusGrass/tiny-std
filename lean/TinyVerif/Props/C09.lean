/-
C09 — every raw system-call wrapper decodes the kernel's return register exactly.

* `isErr_iff`, `bail_code`, `coerce_ok`, `proj_faithful` — the three shared idioms.
* `Spec c k` (defined in Spec/C09.lean) — the property for one wrapper skeleton `k` under decode idioms `c`, for **every** stream of
  kernel results: one call; `Err(positive errno)` iff the first result is in −4095..−1; otherwise `Ok`
  carrying the register through the wrapper's declared projection; the single documented exception
  re-issues the call exactly while the result is −EBUSY (dup2/dup3).
* `chk_sound` — the syntactic check `chk` implies `Spec`, proved once for all skeleton terms.
* `all_wrappers` — `chk` over every row of the table regenerated from /repo/rusl/src on every run (`Gen/Wrappers.lean`)
  that the translator understands, `wrappers_spec` — hence `Spec` for every such wrapper in the tree as it is now;
  rows listed in `Gen.opaqueRows` are left to the exhaustive run-time correspondence (`understood_majority` bounds them).
* `old_*` — the defects the table showed before their `fix:` commits, as model-level witnesses.

The tie of `Gen.wrappers`/`Gen.cfg` to the compiled code is the correspondence run of `bin/check C09`
(every wrapper × every errno × success classes under a fully scripted kernel).
-/
import TinyVerif.Model.Wrap
import TinyVerif.Spec.C09
import TinyVerif.Gen.Wrappers
import TinyVerif.Proofs.WrapLemmas
namespace TinyVerif.Wrap

/-! ## the shared idioms -/

/-- `is_syscall_error r ↔ −4095 ≤ (r as i64) ≤ −1` -/
theorem isErr_iff (r : Nat) (h : r < TWO64) : isSyscallError stdCfg r = true ↔ InErrRange r := by
  rw [isErr_std, decide_eq_true_eq, inErrRange_iff r h]

/-- in the error range the code built by `bail_on_below_zero!` / `coerce_from_register` is `−r`, a positive errno ≤ 4095 -/
theorem bail_code (r : Nat) (h : r < TWO64) (he : InErrRange r) :
    evalCode .negI32 r = .err (-(castTo .i64 r)) ∧ 1 ≤ -(castTo .i64 r) ∧ -(castTo .i64 r) ≤ 4095 := by
  have he' := (inErrRange_iff r h).1 he
  rw [evalCode_negI32 r h he', castTo_i64_err r h he']
  exact ⟨rfl, by have := he.2; omega, by have := he.1; omega⟩

/-- outside the error range `coerce_from_register` is `Ok(r as i32)` -/
theorem coerce_ok (r : Nat) (h : r < TWO64) (he : ¬ InErrRange r) :
    step stdCfg .coerceFd r = .ok (.num (castTo .i32 r)) := by
  have : isSyscallError stdCfg r = false := by
    cases hh : isSyscallError stdCfg r with
    | false => rfl
    | true => exact absurd ((isErr_iff r h).mp hh) he
  simp only [step, this]
  rfl

/-- a cast to the declared return type loses nothing for every value the type can hold
(the smallest: `i32` holds every success value below 2^31) -/
theorem proj_faithful (t : Ty) (r : Nat) (h : r < TWO31) : castTo t r = (r : Int) := by
  simp only [TWO31] at h
  cases t
  · have := castTo_i32_spec r; omega
  · have := castTo_u32_spec r; omega
  · have := castTo_i64_spec r (by simp only [TWO64]; omega); omega
  · exact castTo_u64_spec r (by simp only [TWO64]; omega)

theorem proj_faithful_u32 (r : Nat) (h : r < TWO32) : castTo .u32 r = (r : Int) := by
  rw [castTo_u32_spec]; simp only [TWO32] at h; omega

theorem proj_faithful_i64 (r : Nat) (h : r < TWO63) : castTo .i64 r = (r : Int) := by
  have h64 := castTo_i64_spec r (by simp only [TWO63, TWO64] at *; omega)
  simp only [TWO63] at h
  omega

theorem proj_faithful_u64 (r : Nat) (h : r < TWO64) : castTo .u64 r = (r : Int) := castTo_u64_spec r h

/-! ## the property -/

/-- `decodeStd` is the statement's decode: error iff in −4095..−1, code = −r -/
theorem decodeStd_err (p : Proj) (r : Nat) (h : r < TWO64) :
    (InErrRange r → decodeStd p r = .err (-(castTo .i64 r)) ∧ 1 ≤ -(castTo .i64 r) ∧ -(castTo .i64 r) ≤ 4095) ∧
    (¬ InErrRange r → decodeStd p r = .ok (projPay p r)) := by
  rw [inErrRange_iff r h, decodeStd]
  constructor
  · intro he
    rw [if_pos he, castTo_i64_err r h he]
    exact ⟨rfl, by simp only [TWO64] at *; omega, by simp only [TWO64] at *; omega⟩
  · intro he
    rw [if_neg he]

/-- **soundness of the syntactic check**, once for all skeleton terms -/
theorem chk_sound (k : Skel) (h : chk k = true) : Spec stdCfg k := by
  cases k with
  | bail p =>
    intro kr hb
    simp only [run, step_bail p (kr 0) (hb 0)]
  | coerceFd =>
    intro kr hb
    simp only [run, step_coerce (kr 0) (hb 0)]
  | retRaw p => intro kr; rfl
  | ignored => intro kr; rfl
  | noRet => intro kr; rfl
  | errAlways c =>
    simp only [chk, decide_eq_true_eq] at h
    subst h
    intro kr hb
    exact ⟨rfl, fun he => evalCode_negI32 (kr 0) (hb 0) ((inErrRange_iff _ (hb 0)).1 he)⟩
  | retryIfEq t v k' =>
    simp only [chk, Bool.and_eq_true, Bool.or_eq_true, decide_eq_true_eq] at h
    obtain ⟨htv, hk⟩ := h
    cases k' with
    | bail p => exact retry_sound t v (.bail p) p htv (step_bail p)
    | coerceFd => exact retry_sound t v .coerceFd (.cast .i32) htv step_coerce
    | _ => cases hk  -- `chkSimple` accepts no other body
  | custom s => cases h

/-- the same under any extracted configuration that passes `cfgOk` -/
theorem chk_sound_cfg (c : Cfg) (hc : cfgOk c = true) (k : Skel) (h : chk k = true) : Spec c k := by
  simp only [cfgOk, decide_eq_true_eq] at hc
  subst hc
  exact chk_sound k h

/-! ## the regenerated table

The obligations below are stated over the *rows* of the table, not over positions or names: every row the translator
understands must pass `chk` (and only the documented wrappers may retry).  A row whose body the translator does not
understand is listed in `Gen.opaqueRows` (its skeleton is `.custom`); no claim is made about it here — `bin/check C09`
decides the property for it from the compiled wrapper alone, exhaustively over the errno range (see checks/c09.py) —
and `understood_majority` keeps that escape from swallowing the table. -/

def isCustom : Skel → Bool
  | .custom _ => true
  | _ => false

/-- a row is fine when it is understood and passes the check, or is declared opaque (and then carries no skeleton) -/
def rowOk (w : Wrapper) : Bool :=
  if Gen.opaqueRows.contains w.name then isCustom w.skel else wrapperOk w

/-- every decode idiom and every understood wrapper skeleton extracted from /repo's current source passes the check;
only dup2/dup3 contain a retry -/
theorem all_wrappers : (cfgOk Gen.cfg && Gen.problems.isEmpty && Gen.wrappers.all rowOk) = true := by
  decide +kernel

/-- **C09** for every wrapper of the current tree whose body the translator understands -/
theorem wrappers_spec (w : Wrapper) (hw : w ∈ Gen.wrappers) (ho : Gen.opaqueRows.contains w.name = false) :
    Spec Gen.cfg w.skel := by
  have h := all_wrappers
  simp only [Bool.and_eq_true] at h
  obtain ⟨⟨hc, _⟩, ha⟩ := h
  have := List.all_eq_true.mp ha w hw
  simp only [rowOk, ho, Bool.false_eq_true, if_false, wrapperOk, Bool.and_eq_true] at this
  exact chk_sound_cfg Gen.cfg hc w.skel this.1

/-- no understood wrapper other than the documented ones re-issues its call -/
theorem only_dup_retries (w : Wrapper) (hw : w ∈ Gen.wrappers) (ho : Gen.opaqueRows.contains w.name = false)
    (hr : usesRetry w.skel = true) : w.name ∈ retryDocumented := by
  have h := all_wrappers
  simp only [Bool.and_eq_true] at h
  have := List.all_eq_true.mp h.2 w hw
  simp only [rowOk, ho, Bool.false_eq_true, if_false, wrapperOk, Bool.and_eq_true, Bool.or_eq_true, Bool.not_eq_true', hr] at this
  rcases this.2 with h' | h'
  · cases h'
  · exact List.contains_iff_mem.mp h'

/-- the opaque list names rows of the table, and the statically proved part is the bulk of it -/
theorem understood_majority :
    (Gen.opaqueRows.all (fun n => Gen.wrappers.any (fun w => w.name == n)) &&
      decide (2 * (Gen.wrappers.filter (fun w => Gen.opaqueRows.contains w.name)).length ≤ Gen.wrappers.length)) = true := by
  decide +kernel

/-! ## defects the table showed before their repair (model-level witnesses; replayed on the real code by the harness) -/

/-- dup3 as it was: `if res as i32 == Errno::EBUSY.raw() { continue; }` -/
def oldDup3 : Skel := .retryIfEq .i32 16 (.bail .unit)
/-- execve as it was: `Err(Error::with_code(_, res as i32))` -/
def oldExecve : Skel := .errAlways .rawI32

/-- `dup2(fd, Fd 16)`: the *successful* result 16 is taken for EBUSY — the call is re-issued for ever -/
theorem old_dup3_retries_on_success_16 : run stdCfg oldDup3 (fun _ => 16) = (.diverge, FUEL) := by
  decide +kernel

/-- …and the real `−EBUSY` was reported instead of retried -/
theorem old_dup3_no_retry_on_ebusy :
    run stdCfg oldDup3 (fun i => if i = 0 then NEG_EBUSY else 5) = (.err 16, 1) := by
  decide +kernel

theorem old_dup3_not_spec : ¬ Spec stdCfg oldDup3 := by
  intro h
  have := h (fun i => if i = 0 then NEG_EBUSY else 5) 1 (fun i => by show (if i = 0 then NEG_EBUSY else 5) < TWO64; split <;> decide) (by decide)
    (fun i hi => by have : i = 0 := by omega
                    subst this; rfl) (by decide)
  revert this
  decide +kernel

/-- execve reported `−errno`: ENOENT came out as code −2 -/
theorem old_execve_code_negative : run stdCfg oldExecve (fun _ => TWO64 - 2) = (.err (-2), 1) := by
  decide +kernel

theorem old_execve_not_spec : ¬ Spec stdCfg oldExecve := by
  intro h
  have := (h (fun _ => TWO64 - 2) (fun _ => by decide)).2 (by decide)
  revert this
  decide +kernel

theorem old_skeletons_fail_chk : chk oldDup3 = false ∧ chk oldExecve = false := by decide

/-! ## non-vacuity -/

/-- the table is the real one: it has the wrappers rusl exports -/
example : 64 ≤ Gen.wrappers.length := by decide
/-- every clause of `Spec` is inhabited by a row form the translator emits and the check accepts -/
example : wrapperOk { name := "unistd::close", file := "", skel := .bail .unit } = true := by decide
example : wrapperOk { name := "unistd::open", file := "", skel := .coerceFd } = true := by decide
example : wrapperOk { name := "unistd::dup3", file := "", skel := .retryIfEq .i64 (-16) (.bail .unit) } = true := by decide
example : wrapperOk { name := "unistd::dup3", file := "", skel := .retryIfEq .u64 18446744073709551600 (.bail .unit) } = true := by decide
example : wrapperOk { name := "process::execve", file := "", skel := .errAlways .negI32 } = true := by decide
example : wrapperOk { name := "process::get_pid", file := "", skel := .retRaw (.cast .i32) } = true := by decide
/-- …and rejects a retry anywhere else, and the retry on the truncated register -/
example : wrapperOk { name := "select::epoll_wait", file := "", skel := .retryIfEq .i64 (-16) (.bail .id) } = false := by decide
example : wrapperOk { name := "unistd::dup3", file := "", skel := .retryIfEq .i32 (-16) (.bail .unit) } = false := by decide
/-- the table has understood rows of the ordinary form -/
example : Gen.wrappers.any (fun w => !Gen.opaqueRows.contains w.name && decide (w.skel = .bail .unit)) = true := by decide
/-- the hypotheses of the retry clause are satisfiable: two −EBUSY then fd 5 gives `Ok` after three calls -/
example : run stdCfg (.retryIfEq .i64 (-16) (.bail .unit)) (fun i => if i < 2 then NEG_EBUSY else 5) = (.ok .unit, 3) := by
  decide +kernel
/-- error range and its complement are both inhabited -/
example : InErrRange (TWO64 - 4095) ∧ InErrRange (TWO64 - 1) ∧ ¬ InErrRange (TWO64 - 4096) ∧ ¬ InErrRange 0 := by
  simp only [InErrRange, castTo]; decide
/-- a success value that is an errno-sized number stays a success: 16 through `bail`/`coerceFd` -/
example : step stdCfg .coerceFd 16 = .ok (.num 16) ∧ step stdCfg (.bail .id) 4095 = .ok (.num 4095) := by decide +kernel

end TinyVerif.Wrap
