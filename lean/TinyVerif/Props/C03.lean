/-
C03 — Allocator: live blocks aligned, disjoint, intact; OOM gives null, heap stays usable.

Objects: `Model/Dlmalloc.lean` (address-explicit chunk-level model of
tiny-std/src/allocator/dlmalloc.rs, tied to the code by the layout-equality correspondence of
checks/c03.py), its pure helpers `Gen/DlmallocPure.lean` (regenerated from the Rust text on every
run), the well-formedness predicate `WF` (`Model/DlmallocWF.lean`: tiling of every segment,
boundary tags, no adjacent free chunks, free chunks = bins ⊎ {dv} ⊎ {top}, bins indexed by size,
tries following the size bits, live blocks ↔ in-use non-record non-fencepost chunks).

Quantifiers: every history of malloc / calloc / realloc / free over named blocks, every size and
alignment, every sequence of OS answers (any address, refusal at any position).

PROVED IN FULL (no well-formedness hypothesis):
  * pure index lemmas (§1)                      — about the regenerated definitions
  * `oom_null`                                   — a refused mmap ⇒ null result, allocator state and
                                                   live set exactly unchanged (so every later request
                                                   behaves as if the refused call had not happened)
  * `wf_step_refused`                            — `wf_step` for every operation during which the OS
                                                   refused memory
  * `free_never_asks_for_memory`               — glue fact of the entry points (`realloc_copy`: `Proofs/DlWF.lean`)
  * `wf_initial`
PROVED FROM `WF` OF THE STATE BEFORE THE CALL (genuine step theorems, all alignments, with or
without an OS call, under the mmap contract `OsContract` for the answer received):
  * `alloc_fresh_from_pre`, `calloc_fresh_from_pre`, `realloc_fresh_from_pre` (moving case) — the new block is carved from a chunk that was
    free and large enough (small bin / tree bin / dv / top) or from the mapping just served, and for
    over-aligned requests lies inside the chunk obtained for the padded request; so it overlaps no
    previously live block
PROVED FROM `WF` OF A STATE:
  * `wf_live_aligned_sized`, `wf_live_disjoint`, `wf_live_inside_segment`, `never_mmapped_live`,
    `metadata_outside_live_blocks`, `no_adjacent_free_chunks`, `free_chunks_accounted`,
    `inuse_chunks_accounted`
  * `alloc_ok_partial`, `calloc_ok_partial`, `realloc_ok_partial`, `free_ok_partial`: post-conditions
    of one operation given `WF` of the state it produced.
INDUCTIVENESS (`Props/C03Ind.lean`): `WF` alone is NOT inductive (kernel-checked counterexamples in
  `Proofs/DlIndCex.lean`); the strengthened invariant `Inv2` (WF + RecsOk + FenceOk + TailOk + HeadOk + RecIn +
  unique ids + power-of-two alignments) IS: `inv_step`, `wf_step`, `inv_reachable`, `wf_reachable`, and the FULL
  `alloc_ok`, `calloc_ok`, `realloc_ok`, `free_ok` from the invariant of the state BEFORE the call.
  User bytes are not modelled: "a block's bytes change only through its owner" is the static
  `metadata_outside_live_blocks` here plus the byte-pattern oracle of the harness on the real code.
-/
import TinyVerif.Proofs.DlPure
import TinyVerif.Proofs.DlWF
import TinyVerif.Proofs.DlFresh
namespace TinyVerif.Dl

/-! ## 1. pure_index_lemmas — about `Gen/DlmallocPure.lean` (re-checked against the Rust text on every run) -/

/-- small bins: the size class of an aligned small size is exact -/
theorem small_index_exact (s : Nat) (h8 : s % 8 = 0) (h : s < 256) :
    small_index2size (small_index s) = s ∧ small_index s < 32 ∧ is_small s = true :=
  ⟨small_index_roundtrip s h8 h, small_index_lt s h, (is_small_iff s).2 h⟩

example : small_index2size (small_index 248) = 248 ∧ small_index 248 < 32 ∧ is_small 248 = true :=
  small_index_exact 248 (by decide) (by decide)

/-- tree bins: every large size falls into exactly the bin whose size bracket contains it -/
theorem tree_index_exact (s : Nat) (h1 : 256 ≤ s) :
    compute_tree_index s < 32 ∧ is_small s = false ∧
    (s < 2 ^ 24 → min_size_for_tree_index (compute_tree_index s) ≤ s ∧
                   s < min_size_for_tree_index (compute_tree_index s + 1)) ∧
    (2 ^ 24 ≤ s → compute_tree_index s = 31) := by
  refine ⟨compute_tree_index_lt s, ?_, fun h2 => tree_index_bracket s h1 h2, compute_tree_index_big s⟩
  cases hs : is_small s with
  | false => rfl
  | true => have := (is_small_iff s).1 hs; omega

example : compute_tree_index 384 < 32 ∧ min_size_for_tree_index (compute_tree_index 384) ≤ 384 :=
  ⟨(tree_index_exact 384 (by decide)).1, ((tree_index_exact 384 (by decide)).2.2.1 (by decide)).1⟩

/-- request padding: monotone, leaves room for the header word, 16-aligned, at least
MIN_CHUNK_SIZE, and free of overflow for every request below MAX_REQUEST -/
theorem request2size_facts (r : Nat) (h : r < MAX_REQUEST) :
    32 ≤ request2size r ∧ r + 8 ≤ request2size r ∧ request2size r < r + 33 ∧ request2size r % 16 = 0 ∧
    request2size r + top_foot_size + MALLOC_ALIGNMENT + DEFAULT_GRANULARITY ≤ 2 ^ 64 ∧
    (∀ r', r' ≤ r → request2size r' ≤ request2size r) := by
  have h24 := lt_max_request_no_overflow r h
  exact ⟨request2size_ge_min r h24, request2size_ge r h24, request2size_lt r h24, request2size_aligned r h24,
    (request2size_lt_max r h).2, fun r' hr => request2size_mono r' r hr h24⟩

example : (100 : Nat) < MAX_REQUEST := by decide

/-- the bitmap tricks of the bin search: `left_bits (1 << i)` selects exactly the bins above `i`,
`least_bit` isolates the lowest set bit -/
theorem bitmap_tricks (i : Nat) (hi : i < 32) (x : Nat) (h0 : x ≠ 0) (hx : x < 2 ^ 32) :
    (∀ j, (left_bits (2 ^ i)).testBit j = (decide (i < j) && decide (j < 32))) ∧
    (∃ k, k < 32 ∧ least_bit x = 2 ^ k ∧ x.testBit k = true ∧ ∀ j < k, x.testBit j = false) ∧
    trailing_zeros32 (2 ^ i) = i :=
  ⟨fun j => left_bits_pow_testBit i j hi, least_bit_testBit x h0 hx, trailing_zeros32_pow i hi⟩

example : (5 : Nat) < 32 ∧ (40 : Nat) ≠ 0 ∧ (40 : Nat) < 2 ^ 32 := by decide

/-! ## 2. well-formedness: initial state, and what it gives for live blocks -/

theorem wf_initial : WF Hist.init := wf_init

/-- alignment and size: a live block is aligned as requested and lies inside the payload of an
in-use chunk whose header sits 16 bytes before it -/
theorem wf_live_aligned_sized (hs : Hist) (h : WF hs) (b : Block) (hb : b ∈ hs.live) :
    b.ptr % b.align = 0 ∧
    ∃ e ∈ hs.st.h.ents, e.addr + 16 = b.ptr ∧ e.cin = true ∧ b.ptr + b.size ≤ e.addr + e.size + 8 :=
  live_aligned_sized h hb

/-- disjointness: live blocks at different addresses do not overlap; different live blocks are at
different addresses -/
theorem wf_live_disjoint (hs : Hist) (h : WF hs) :
    (∀ b1 ∈ hs.live, ∀ b2 ∈ hs.live, b1.ptr ≠ b2.ptr →
      b1.ptr + b1.size ≤ b2.ptr ∨ b2.ptr + b2.size ≤ b1.ptr) ∧
    (∀ pre mid post b1 b2, hs.live = pre ++ b1 :: mid ++ b2 :: post → b1.ptr ≠ b2.ptr) :=
  ⟨fun _ h1 _ h2 hne => live_disjoint h h1 h2 hne, fun pre mid post b1 b2 hl => live_ptrs_distinct h pre mid post b1 b2 hl⟩

/-- bounds: a live block lies inside one segment obtained from the OS -/
theorem wf_live_inside_segment (hs : Hist) (h : WF hs) (b : Block) (hb : b ∈ hs.live) :
    ∃ g ∈ hs.st.segs, g.base + 16 ≤ b.ptr ∧ b.ptr + b.size ≤ g.base + g.size :=
  live_inside_segment h hb

/-- the direct-mmap path is dead: `Chunk::mmapped` is false for the chunk of every live block -/
theorem never_mmapped_live (hs : Hist) (h : WF hs) (b : Block) (hb : b ∈ hs.live) :
    ∃ e, findEnt hs.st.h.ents (b.ptr - 16) = some e ∧ e.mmapped = false :=
  never_mmapped h hb

/-- owner-only writes, static form: no header word and no part of a free chunk beyond its
prev_foot word lies inside a live block -/
theorem metadata_outside_live_blocks (hs : Hist) (h : WF hs) (b : Block) (hb : b ∈ hs.live) (x : Ent)
    (hx : x ∈ hs.st.h.ents) :
    (x.addr + 16 ≤ b.ptr ∨ b.ptr + b.size ≤ x.addr + 8) ∧
    (isFree x = true → x.addr + x.size ≤ b.ptr ∨ b.ptr + b.size ≤ x.addr + 8) :=
  metadata_outside_live h hb hx

/-- no two adjacent free chunks (full coalescing): inside a segment a free chunk other than `top` is
followed by an in-use chunk carrying its size as prev_foot -/
theorem no_adjacent_free_chunks (hs : Hist) (h : WF hs) (g : Seg) (hg : g ∈ hs.st.segs)
    (pre post : List Ent) (x y : Ent) (hsplit : segEnts hs.st.h.ents g = pre ++ x :: y :: post)
    (hf : isFree x = true) (hne : x.addr ≠ hs.st.h.top) : y.cin = true ∧ y.pfoot = x.size := by
  have ht := h.parts.tags
  simp only [List.all_eq_true] at ht
  have := ht g hg
  rw [hsplit] at this
  exact tagsOk_adjacent this hf hne

/-- free chunks = bins ⊎ {dv} ⊎ {top} -/
theorem free_chunks_accounted (hs : Hist) (h : WF hs) (e : Ent) (he : e ∈ hs.st.h.ents) (hf : isFree e = true) :
    e.addr = hs.st.h.top ∨ e.addr = hs.st.h.dv ∨ e.addr ∈ binned hs.st.h :=
  free_accounted h he hf

/-- in-use chunks = live blocks ⊎ segment records ⊎ fenceposts; with nothing live only the
segment trailers remain in use (quiescent heap) -/
theorem inuse_chunks_accounted (hs : Hist) (h : WF hs) (e : Ent) (he : e ∈ hs.st.h.ents) (hc : e.cin = true) :
    (e.size = 8 ∨ isRecord hs.st.segs e = true ∨ ∃ b ∈ hs.live, b.ptr = e.addr + 16) ∧
    (hs.live = [] → e.size = 8 ∨ isRecord hs.st.segs e = true) :=
  ⟨inuse_accounted h he hc, fun hq => quiescent_canonical h hq he hc⟩

/-! ## 3. one operation -/

/-- the post-condition of an allocation for a new block `nb`, relative to the blocks live before -/
def AllocPost (hs' : Hist) (old : List Block) (nb : Block) : Prop :=
  hs'.live = nb :: old ∧ nb.ptr % nb.align = 0 ∧
  (∃ g ∈ hs'.st.segs, g.base + 16 ≤ nb.ptr ∧ nb.ptr + nb.size ≤ g.base + g.size) ∧
  (∀ b ∈ old, b.ptr ≠ nb.ptr ∧ (nb.ptr + nb.size ≤ b.ptr ∨ b.ptr + b.size ≤ nb.ptr))

theorem allocPost_of_wf {hs' : Hist} {old : List Block} {nb : Block} (hwf : WF hs') (hl : hs'.live = nb :: old) :
    AllocPost hs' old nb := by
  have hmem : nb ∈ hs'.live := by rw [hl]; exact List.mem_cons_self
  refine ⟨hl, (live_aligned_sized hwf hmem).1, live_inside_segment hwf hmem, fun b hb => ?_⟩
  obtain ⟨pre, post, hsplit⟩ := List.append_of_mem hb
  have hne : nb.ptr ≠ b.ptr :=
    live_ptrs_distinct hwf [] pre post nb b (by rw [hl, hsplit]; simp)
  have hb' : b ∈ hs'.live := by rw [hl]; exact List.mem_cons_of_mem _ hb
  exact ⟨fun h => hne h.symm, live_disjoint hwf hmem hb' hne⟩

/-- **alloc_ok** (partial: `WF` of the produced state is a hypothesis): a non-null `malloc` result is
aligned as requested, designates `size` bytes inside one segment, was not live before and overlaps
no other live block; the live set grows by exactly this block -/
theorem alloc_ok_partial (hs hs' : Hist) (id size align : Nat) (os : List OsDir) (out : Out)
    (h : hs.step (.malloc id size align) os = .ok (hs', out)) (hp : out.ptr ≠ 0) (hwf : WF hs') :
    AllocPost hs' hs.live { id := id, ptr := out.ptr, size := size, align := align } := by
  obtain ⟨_, s, p, _, hs1, rfl⟩ := step_malloc_cases h
  rw [if_pos hp] at hs1
  subst hs1
  exact allocPost_of_wf hwf rfl

/-- **calloc_ok** (partial): as `alloc_ok`, and the `size` bytes are zeroed by the call -/
theorem calloc_ok_partial (hs hs' : Hist) (id size align : Nat) (os : List OsDir) (out : Out)
    (h : hs.step (.calloc id size align) os = .ok (hs', out)) (hp : out.ptr ≠ 0) (hwf : WF hs') :
    AllocPost hs' hs.live { id := id, ptr := out.ptr, size := size, align := align } ∧ out.zeroed = true := by
  obtain ⟨_, s, p, z, hm, hs1, rfl⟩ := step_calloc_cases h
  rw [if_pos hp] at hs1
  subst hs1
  refine ⟨allocPost_of_wf hwf rfl, ?_⟩
  -- zeroing happens unless the chunk is a direct-mmap chunk, which it is not
  obtain ⟨e, he, hc, _⟩ := live_block hwf List.mem_cons_self
  obtain ⟨e', he', hz⟩ := calloc_zeroed hm hp
  rw [MEM_OFFSET_eq, he] at he'
  injection he' with he'
  subst he'
  simp [hz, Ent.mmapped, hc]

/-- **realloc_ok** (partial): a successful reallocation yields a block of the new size with all the
properties of a fresh allocation relative to the *other* live blocks; it either stays at its address
without any copy, or exactly one copy from the old to the new block is made (never longer than the
new size; exactly `min old new` bytes on the over-aligned path) before the old block is freed -/
theorem realloc_ok_partial (hs hs' : Hist) (id newsize : Nat) (os : List OsDir) (out : Out)
    (h : hs.step (.realloc id newsize) os = .ok (hs', out)) (hp : out.ptr ≠ 0) (hwf : WF hs') :
    ∃ b, findBlock hs.live id = some b ∧
      AllocPost hs' (hs.live.filter fun x => x.id ≠ id) { b with ptr := out.ptr, size := newsize } ∧
      ((out.copy = none ∧ out.ptr = b.ptr) ∨
       ∃ len, out.copy = some { src := b.ptr, dst := out.ptr, len := len } ∧ len ≤ newsize ∧
         (b.align > MALLOC_ALIGNMENT → len = min b.size newsize)) := by
  obtain ⟨b, hb, s, p, c, hm, hs1, rfl⟩ := step_realloc_cases h
  rw [if_pos hp] at hs1
  subst hs1
  exact ⟨b, hb, allocPost_of_wf hwf rfl, realloc_copy hm hp⟩

/-- **free_ok**: `free` removes exactly the named block from the live set; (with `WF` of the produced
state every remaining block keeps all guarantees of §2) -/
theorem free_ok_partial (hs hs' : Hist) (id : Nat) (os : List OsDir) (out : Out)
    (h : hs.step (.free id) os = .ok (hs', out)) :
    ∃ b, findBlock hs.live id = some b ∧ hs'.live = hs.live.filter (fun x => x.id ≠ id) ∧
      (WF hs' → ∀ b1 ∈ hs'.live, ∀ b2 ∈ hs'.live, b1.ptr ≠ b2.ptr →
        b1.ptr + b1.size ≤ b2.ptr ∨ b2.ptr + b2.size ≤ b1.ptr) := by
  obtain ⟨b, hb, s, _, rfl, _⟩ := step_free_cases h
  exact ⟨b, hb, rfl, fun hwf _ h1 _ h2 hne => live_disjoint hwf h1 h2 hne⟩

/-- the mmap contract for the answers one operation receives: if the first answer serves a mapping,
that mapping (of the size `sys_alloc` asks for) is 16-aligned, not null, inside the address space and
disjoint from every segment the allocator holds -/
def OsContract (hs : Hist) (os : List OsDir) (size align : Nat) : Prop :=
  ∀ tbase q, os = .m (some tbase) :: q → OsFresh hs.st tbase (mapSize (reqOf size align))

/-- **alloc_fresh** — a step theorem from `WF` of the state BEFORE the call, for every alignment
2^k and whether or not the OS is asked: the block returned by `malloc` is carved out of a chunk that
was free (taken from a small bin, a tree bin, `dv` or `top`, at least as large as the padded request),
or out of the mapping the OS just served (possibly starting in the old `top` it extends), and for an
over-aligned request lies inside the chunk obtained for the padded request — hence it overlaps no
block that was live. -/
theorem alloc_fresh_from_pre (hs hs' : Hist) (hwf : WF hs) (id size k : Nat) (os : List OsDir) (out : Out)
    (h : hs.step (.malloc id size (2 ^ k)) os = .ok (hs', out)) (hk : k ≤ 32)
    (hp : out.ptr ≠ 0) (hsz : 0 < size) (hmax : size < MAX_REQUEST) (hos : OsContract hs os size (2 ^ k)) :
    ∀ b ∈ hs.live, out.ptr + size ≤ b.ptr ∨ b.ptr + b.size ≤ out.ptr := by
  obtain ⟨_, s, p, hm, rfl, rfl⟩ := step_malloc_cases h
  exact malloc_fresh hwf (s := hs.start os) ⟨rfl, rfl, rfl, rfl, rfl, rfl, rfl⟩ rfl hm hp hsz hmax hos

/-- the same for `calloc` -/
theorem calloc_fresh_from_pre (hs hs' : Hist) (hwf : WF hs) (id size k : Nat) (os : List OsDir) (out : Out)
    (h : hs.step (.calloc id size (2 ^ k)) os = .ok (hs', out)) (hk : k ≤ 32)
    (hp : out.ptr ≠ 0) (hsz : 0 < size) (hmax : size < MAX_REQUEST) (hos : OsContract hs os size (2 ^ k)) :
    ∀ b ∈ hs.live, out.ptr + size ≤ b.ptr ∨ b.ptr + b.size ≤ out.ptr := by
  obtain ⟨_, s, p, z, hm, rfl, rfl⟩ := step_calloc_cases h
  obtain ⟨p2, hmal, hc⟩ := calloc_cases hm
  rcases hc with ⟨_, rfl, _⟩ | ⟨hp2, rfl, _⟩
  · exact absurd rfl hp
  · exact malloc_fresh hwf (s := hs.start os) ⟨rfl, rfl, rfl, rfl, rfl, rfl, rfl⟩ rfl hmal hp2 hsz hmax hos

/-- **realloc_fresh** — from `WF` of the state BEFORE the call: when a reallocation moves the block
(a copy is made), the new block overlaps no block that was live before the call — including the
old block, which is freed only after the copy -/
theorem realloc_fresh_from_pre (hs hs' : Hist) (hwf : WF hs) (id newsize k : Nat) (os : List OsDir) (out : Out) (b : Block)
    (hb : findBlock hs.live id = some b) (hal : b.align = 2 ^ k) (hk : k ≤ 32)
    (h : hs.step (.realloc id newsize) os = .ok (hs', out))
    (hp : out.ptr ≠ 0) (hmoved : out.copy ≠ none) (hsz : 0 < newsize) (hmax : newsize < MAX_REQUEST)
    (hos : OsContract hs os newsize (2 ^ k)) :
    ∀ b' ∈ hs.live, out.ptr + newsize ≤ b'.ptr ∨ b'.ptr + b'.size ≤ out.ptr := by
  obtain ⟨b1, hb1, s, p, c, hm, rfl, rfl⟩ := step_realloc_cases h
  obtain rfl : b1 = b := Option.some.inj (hb1.symm.trans hb)
  rw [hal] at hm
  unfold OsContract reqOf at hos
  rcases realloc_cases hm with ⟨hle, hi⟩ | ⟨hgt, s2, p2, hmal, hc⟩
  · -- ordinary alignment: try in place, else inner_malloc + copy + free
    rw [if_pos hle] at hos
    rcases inner_realloc_cases hi with ⟨_, rfl, _⟩ | ⟨_, _, _, _, rfl⟩ | ⟨s2, p2, him, hc⟩
    · exact absurd rfl hp
    · exact absurd rfl hmoved
    · rcases hc with ⟨_, _, rfl, _⟩ | ⟨hp2, rfl, _⟩
      · exact absurd rfl hp
      · exact (inner_malloc_fresh_all hwf (s := (hs.start os).tag "realloc-move") ⟨rfl, rfl, rfl, rfl, rfl, rfl, rfl⟩ rfl
          him hp2 hsz hmax hos).2.2
  · -- over-aligned: malloc + copy + free
    rw [if_neg (Nat.not_le_of_gt hgt)] at hos
    rcases hc with ⟨_, _, rfl, _⟩ | ⟨hp2, rfl, _⟩
    · exact absurd rfl hp
    · exact malloc_fresh hwf (s := (hs.start os).tag "realloc-overaligned") ⟨rfl, rfl, rfl, rfl, rfl, rfl, rfl⟩ rfl
        hmal hp2 hsz hmax (by unfold reqOf; rw [if_neg (Nat.not_le_of_gt hgt)]; exact hos)

/-- **oom_null** (full): if the OS refused an mmap during an operation, the operation returned null,
the allocator's state is exactly what it was before the call and the set of live blocks is
unchanged — nothing is lost, and every later operation behaves as if the refused call had never
been made (in particular a later request that fits is served: `Props/C04.reuse_without_os`). -/
theorem oom_null (hs hs' : Hist) (op : Op) (os : List OsDir) (out : Out)
    (h : hs.step op os = .ok (hs', out)) (hr : refused hs'.st.evs = true) :
    out.ptr = 0 ∧ hs'.st.core = hs.st.core ∧ hs'.live = hs.live :=
  step_refusal h hr

/-- `WF` does not look at the ghost fields (branch tags, recorded OS calls) nor at the environment queue -/
theorem wfb_core (hs : Hist) : wfb hs = wfb { st := hs.st.core, live := hs.live } := rfl

theorem WF_of_core_eq {hs hs' : Hist} (hc : hs'.st.core = hs.st.core) (hl : hs'.live = hs.live) (h : WF hs) : WF hs' := by
  unfold WF at *
  rw [wfb_core] at h ⊢
  rw [hc, hl]
  exact h

/-- **wf_step, refusal case** (full): an operation during which the OS refused memory preserves `WF`
(it leaves the allocator exactly as it was) -/
theorem wf_step_refused (hs hs' : Hist) (op : Op) (os : List OsDir) (out : Out) (hwf : WF hs)
    (h : hs.step op os = .ok (hs', out)) (hr : refused hs'.st.evs = true) : WF hs' := by
  obtain ⟨_, hc, hl⟩ := step_refusal h hr
  exact WF_of_core_eq hc hl hwf

/-- `free` never asks the OS for memory, so it cannot be refused any -/
theorem free_never_asks_for_memory (hs hs' : Hist) (id : Nat) (os : List OsDir) (out : Out)
    (h : hs.step (.free id) os = .ok (hs', out)) : refused hs'.st.evs = false := by
  obtain ⟨b, _, s, hm, rfl, _⟩ := step_free_cases h
  exact (free_quiet hm).quiet

/-! ## 4. non-vacuity: concrete histories evaluated by the kernel -/

theorem ok_of_matchB {α : Type} {x : M α} {p : α → Bool}
    (h : (match x with | .ok v => p v | .error _ => false) = true) : ∃ v, x = .ok v ∧ p v = true :=
  matchB_ok h

/-- fresh heap: 100 bytes, then 300 zeroed bytes 64-aligned (memalign), a growing realloc, a free -/
def demoOps : List (Op × List OsDir) :=
  [(.malloc 1 100 8, [.m (some 1048576)]), (.calloc 2 300 64, []), (.realloc 1 5000, []), (.free 2, [])]

def demoState : Hist := match Hist.init.run demoOps with
  | .ok (hs, _) => hs
  | .error _ => Hist.init

set_option maxRecDepth 20000 in
/-- `WF` holds on a non-trivial state with two bins in use and one live block -/
example : WF demoState ∧ demoState.live.length = 1 ∧ demoState.st.h.ents.length = 4 ∧ treemap demoState.st.h ≠ 0 := by
  unfold WF; decide +kernel

set_option maxRecDepth 20000 in
/-- hypotheses of `alloc_ok_partial` / `calloc_ok_partial` / `realloc_ok_partial` / `free_ok_partial` -/
example : ∃ hs' out, demoState.step (.calloc 7 70000 4096) [.m (some 524288)] = .ok (hs', out) ∧
    out.ptr ≠ 0 ∧ WF hs' := by
  obtain ⟨v, hv, hp⟩ := ok_of_matchB (x := demoState.step (.calloc 7 70000 4096) [.m (some 524288)])
    (p := fun v => decide (v.2.ptr ≠ 0) && wfb v.1) (by decide +kernel)
  simp only [Bool.and_eq_true, decide_eq_true_eq] at hp
  exact ⟨v.1, v.2, hv, hp.1, hp.2⟩

set_option maxRecDepth 20000 in
example : ∃ hs' out, demoState.step (.realloc 1 100000) [.m (some 524288)] = .ok (hs', out) ∧
    out.ptr ≠ 0 ∧ WF hs' ∧ out.copy ≠ none := by
  obtain ⟨v, hv, hp⟩ := ok_of_matchB (x := demoState.step (.realloc 1 100000) [.m (some 524288)])
    (p := fun v => decide (v.2.ptr ≠ 0) && wfb v.1 && decide (v.2.copy ≠ none)) (by decide +kernel)
  simp only [Bool.and_eq_true, decide_eq_true_eq] at hp
  exact ⟨v.1, v.2, hv, hp.1.1, hp.1.2, hp.2⟩

set_option maxRecDepth 20000 in
/-- hypotheses of `realloc_fresh_from_pre`: block 1 (5000 bytes, align 8 = 2^3) grows to 100000 and moves
into a mapping the OS serves below the heap -/
example : ∃ hs' out b, findBlock demoState.live 1 = some b ∧ b.align = 2 ^ 3 ∧
    demoState.step (.realloc 1 100000) [.m (some 524288)] = .ok (hs', out) ∧ out.ptr ≠ 0 ∧ out.copy ≠ none ∧
    OsContract demoState [.m (some 524288)] 100000 (2 ^ 3) := by
  obtain ⟨v, hv, hp⟩ := ok_of_matchB (x := demoState.step (.realloc 1 100000) [.m (some 524288)])
    (p := fun v => decide (v.2.ptr ≠ 0) && decide (v.2.copy ≠ none)) (by decide +kernel)
  simp only [Bool.and_eq_true, decide_eq_true_eq] at hp
  refine ⟨v.1, v.2, { id := 1, ptr := 1049024, size := 5000, align := 8 }, by decide +kernel, by decide +kernel, hv, hp.1, hp.2, ?_⟩
  intro tbase q hq
  injection hq with h1 _
  injection h1 with h1
  injection h1 with h1
  subst h1
  refine ⟨by decide +kernel, by decide +kernel, by decide +kernel, ?_⟩
  intro g hg
  have : demoState.st.segs = [{ base := 1048576, size := 65536, recAt := 0 }] := by decide +kernel
  rw [this] at hg
  simp only [List.mem_singleton] at hg
  subst hg
  left
  decide +kernel

set_option maxRecDepth 20000 in
/-- hypotheses of `oom_null`: the same request with the OS refusing the mapping -/
example : ∃ hs' out, demoState.step (.malloc 7 70000 4096) [.m none] = .ok (hs', out) ∧
    refused hs'.st.evs = true := by
  obtain ⟨v, hv, hp⟩ := ok_of_matchB (x := demoState.step (.malloc 7 70000 4096) [.m none])
    (p := fun v => refused v.1.st.evs) (by decide +kernel)
  exact ⟨v.1, v.2, hv, hp⟩

set_option maxRecDepth 20000 in
/-- hypotheses of `alloc_fresh_from_pre`: a request served from a tree bin without any OS call … -/
example : ∃ hs' out, demoState.step (.malloc 9 200 (2 ^ 3)) [] = .ok (hs', out) ∧ out.ptr ≠ 0 ∧
    WF demoState ∧ OsContract demoState [] 200 (2 ^ 3) := by
  obtain ⟨v, hv, hp⟩ := ok_of_matchB (x := demoState.step (.malloc 9 200 (2 ^ 3)) [])
    (p := fun v => decide (v.2.ptr ≠ 0) && wfb demoState) (by decide +kernel)
  simp only [Bool.and_eq_true, decide_eq_true_eq] at hp
  exact ⟨v.1, v.2, hv, hp.1, hp.2, fun tbase q hq => by cases hq⟩

set_option maxRecDepth 20000 in
/-- … and an over-aligned one for which the OS serves a fresh mapping below the heap -/
example : ∃ hs' out, demoState.step (.calloc 9 70000 (2 ^ 12)) [.m (some 524288)] = .ok (hs', out) ∧ out.ptr ≠ 0 ∧
    OsContract demoState [.m (some 524288)] 70000 (2 ^ 12) := by
  obtain ⟨v, hv, hp⟩ := ok_of_matchB (x := demoState.step (.calloc 9 70000 (2 ^ 12)) [.m (some 524288)])
    (p := fun v => decide (v.2.ptr ≠ 0)) (by decide +kernel)
  simp only [decide_eq_true_eq] at hp
  refine ⟨v.1, v.2, hv, hp, ?_⟩
  intro tbase q hq
  injection hq with h1 _
  injection h1 with h1
  injection h1 with h1
  subst h1
  refine ⟨by decide +kernel, by decide +kernel, by decide +kernel, ?_⟩
  intro g hg
  have : demoState.st.segs = [{ base := 1048576, size := 65536, recAt := 0 }] := by decide +kernel
  rw [this] at hg
  simp only [List.mem_singleton] at hg
  subst hg
  left
  decide +kernel

set_option maxRecDepth 20000 in
example : ∃ hs' out, demoState.step (.free 1) [] = .ok (hs', out) ∧ WF hs' := by
  obtain ⟨v, hv, hp⟩ := ok_of_matchB (x := demoState.step (.free 1) [])
    (p := fun v => wfb v.1) (by decide +kernel)
  exact ⟨v.1, v.2, hv, hp⟩

end TinyVerif.Dl
