/-
C01 — Mutex: mutual exclusion, visibility, no lost wake-up, try_lock — for every number of threads,
every program mix and every schedule (incl. wake choice, spurious futex returns, arbitrary/stale values
observed by relaxed loads).

The protocol model is `Model/Mutex.lean`; its inductive invariant is proved in `Proofs/MutexInv.lean`.
The model is tied to the code on every run of `bin/check C01`:
 * C: the real mutex.rs runs under a deterministic scheduler and every produced trace must be accepted by
   `step` (driver `drv_c01`); the driver replays each RMW with the memory ordering the running code actually
   passed, so `raced` is judged with the code's own orderings, whichever source line they come from;
 * T (static): `Gen/SyncSites.lean` is regenerated from mutex.rs / sync.rs / futex.rs.  Every RMW of the lock
   word carries a *role* (what it does to the word: `acquire` = writes a locked state, `release` = writes 0,
   `both` = cannot tell).  The obligations below are position-independent: *every* acquiring RMW is Acquire or
   stronger, *every* releasing RMW Release or stronger, no plain store touches the word (the memory model of
   `Model/Mutex.lean` relies on RMW-only writes), wait and wake use the same futex key kind.  Which function an
   operation stands in, and in which order the sites appear, is not part of any obligation: the operation
   sequence is pinned by C.
 * T (observed): `Gen/MutexObs.lean` is regenerated from the traces: the orderings of the RMWs that returned a
   guard / began a guard's drop, the spin budget, the futex operation words of the real rusl::futex.  The
   observed orderings must be good in any case; the static ones whenever the static table was understood
   (no `.unknown` ordering).  When it was not, the configuration rests on the observation alone (explored
   schedules only) and the check says so in its evidence.
-/
import TinyVerif.Model.Mutex
import TinyVerif.Proofs.MutexInv
import TinyVerif.Proofs.MutexLive
import TinyVerif.Gen.SyncSites
import TinyVerif.Gen.MutexObs
namespace TinyVerif.Mutex
open TinyVerif.Gen.Sync

/-! ## tie T: position-independent obligations on the regenerated site table and on the observation -/

def isAcq : Ord → Bool
  | .acquire | .acqrel | .seqcst => true
  | _ => false
def isRel : Ord → Bool
  | .release | .acqrel | .seqcst => true
  | _ => false

def needsAcq (s : Site) : Bool := s.role == "acquire" || s.role == "both"
def needsRel (s : Site) : Bool := s.role == "release" || s.role == "both"
/-- success ordering of an RMW / ordering of a load (first ordering argument) -/
def succOrd (s : Site) : Ord := s.ords.getD 0 .unknown

/-- the static table was understood: every atomic operation has literal (or aliased) orderings -/
def staticUnderstood : Bool :=
  mutexSites.all (fun s => s.role == "wait" || s.role == "wake" || (!s.ords.isEmpty && s.ords.all (· != .unknown)))
/-- every RMW of mutex.rs that may take the lock is Acquire or stronger (and there is one) -/
def staticAcqOk : Bool := mutexSites.any needsAcq && mutexSites.all (fun s => !needsAcq s || isAcq (succOrd s))
/-- every RMW of mutex.rs that gives the lock up is Release or stronger (and there is one) -/
def staticRelOk : Bool := mutexSites.any needsRel && mutexSites.all (fun s => !needsRel s || isRel (succOrd s))
/-- the lock word is only ever written by RMWs (release sequences are never broken by a plain store) -/
def noStore : Bool := mutexSites.all (fun s => s.op != "store")

/-- every RMW that returned a guard on some explored schedule carried Acquire or stronger (and some did) -/
def obsAcqOk : Bool :=
  Gen.MutexObs.observed.any (fun r => r.2.1 == "acquire") &&
  Gen.MutexObs.observed.all (fun r => r.2.1 != "acquire" || isAcq r.2.2)
/-- every RMW that began a guard's drop carried Release or stronger (and some did) -/
def obsRelOk : Bool :=
  Gen.MutexObs.observed.any (fun r => r.2.1 == "release") &&
  Gen.MutexObs.observed.all (fun r => r.2.1 != "release" || isRel r.2.2)

/-- the waiter's futex key kind must match the wakers' (here and the kernel's clear-tid wake used by join: both
shared) — judged on the operation words the real rusl::futex issued, and on the source text when understood -/
def futexKeyOk : Bool :=
  Gen.MutexObs.futexWaitPrivate == Gen.MutexObs.futexWakePrivate &&
  (!futexKeyUnderstood || (futexWaitPrivate == Gen.MutexObs.futexWaitPrivate && futexWakePrivate == Gen.MutexObs.futexWakePrivate))

def genShapeOk : Bool := noStore && futexKeyOk

theorem gen_shape_ok : genShapeOk = true := by decide

/-- the configuration of the model: an ordering bit is set iff *all* RMWs of that kind are strong enough, in the
observation and (when understood) in the source -/
def genCfg : Cfg :=
  let a := obsAcqOk && (!staticUnderstood || staticAcqOk)
  let r := obsRelOk && (!staticUnderstood || staticRelOk)
  { tryAcq := a, lockAcq := a, cas2Acq := a, swap2Acq := a, unlockRel := r
    spinMax := Gen.MutexObs.spinBudget }

theorem gen_cfg_good : genCfg.Good := by decide

def Reachable (c : Cfg) (s : St) : Prop := ∃ progs evs, run c (init progs) evs = some s

theorem run_inv (c : Cfg) (hc : c.Good) (s s' : St) (evs : List (Nat × Ev)) (h : run c s evs = some s')
    (hinv : MInv s) : MInv s' :=
  run_preserves c (step_inv c hc) s s' evs h hinv

theorem reachable_inv (c : Cfg) (hc : c.Good) (s : St) (h : Reachable c s) : MInv s := by
  obtain ⟨progs, evs, h⟩ := h
  exact run_inv c hc _ s evs h (init_inv progs)

/-! ## the property theorems (for every thread count, program mix and schedule) -/

/-- **mutual exclusion**: at most one thread is between obtaining a guard and its unlocking swap -/
theorem mutex_excl (c : Cfg) (hc : c.Good) (s : St) (h : Reachable c s) (i j : Nat)
    (hi : holds (s.ths i) = true) (hj : holds (s.ths j) = true) : i = j :=
  (reachable_inv c hc s h).uniq i j hi hj

/-- the lock word is non-zero exactly while somebody holds the lock -/
theorem mutex_word_iff_held (c : Cfg) (hc : c.Good) (s : St) (h : Reachable c s) :
    s.wval ≠ 0 ↔ ∃ i, holds (s.ths i) = true := by
  have inv := reachable_inv c hc s h
  constructor
  · exact inv.held
  · rintro ⟨i, hi⟩ h0
    have := inv.free h0 i
    simp [hi] at this

/-- **visibility**: no guarded access ever races — every access under a guard happens-after every earlier
access under any earlier guard (needs Acquire on every acquiring RMW and Release on the unlocking swap:
`c.Good`, re-checked against the source by `gen_cfg_good`) -/
theorem mutex_visibility (c : Cfg) (hc : c.Good) (s : St) (h : Reachable c s) : s.raced = false :=
  (reachable_inv c hc s h).nrace

/-- the holder's view covers every write made under the lock so far -/
theorem mutex_holder_sees_all (c : Cfg) (hc : c.Good) (s : St) (h : Reachable c s) (i : Nat)
    (hi : holds (s.ths i) = true) : (s.ths i).dv = s.dlatest :=
  (reachable_inv c hc s h).hdv i hi

/-- **no lost wake-up**: whenever a thread is parked in the kernel, the word is 2 (so the holder's unlock will
issue a wake), or a wake is already pending, or an awake contender exists: a thread inside `lock_contended`'s loop,
which parks only if the kernel finds the word at 2 (after its own `swap(2)` or someone else's) -/
theorem mutex_no_lost_wakeup (c : Cfg) (hc : c.Good) (s : St) (h : Reachable c s)
    (hp : ∃ i, isParked (s.ths i) = true) :
    s.wval = 2 ∨ (∃ i, wakePending (s.ths i) = true) ∨ (∃ i, contender (s.ths i) = true) :=
  (reachable_inv c hc s h).nolost hp

theorem enabled_of_holds (t : Th) (h : holds t = true) : enabled t = true := by
  unfold holds at h; unfold enabled isParked finished
  split at h <;> simp_all

theorem enabled_of_witness (t : Th) (h : witness t = true) : enabled t = true := by
  unfold witness contender wakePending at h; unfold enabled isParked finished
  cases hpc : t.pc <;> simp_all

/-- **no deadlock**: as long as some thread is parked, some thread is enabled, i.e. neither parked nor finished — the
parked threads are never all that is left (spurious futex returns are not needed for progress) -/
theorem mutex_no_deadlock (c : Cfg) (hc : c.Good) (s : St) (h : Reachable c s)
    (hp : ∃ i, isParked (s.ths i) = true) : ∃ j, enabled (s.ths j) = true := by
  have inv := reachable_inv c hc s h
  rcases inv.nolost hp with h2 | ⟨k, hk⟩ | ⟨k, hk⟩
  · obtain ⟨j, hj⟩ := inv.held (by omega)
    exact ⟨j, enabled_of_holds _ hj⟩
  · exact ⟨k, enabled_of_witness _ (by simp [witness, hk])⟩
  · exact ⟨k, enabled_of_witness _ (by simp [witness, hk])⟩

/-- a thread that is not enabled and not finished is parked (the only blocking point is the futex wait) -/
theorem blocked_only_in_futex (t : Th) (h1 : enabled t = false) (h2 : finished t = false) : isParked t = true := by
  unfold enabled at h1; simp_all

/-- **try_lock never blocks**: its only step is one CAS, after which it is returning (guard or None) -/
theorem try_lock_nonblocking (c : Cfg) (s s' : St) (i : Nat) (e : Ev)
    (hpc : (s.ths i).pc = .fastCas true) (h : step c s i e = some s') :
    (s'.ths i).pc = .acquired ∨ (s'.ths i).pc = .tryFailed :=
  (step_fastCas hpc h).imp (·.2) (·.2)

/-- **try_lock fails only if the mutex was held at that instant** (the CAS reads the latest value) -/
theorem try_lock_fails_only_if_held (c : Cfg) (hc : c.Good) (s s' : St) (i : Nat) (e : Ev) (hr : Reachable c s)
    (hpc : (s.ths i).pc = .fastCas true) (h : step c s i e = some s') (hf : (s'.ths i).pc = .tryFailed) :
    ∃ j, holds (s.ths j) = true := by
  rcases step_fastCas hpc h with ⟨_, ha⟩ | ⟨hne, _⟩
  · rw [ha] at hf; cases hf
  · exact (reachable_inv c hc s hr).held hne

/-- and it succeeds whenever the word is free at that instant -/
theorem try_lock_succeeds_if_free (c : Cfg) (s : St) (i : Nat) (hi : i < s.n)
    (hpc : (s.ths i).pc = .fastCas true) (h0 : s.wval = 0) :
    ∃ s', step c s i (.cas true 0) = some s' ∧ (s'.ths i).pc = .acquired :=
  ⟨_, h0 ▸ (Step.fastOk h0).accepted hi hpc, by simp [rmw]⟩

theorem run_pinv (c : Cfg) (s s' : St) (evs : List (Nat × Ev)) (h : run c s evs = some s') (hp : PInv s) : PInv s' :=
  run_preserves c (step_pinv c) s s' evs h hp

/-- **every `lock()` call can return once the holder releases** (liveness in possibility form): from every
reachable state, a thread anywhere inside a blocking `lock()` call — spinning, about to mark the word contended,
about to wait, or parked in the kernel — can be driven to hold the lock by a schedule in which only the current
holder (running to its unlocking swap) and then the thread itself take steps; no third party and no lucky wake is
needed (a parked thread resumes through a futex return the kernel is always allowed to make).  Under a fair
scheduler this is what "every lock() returns once holders keep releasing" needs from the protocol; starvation by
barging threads is inherent to this lock and is not excluded. -/
theorem mutex_can_always_acquire (c : Cfg) (hc : c.Good) (s : St) (h : Reachable c s) (t : Nat) (ht : t < s.n)
    (hl : inLock (s.ths t) = true) :
    ∃ evs s', run c s evs = some s' ∧ holds (s'.ths t) = true := by
  have inv := reachable_inv c hc s h
  have pinv : PInv s := by
    obtain ⟨progs, evs, hr⟩ := h
    exact run_pinv c _ s evs hr (init_pinv progs)
  by_cases h0 : s.wval = 0
  · obtain ⟨s', ⟨evs, _, hr, _, _⟩, hh⟩ := acquire_when_free c s t ht h0 hl
    exact ⟨evs, s', hr, hh⟩
  · obtain ⟨u, hu⟩ := inv.held h0
    have hun : u < s.n := by
      by_cases hlt : u < s.n
      · exact hlt
      · have := inv.outside u (by omega); simp [holds, this] at hu
    have hut : u ≠ t := by
      intro heq; subst heq
      unfold inLock at hl; unfold holds at hu
      cases hpc : (s.ths u).pc <;> simp_all
    obtain ⟨s1, ⟨e1, _, r1, n1, o1⟩, w1⟩ := release_holder c s u hun pinv hu
    have ht1 : t < s1.n := by rw [n1]; exact ht
    have hl1 : inLock (s1.ths t) = true := by rw [o1 t (Ne.symm hut)]; exact hl
    obtain ⟨s2, ⟨e2, _, r2, _, _⟩, hh⟩ := acquire_when_free c s1 t ht1 w1 hl1
    refine ⟨e1 ++ e2, s2, ?_, hh⟩
    rw [run_append, r1]; exact r2

/-! ## the orderings are necessary: with a relaxed unlock (or a relaxed acquire) the model exhibits a race -/

def badRel : Cfg := { genCfg with unlockRel := false }
def badAcq : Cfg := { genCfg with lockAcq := false }

def raceTrace : List (Nat × Ev) :=
  [(0, .callLock), (0, .cas true 0), (0, .acq), (0, .data), (0, .rel), (0, .swap 0 1),
   (1, .callLock), (1, .cas true 0), (1, .acq), (1, .data)]

def racedOf (c : Cfg) : Option Bool :=
  (run c (init [[⟨false, 1⟩], [⟨false, 1⟩]]) raceTrace).map (·.raced)

theorem relaxed_unlock_races : racedOf badRel = some true := by decide
theorem relaxed_acquire_races : racedOf badAcq = some true := by decide
theorem good_cfg_same_trace_no_race : racedOf genCfg = some false := by decide

/-! ## non-vacuity: a reachable state with a thread parked behind a holder -/

def parkTrace : List (Nat × Ev) :=
  [(0, .callLock), (0, .cas true 0), (0, .acq),
   (1, .callLock), (1, .cas false 1), (1, .load 1)]

/-- a reachable state in which thread 1 is parked on the futex while thread 0 holds the lock and the word is 2 -/
def parkedState : Option (Nat × Bool × Bool) :=
  (run { genCfg with spinMax := 0 } (init [[⟨false, 0⟩], [⟨false, 0⟩]])
    (parkTrace ++ [(1, .swap 2 1), (1, .load 2), (1, .fwait 2 true)])).map
    (fun s => (s.wval, isParked (s.ths 1), holds (s.ths 0)))

example : parkedState = some (2, true, true) := by decide
-- `mutex_can_always_acquire` applies to that state: thread 1 is parked inside lock()
example : (run { genCfg with spinMax := 0 } (init [[⟨false, 0⟩], [⟨false, 0⟩]])
    (parkTrace ++ [(1, .swap 2 1), (1, .load 2), (1, .fwait 2 true)])).map (fun s => inLock (s.ths 1)) = some true := by decide
example : Reachable genCfg (init [[⟨false, 1⟩]]) := ⟨[[⟨false, 1⟩]], [], rfl⟩
example : genCfg.Good := gen_cfg_good

end TinyVerif.Mutex
