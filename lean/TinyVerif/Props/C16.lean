/-
C16 — stream sockets deliver bytes intact; waits, timeouts, fd passing as specified.

Three models (tied to /repo by `bin/check C16`: sc-shim fully scripted kernel for the wrappers, byte images of the
real constructors, the real ControlMessageIterator over crafted / kernel-filled buffers against a guard page):
  1. Model/SockWrap.lean  — tiny-std/src/sock.rs wrappers + net.rs try-variants as a state machine over an abstract
                            kernel; write_all ‖ read-loop over a FIFO byte queue under an adversarial kernel/scheduler;
  2. Model/SockAddr.lean  — SocketAddressInet::new / ipv4_addr, SocketAddressUnix::try_from_unix;
  3. Model/Cmsg.lean      — cmsg_* macros, create_send, ControlMessageIterator (repaired macros, commit 1998249, and
                            the macros as they were, with the two unrelated stack addresses as inputs) on EVERY byte
                            content of the control buffer, against the kernel's CMSG_OK walk as specification.
What no theorem can carry — that the Linux kernel behaves like the FIFO queue / `kfill` models, real readiness and
real time — is observed by the check on real Unix / TCP sockets and reported separately.
-/
import TinyVerif.Proofs.SockWrapLemmas
import TinyVerif.Proofs.SockAddrLemmas
import TinyVerif.Proofs.CmsgLemmas

namespace TinyVerif.C16
open TinyVerif

section Wrap
open TinyVerif.SockWrap

/-- **one_effective_op**: in every run of a wrapper (any configuration, timeout, kernel script) the successful
underlying transfers are: exactly one, whose count is the value returned, when the wrapper returns `Ok`; none
otherwise.  Nothing is transferred twice, nothing transferred is dropped from the result. -/
theorem one_effective_op (cfg : Cfg) (timeout : Option (Nat × Nat)) (script : List R) :
    okOps (run cfg timeout script).2 = (match (run cfg timeout script).1 with | .ok v => [v] | _ => []) := by
  simp only [run]
  cases convTimeout timeout with
  | none => rfl
  | some ts =>
    have := okOps_runFrom cfg ts .first script
    simp only [expectOps] at this
    rw [this]
    cases (runFrom cfg ts .first script).1 <;> rfl

/-- at most two underlying ops are ever issued by one wrapper call (the first attempt and ONE retry) -/
theorem at_most_two_ops (cfg : Cfg) (timeout : Option (Nat × Nat)) (script : List R) :
    opCount (run cfg timeout script).2 ≤ 2 := by
  simp only [run]
  cases convTimeout timeout with
  | none => simp [opCount]
  | some ts => exact opCount_le cfg ts .first script

/-- **timeout_only_after_poll_zero**: `Err(Timeout)` is returned only directly after a ppoll — issued with the
caller's full timeout converted to a timespec and the configured event — answered 0. -/
theorem timeout_only_after_poll_zero (cfg : Cfg) (timeout : Option (Nat × Nat)) (script : List R)
    (h : (run cfg timeout script).1 = .timeout) :
    ∃ ts, convTimeout timeout = some ts ∧
      (run cfg timeout script).2.getLast? = some (.ppoll ts cfg.event, .ok 0) := by
  simp only [run] at h ⊢
  cases hc : convTimeout timeout with
  | none => rw [hc] at h; cases h
  | some ts =>
    rw [hc] at h
    exact ⟨ts, rfl, timeout_last cfg ts .first script h⟩

/-- the timespec is the caller's timeout, unchanged (`Some(d)` ↦ `{d.secs, d.nanos}`, `None` ↦ null) -/
theorem conv_timeout_exact (s n : Nat) (ts : TS) (h : convTimeout (some (s, n)) = some ts) : ts = some (s, n) := by
  simp only [convTimeout] at h
  split at h
  · cases h; rfl
  · cases h

/-- every ppoll of a run — also those after EINTR — carries the caller's FULL timeout -/
theorem all_polls_full_timeout (cfg : Cfg) (timeout : Option (Nat × Nat)) (script : List R) (ts : TS)
    (hc : convTimeout timeout = some ts) :
    ∀ c ∈ (run cfg timeout script).2, isPoll c.1 = true → c.1 = .ppoll ts cfg.event := by
  simp only [run, hc]
  exact polls_full cfg ts .first script

/-- **eintr_restarts**: an EINTR answer to ppoll changes nothing but the log: ppoll is issued again with the same
timespec and the run continues as if the interruption had not happened. -/
theorem eintr_restarts (cfg : Cfg) (ts : TS) (rest : List R) :
    runFrom cfg ts .polling (.err EINTR :: rest) =
      ((runFrom cfg ts .polling rest).1, (.ppoll ts cfg.event, .err EINTR) :: (runFrom cfg ts .polling rest).2) := by
  simp [runFrom, wstep, callOf]

/-- **try_never_polls**: a try-variant issues exactly one syscall, the op; never ppoll -/
theorem try_never_polls (cfg : Cfg) (script : List R) :
    (tryRun cfg script).2.length = 1 ∧ ∀ c ∈ (tryRun cfg script).2, isPoll c.1 = false := by
  cases script with
  | nil => simp [tryRun, isPoll]
  | cons r rest => cases r <;> simp [tryRun, isPoll]

/-- a try-variant reports would-block exactly on the blocking errno -/
theorem try_would_block_iff (cfg : Cfg) (r : R) (rest : List R) :
    (tryRun cfg (r :: rest)).1 = .wouldBlock ↔ r = .err cfg.blockErrno := by
  cases r with
  | ok v => simp [tryRun]
  | err e =>
    simp only [tryRun]
    by_cases h : e = cfg.blockErrno <;> simp [h]

/-- an op that succeeds at once is never followed by a poll -/
theorem ready_never_polls (cfg : Cfg) (ts : TS) (v : Nat) (rest : List R) :
    runFrom cfg ts .first (.ok v :: rest) = (.ok v, [(.op, .ok v)]) := by
  simp [runFrom, wstep, callOf]

/-- a Duration that does not fit a timespec is refused before any syscall -/
theorem bad_timeout_no_syscall (cfg : Cfg) (s n : Nat) (h : I64_MAX < s) (script : List R) :
    run cfg (some (s, n)) script = (.badTimeout, []) := by
  simp only [run, convTimeout]
  rw [if_neg (by omega)]

/-! ### write_all ‖ read-loop over the FIFO socket -/

/-- **stream_prefix**: under every schedule, every pattern of short counts, EAGAIN, spurious or missing readiness,
EINTR, timeouts and errors, and every socket capacity: what the reader has collected followed by what is still in
flight is exactly the prefix of the data the writer's `write_all` has got accepted — in order, nothing
duplicated, nothing skipped — and `write_all`'s own cursor equals the number of bytes the kernel accepted. -/
theorem stream_prefix (data : List Nat) (cap want : Nat) (steps : List Step) :
    let s := exec (Sys.init data cap want) steps
    s.rcvd ++ s.q = data.take s.pos ∧ s.pos ≤ data.length := by
  intro s
  have hi := exec_inv _ (init_inv data cap want) steps
  have hd : s.data = data := (exec_static _ steps).1
  have h1 := hi.flow
  rw [← hi.rcvdEq, ← hi.posEq, hd] at h1
  have h2 := hi.sentLe
  rw [← hi.posEq, hd] at h2
  exact ⟨h1, h2⟩

/-- **stream_exact**: when `write_all` has returned `Ok` and the reader has seen end-of-file, the reader holds exactly
the bytes written: complete, in order, once. -/
theorem stream_exact (data : List Nat) (cap want : Nat) (steps : List Step)
    (hw : (exec (Sys.init data cap want) steps).w = .done .ok)
    (hr : (exec (Sys.init data cap want) steps).r = .done .eof) :
    (exec (Sys.init data cap want) steps).rcvd = data := by
  have hi := exec_inv _ (init_inv data cap want) steps
  have hp := (stream_prefix data cap want steps).1
  rw [(hi.rEof hr).1, List.append_nil, hi.wOk hw, (exec_static _ steps).1] at hp
  exact hp.trans (List.take_length)

/-- the `read_exact` shape: a reader that wanted exactly `data.length` bytes and got its buffer full holds `data` -/
theorem stream_exact_full (data : List Nat) (cap : Nat) (steps : List Step)
    (hr : (exec (Sys.init data cap data.length) steps).r = .done .full) :
    (exec (Sys.init data cap data.length) steps).rcvd = data := by
  have hi := exec_inv _ (init_inv data cap data.length) steps
  obtain ⟨hp, hle⟩ := stream_prefix data cap data.length steps
  have hfull : data.length ≤ (exec (Sys.init data cap data.length) steps).rcvd.length := by
    have := hi.rFull hr; rwa [(exec_static _ steps).2] at this
  -- `rcvd ++ q` is a prefix of `data`, and `rcvd` alone is no shorter than `data`
  have hlen := congrArg List.length hp
  rw [List.length_append, List.length_take] at hlen
  have hq : (exec (Sys.init data cap data.length) steps).q = [] := List.eq_nil_of_length_eq_zero (by omega)
  rw [hq, List.append_nil] at hp
  rw [hp, List.take_of_length_le (by omega)]

end Wrap

section Addr
open TinyVerif.SockAddr

/-- **inet_roundtrip**: `ipv4_addr(new(ip, port)) = (ip, port)` -/
theorem inet_roundtrip (a b c d port : Nat) (ha : a < 256) (hb : b < 256) (hc : c < 256) (hd : d < 256)
    (hp : port < 65536) : ipv4Addr (inetNew [a, b, c, d] port) = ([a, b, c, d], port) := by
  obtain ⟨h1, h2⟩ := swap16_bytes port hp
  show (SockAddr.le 4 (unle [a, b, c, d]), unle [swap16 port / 256 % 256, swap16 port % 256]) = _
  rw [le4_unle a b c d ha hb hc hd, h1, h2]
  simp only [unle, Prod.mk.injEq, true_and]
  omega

/-- **inet_image**: the 16 bytes handed to the kernel are `struct sockaddr_in` in network byte order:
family AF_INET (host order), port big-endian, address bytes in order, 8 zero bytes -/
theorem inet_image (a b c d port : Nat) (ha : a < 256) (hb : b < 256) (hc : c < 256) (hd : d < 256)
    (hp : port < 65536) :
    inetImage (inetNew [a, b, c, d] port) = [2, 0, port / 256, port % 256, a, b, c, d, 0, 0, 0, 0, 0, 0, 0, 0] := by
  obtain ⟨h1, h2⟩ := swap16_bytes port hp
  show SockAddr.le 2 AF_INET ++ [swap16 port % 256, swap16 port / 256 % 256] ++ SockAddr.le 4 (unle [a, b, c, d]) ++
    List.replicate 8 0 = _
  rw [le4_unle a b c d ha hb hc hd, h1, h2]
  rfl

/-- **unix_addr**: a 7-bit path of at most 107 bytes is copied exactly, zero padded to 108, `addr_len = 2 + len + 1` -/
theorem unix_addr (s rest : List Nat) (hs : SevenBit s) (hlen : s.length ≤ 107) :
    tryFromUnix (s ++ 0 :: rest) = .ok (s ++ List.replicate (SUN_PATH - s.length) 0) (2 + s.length + 1) := by
  have := unixLoop_ok s rest [] hs (by simpa using hlen)
  simp only [tryFromUnix, this, List.nil_append]
  congr 1; omega

/-- longer than 107 bytes ⇒ the documented error (whatever follows) -/
theorem unix_addr_too_long (s rest : List Nat) (hs : SevenBit s) (hlen : 108 ≤ s.length) :
    tryFromUnix (s ++ rest) = .tooLong :=
  unixLoop_tooLong s rest [] hs (by simp) (by simpa using hlen)

/-- a byte ≥ 128 within the first 108 ⇒ the documented error -/
theorem unix_addr_eight_bit (s rest : List Nat) (c : Nat) (hs : SevenBit s) (hc : 128 ≤ c) (hlen : s.length ≤ 107) :
    tryFromUnix (s ++ c :: rest) = .eightBit :=
  unixLoop_eightBit s rest [] c hs hc (by simpa using hlen)

/-- never an out-of-bounds write to the 108-byte buffer, never a read past the terminating NUL -/
theorem unix_addr_no_panic (path : List Nat) (h0 : 0 ∈ path) : tryFromUnix path ≠ .panic :=
  unixLoop_no_panic path [] h0 (by simp)

theorem unix_addr_size (path p : List Nat) (n : Nat) (h : tryFromUnix path = .ok p n) :
    p.length = 108 ∧ n ≤ 110 := unixLoop_len path [] p n h

end Addr

section Cm
open TinyVerif.Cmsg

/-- the three size macros, as arithmetic -/
theorem cmsg_sizes (n : Nat) :
    cmsgLen (4 * n) = 16 + 4 * n ∧ cmsgSpace (4 * n) = 16 + 4 * n + 4 * (n % 2) ∧
    cmsgSpace (4 * n) % 8 = 0 := by
  simp only [cmsgLen, cmsgSpace, cmsgAlign, HDR]
  refine ⟨trivial, ?_, ?_⟩ <;> omega

/-- **send_layout**: for every descriptor list, `create_send` builds header `(CMSG_LEN(4n), SOL_SOCKET, SCM_RIGHTS)` ++ the
descriptors ++ zero padding, `msg_controllen = CMSG_SPACE(4n)` (and the buffer has exactly that length) -/
theorem send_layout (fds : List Nat) :
    createSend fds =
      (encHdr (cmsgLen (4 * fds.length)) SOL_SOCKET SCM_RIGHTS ++ encFds fds ++
        List.replicate (cmsgSpace (4 * fds.length) - (16 + 4 * fds.length)) 0, cmsgSpace (4 * fds.length)) :=
  createSend_layout fds

theorem send_layout_length (fds : List Nat) : (createSend fds).1.length = (createSend fds).2 := by
  rw [send_layout]
  have h := (cmsg_sizes fds.length).2.1
  simp only [List.length_append, encHdr_length, encFds_length, List.length_replicate, HDR, FD]
  omega

/-- **send_image**: the exact byte image `create_send` hands to sendmsg for `n` descriptors — `cmsg_len = 16 + 4n` as 8
bytes little endian, `cmsg_level = SOL_SOCKET (1)`, `cmsg_type = SCM_RIGHTS (1)` as 4 bytes each, the descriptors as 4
bytes each, then `4·(n mod 2)` zero bytes up to the next multiple of 8; `msg_controllen` is the length of that image,
`CMSG_SPACE(4n) = 16 + 4n + 4·(n mod 2)`, a multiple of 8 -/
theorem send_image (fds : List Nat) :
    (createSend fds).1 = Cmsg.le 8 (16 + 4 * fds.length) ++ [1, 0, 0, 0] ++ [1, 0, 0, 0] ++ encFds fds ++
        List.replicate (4 * (fds.length % 2)) 0 ∧
    (createSend fds).2 = 16 + 4 * fds.length + 4 * (fds.length % 2) ∧
    (createSend fds).1.length = (createSend fds).2 ∧ (createSend fds).2 % 8 = 0 := by
  have hs := cmsg_sizes fds.length
  refine ⟨?_, ?_, send_layout_length fds, ?_⟩
  · rw [send_layout]
    have h1 : cmsgLen (4 * fds.length) = 16 + 4 * fds.length := hs.1
    have h2 : cmsgSpace (4 * fds.length) - (16 + 4 * fds.length) = 4 * (fds.length % 2) := by rw [hs.2.1]; omega
    rw [h1, h2]
    simp only [encHdr, Cmsg.le, SOL_SOCKET, SCM_RIGHTS, List.append_assoc]
  · rw [send_layout]; exact hs.2.1
  · rw [send_layout]; exact hs.2.2

/-- **send_wellformed**: what `create_send` builds is, for the KERNEL's parser (`CMSG_FIRSTHDR`/`CMSG_OK`/
`__cmsg_nxthdr` over `msg_controllen` bytes), exactly one well-formed header `(16 + 4n, SOL_SOCKET, SCM_RIGHTS)` at
offset 0 carrying exactly the descriptors given, followed by nothing -/
theorem send_wellformed (fds : List Nat) (hn : 16 + 4 * fds.length < 2 ^ 64) (hf : ∀ f ∈ fds, f < 2 ^ 32) :
    wfPrefix kNext (createSend fds).1 (createSend fds).2 = ([(0, ⟨16 + 4 * fds.length, SOL_SOCKET, SCM_RIGHTS⟩)], .done) ∧
    rightsOf (createSend fds).1 (wfPrefix kNext (createSend fds).1 (createSend fds).2).1 = [fds] := by
  have hw := createSend_walk kNext fds (by omega) (by
    have ha := align_ge (16 + 4 * fds.length)
    simp only [kNext, createSend_ctl, HDR]; rw [if_pos (by omega)])
  refine ⟨hw, ?_⟩
  rw [hw]; exact createSend_rights fds (fun f h => by have := hf f h; omega)

/-! ### the iterator on EVERY byte content of the control buffer

`mem` is the memory starting at `msg_control` (any bytes — in fact any naturals), of which the first `ctl =
msg_controllen` bytes are the control buffer; `base` is the address of `msg_control`.  The specification side is the
kernel's: `wfPrefix` walks the buffer while every header is `CMSG_OK` and reports why it stopped. -/

/-- the environment the theorems assume: the control buffer is mapped, `msg_controllen` is a sane `usize` and the
buffer does not wrap around the address space (true of every `&mut [u8]`) -/
structure CtlEnv (base : Nat) (mem : List Nat) (ctl : Nat) : Prop where
  mapped : ctl ≤ mem.length
  small : ctl < 2 ^ 63
  noWrap : base + ctl < U64

/-- the run of the iterator, either version: the descriptor lists of the well-formed prefix, then what it does with the
first header that is not `CMSG_OK` (`stopOut`) -/
theorem walk_post (fixed : Bool) {base : Nat} {mem : List Nat} {ctl : Nat} (env : CtlEnv base mem ctl) :
    ∃ pre, iterate fixed base mem ctl =
        ⟨rightsOf mem (wfPrefix uNext mem ctl).1 ++ (stopOut fixed base mem ctl (wfPrefix uNext mem ctl).2).msgs,
         pre ++ (stopOut fixed base mem ctl (wfPrefix uNext mem ctl).2).reads,
         (stopOut fixed base mem ctl (wfPrefix uNext mem ctl).2).bad⟩ ∧
      ∀ x ∈ pre, x.1 + x.2 ≤ stopAt ctl (wfPrefix uNext mem ctl).2 :=
  iterate_walk fixed base mem ctl env.mapped env.small env.noWrap

theorem walk_malformed {base : Nat} {mem : List Nat} {ctl : Nat} (env : CtlEnv base mem ctl) {o : Nat} {h : Hdr}
    (hstop : (wfPrefix uNext mem ctl).2 = .malformed o h) :
    o + HDR ≤ ctl ∧ decHdr (mem.drop o) = some h ∧ cmsgOk ctl o h = false := by
  rcases wfPrefix_stop mem ctl env.mapped with hd | ⟨o', h', hm, hf⟩
  · rw [hd] at hstop; cases hstop
  · rw [hm] at hstop; cases hstop; exact hf

/-- **iter_terminates**: for every memory content (mapped or not), every `msg_controllen` and every address, the
iteration ends (each `cmsg_nxthdr!` that yields a header advances by at least 16 bytes towards `msg_controllen`) —
the code since the repair and before it -/
theorem iter_terminates (fixed : Bool) (base : Nat) (mem : List Nat) (ctl : Nat) :
    (iterate fixed base mem ctl).bad ≠ some .fuel := by
  unfold iterate
  by_cases h16 : ctl < HDR
  · rw [if_pos h16]; nofun
  · rw [if_neg h16]; exact iterFrom_no_fuel fixed base ctl (ctl + 1) 0 mem (by omega)

/-- the walk always ends in `done` or at a malformed header -/
theorem walk_stop_cases {base : Nat} {mem : List Nat} {ctl : Nat} (env : CtlEnv base mem ctl) :
    (wfPrefix uNext mem ctl).2 = .done ∨ ∃ o h, (wfPrefix uNext mem ctl).2 = .malformed o h := by
  rcases wfPrefix_stop mem ctl env.mapped with hd | ⟨o, h, hm, _⟩
  · exact .inl hd
  · exact .inr ⟨o, h, hm⟩

/-- **iter_full** — the FULL statement, for the code as repaired in commit 8263fff: for EVERY content of the memory
(header fields are whatever the bytes say: SCM_CREDENTIALS before or after rights, unknown levels and types, zero-length
payloads, a truncated last header, `cmsg_len` smaller than a header, larger than the rest of the buffer, up to 2^64 - 1),
every `msg_controllen ≤` buffer length and every address, the iterator
  * yields exactly the descriptor lists of the SOL_SOCKET/SCM_RIGHTS headers of the well-formed prefix (the headers met
    while every header is the kernel's `CMSG_OK`), in order,
  * never panics, aborts or faults (and terminates),
  * reads — itself and through the slices it hands out — only inside `[0, msg_controllen)`,
  * stops AT the first header that is not `CMSG_OK`: that header is read, nothing at or after its end is —
    whatever the tag of that header and the size of its `cmsg_len`. -/
theorem iter_full {base : Nat} {mem : List Nat} {ctl : Nat} (env : CtlEnv base mem ctl) :
    (iterate true base mem ctl).msgs = rightsOf mem (wfPrefix uNext mem ctl).1 ∧
    (iterate true base mem ctl).bad = none ∧
    (∀ x ∈ (iterate true base mem ctl).reads, x.1 + x.2 ≤ ctl) ∧
    (∀ o h, (wfPrefix uNext mem ctl).2 = .malformed o h →
      (o, 16) ∈ (iterate true base mem ctl).reads ∧ ∀ x ∈ (iterate true base mem ctl).reads, x.1 + x.2 ≤ o + 16) := by
  obtain ⟨pre, hr, hin⟩ := walk_post true env
  rw [hr]
  rcases wfPrefix_stop mem ctl env.mapped with hd | ⟨o, h, hm, ho, _, hnok⟩
  · rw [hd] at hin ⊢
    simp only [stopOut, stopAt, List.append_nil] at hin ⊢
    exact ⟨trivial, trivial, hin, nofun⟩
  · rw [hm] at hin ⊢
    simp only [stopOut, stopAt, lastStep_fixed base ctl o _ h hnok env.noWrap, List.append_nil] at hin ⊢
    have hall : ∀ x ∈ pre ++ [(o, HDR)], x.1 + x.2 ≤ o + 16 := by
      intro x hx
      rcases List.mem_append.mp hx with hx | hx
      · have := hin x hx; omega
      · cases List.mem_singleton.mp hx; exact Nat.le_refl _
    refine ⟨trivial, trivial, fun x hx => ?_, fun o' h' hc => ?_⟩
    · have := hall x hx; simp only [HDR] at ho; omega
    · cases hc; exact ⟨List.mem_append_right _ (List.mem_singleton.mpr rfl), hall⟩

/-- **iter_wellformed** (both versions of the code): when every header the walk meets is `CMSG_OK`, exactly the
descriptor lists of the SCM_RIGHTS headers, no crash, every read inside `[0, msg_controllen)` -/
theorem iter_wellformed (fixed : Bool) {base : Nat} {mem : List Nat} {ctl : Nat} (env : CtlEnv base mem ctl)
    (hdone : (wfPrefix uNext mem ctl).2 = .done) :
    (iterate fixed base mem ctl).msgs = rightsOf mem (wfPrefix uNext mem ctl).1 ∧ (iterate fixed base mem ctl).bad = none ∧
    ∀ x ∈ (iterate fixed base mem ctl).reads, x.1 + x.2 ≤ ctl := by
  obtain ⟨pre, hr, hin⟩ := walk_post fixed env
  rw [hr, hdone] at *
  simp only [stopOut, stopAt, List.append_nil] at hin ⊢
  exact ⟨trivial, trivial, hin⟩

/-! ### the iterator on what the kernel leaves in a receive buffer -/

theorem kernelFill_wellformed (msgs : List (List Nat)) (len : Nat) (g : List Nat) (hg : len ≤ g.length)
    (hlen : len < 2 ^ 63) (hfd : FdsOk msgs) :
    (wfPrefix uNext (kernelFill msgs len g).1 (kernelFill msgs len g).2).2 = .done ∧
    rightsOf (kernelFill msgs len g).1 (wfPrefix uNext (kernelFill msgs len g).1 (kernelFill msgs len g).2).1 =
      delivered msgs len := by
  obtain ⟨_, f2, f3, _⟩ := kfill_facts msgs len g hg
  unfold kernelFill wfPrefix
  by_cases h : (kfill msgs len g).2 < HDR
  · rw [if_pos h]; exact ⟨rfl, (f3 (by simp only [HDR] at h; omega)).symm⟩
  · rw [if_neg h]
    obtain ⟨l, hw, hl⟩ := kfill_walk msgs len g (kfill msgs len g).1 0 ((kfill msgs len g).2 + 1) hg hlen hfd rfl
      (by simp only [HDR] at h; omega) (by omega)
    rw [Nat.zero_add] at hw
    rw [hw]; exact ⟨rfl, hl⟩

theorem kernelFill_env (base : Nat) (msgs : List (List Nat)) (len : Nat) (g : List Nat) (hg : len ≤ g.length)
    (hlen : len < 2 ^ 63) (hbase : base + len < U64) : CtlEnv base (kernelFill msgs len g).1 (kernelFill msgs len g).2 := by
  obtain ⟨f1, _, _, f4⟩ := kfill_facts msgs len g hg
  exact ⟨by rw [kernelFill, f4]; omega, by rw [kernelFill]; omega, by rw [kernelFill]; omega⟩

/-- **iter_exact** and **iter_in_bounds**, for ANY list of SCM_RIGHTS messages (any descriptor counts), ANY supplied
control length `len` (smaller than, equal to, larger than needed) and ANY previous buffer content / following
memory `g`: the iterator over what the kernel left returns exactly the descriptors that fit, hits neither a fault nor
an arithmetic panic, and every byte it reads lies inside `[0, msg_controllen)` (`fixed`: the code since / before 8263fff —
on kernel-filled buffers the repair changes nothing). -/
theorem iter_exact (fixed : Bool) (base : Nat) (msgs : List (List Nat)) (len : Nat) (g : List Nat) (hg : len ≤ g.length)
    (hlen : len < 2 ^ 63) (hbase : base + len < U64) (hfd : FdsOk msgs) :
    (iterate fixed base (kernelFill msgs len g).1 (kernelFill msgs len g).2).msgs = delivered msgs len ∧
    (iterate fixed base (kernelFill msgs len g).1 (kernelFill msgs len g).2).bad = none := by
  obtain ⟨hd, hr⟩ := kernelFill_wellformed msgs len g hg hlen hfd
  have := iter_wellformed fixed (kernelFill_env base msgs len g hg hlen hbase) hd
  exact ⟨this.1.trans hr, this.2.1⟩

theorem iter_in_bounds (fixed : Bool) (base : Nat) (msgs : List (List Nat)) (len : Nat) (g : List Nat) (hg : len ≤ g.length)
    (hlen : len < 2 ^ 63) (hbase : base + len < U64) (hfd : FdsOk msgs) :
    ∀ x ∈ (iterate fixed base (kernelFill msgs len g).1 (kernelFill msgs len g).2).reads,
      x.1 + x.2 ≤ (kernelFill msgs len g).2 :=
  (iter_wellformed fixed (kernelFill_env base msgs len g hg hlen hbase)
    (kernelFill_wellformed msgs len g hg hlen hfd).1).2.2

/-- the kernel never reports more than it was given, so "inside msg_controllen" is "inside the supplied buffer" -/
theorem controllen_le_supplied (msgs : List (List Nat)) (len : Nat) (g : List Nat) (hg : len ≤ g.length) :
    (kernelFill msgs len g).2 ≤ len := (kfill_facts msgs len g hg).1

/-! ### the defect repaired in 8263fff: the iterator before the repair (`fixed := false`)

It had no `CMSG_OK` test.  What it did at the first malformed header depended on the header's tag and on `cmsg_len`. -/

theorem orig_at_malformed {base : Nat} {mem : List Nat} {ctl : Nat} (env : CtlEnv base mem ctl) {o : Nat} {h : Hdr}
    (hstop : (wfPrefix uNext mem ctl).2 = .malformed o h) :
    ∃ pre, iterate false base mem ctl =
        ⟨rightsOf mem (wfPrefix uNext mem ctl).1 ++ (lastStep false base ctl o (mem.drop o) h).msgs,
         pre ++ (lastStep false base ctl o (mem.drop o) h).reads, (lastStep false base ctl o (mem.drop o) h).bad⟩ ∧
      ∀ x ∈ pre, x.1 + x.2 ≤ o := by
  have := walk_post false env
  rw [hstop] at this
  exact this

/-- before the repair, a malformed header NOT tagged SOL_SOCKET/SCM_RIGHTS happened to end the iteration cleanly
(`cmsg_nxthdr!` returned null) — unless `cmsg_len ≥ 2^64 - 23` (`orig_foreign_len_overflow`) -/
theorem orig_stops_at_malformed_foreign {base : Nat} {mem : List Nat} {ctl : Nat} (env : CtlEnv base mem ctl)
    (o : Nat) (h : Hdr) (hstop : (wfPrefix uNext mem ctl).2 = .malformed o h) (hr : isRights h = false)
    (hsmall : h.len < 16 ∨ h.len + 24 ≤ U64) :
    (iterate false base mem ctl).msgs = rightsOf mem (wfPrefix uNext mem ctl).1 ∧ (iterate false base mem ctl).bad = none ∧
    (∀ x ∈ (iterate false base mem ctl).reads, x.1 + x.2 ≤ o + 16) ∧ o + 16 ≤ ctl := by
  obtain ⟨ho, _, hnok⟩ := walk_malformed env hstop
  obtain ⟨pre, hrr, hin⟩ := orig_at_malformed env hstop
  rw [hrr, lastStep_foreign base ctl o _ h hr hnok ho env.noWrap hsmall]
  refine ⟨List.append_nil _, rfl, fun x hx => ?_, ho⟩
  rcases List.mem_append.mp hx with hx | hx
  · have := hin x hx; omega
  · cases List.mem_singleton.mp hx; exact Nat.le_refl _

/-- before the repair: a foreign malformed header whose `cmsg_len ≥ 2^64 - 23` made `cmsg_nxthdr!`'s alignment
arithmetic overflow — a panic in a build with overflow checks -/
theorem orig_foreign_len_overflow {base : Nat} {mem : List Nat} {ctl : Nat} (env : CtlEnv base mem ctl)
    (o : Nat) (h : Hdr) (hstop : (wfPrefix uNext mem ctl).2 = .malformed o h) (hr : isRights h = false)
    (hbig : U64 ≤ h.len + 23) : (iterate false base mem ctl).bad = some .panic := by
  obtain ⟨pre, hrr, _⟩ := orig_at_malformed env hstop
  rw [hrr, lastStep_foreign_overflow base ctl o _ h hr hbig]

/-- before the repair: the first malformed header tagged SOL_SOCKET/SCM_RIGHTS with `cmsg_len < 16` —
`cmsg + cmsg_len - data` underflowed: panic (debug build; in a release build the length wrapped to ~2^62 descriptors) -/
theorem orig_malformed_rights_short {base : Nat} {mem : List Nat} {ctl : Nat} (env : CtlEnv base mem ctl)
    (o : Nat) (h : Hdr) (hstop : (wfPrefix uNext mem ctl).2 = .malformed o h) (hr : isRights h = true)
    (hshort : h.len < 16) : (iterate false base mem ctl).bad = some .panic := by
  obtain ⟨pre, hrr, _⟩ := orig_at_malformed env hstop
  rw [hrr, lastStep_rights_short base ctl o _ h hr hshort]

/-- before the repair: the first malformed header tagged SOL_SOCKET/SCM_RIGHTS with `cmsg_len` larger than what is
left of the buffer: a slice of `(cmsg_len - 16) / 4` descriptors starting at `o + 16` was handed out after the
descriptor lists of the well-formed prefix — as soon as `cmsg_len` exceeded the rest of the buffer by 4 it extended past
`msg_controllen`.  (`hb24`, true of every mapped address, and `hov` put `cmsg_len` at least 24 below 2^64: the alignment
arithmetic of `cmsg_nxthdr!` does not overflow, the case of `orig_foreign_len_overflow`.) -/
theorem orig_malformed_rights_long {base : Nat} {mem : List Nat} {ctl : Nat} (env : CtlEnv base mem ctl)
    (o : Nat) (h : Hdr) (hstop : (wfPrefix uNext mem ctl).2 = .malformed o h) (hr : isRights h = true)
    (hlong : 16 ≤ h.len) (hb24 : 24 ≤ base) (hov : base + o + h.len < U64) (hsz : h.len < 2 ^ 63)
    (hmap : o + h.len ≤ mem.length) :
    (iterate false base mem ctl).msgs =
      rightsOf mem (wfPrefix uNext mem ctl).1 ++ [groups4 ((h.len - 16) / 4) (mem.drop (o + 16))] ∧
    (iterate false base mem ctl).bad = none ∧ (o + 16, 4 * ((h.len - 16) / 4)) ∈ (iterate false base mem ctl).reads ∧
    (ctl - o + 4 ≤ h.len → ctl < o + 16 + 4 * ((h.len - 16) / 4)) := by
  obtain ⟨ho, _, hnok⟩ := walk_malformed env hstop
  obtain ⟨pre, hrr, _⟩ := orig_at_malformed env hstop
  rw [hrr, lastStep_rights_long base ctl o _ h hr hnok hlong ho env.noWrap hov (by omega)
    (by simp only [HDR, FD, ISIZE_MAX]; omega), if_neg (by simp only [List.length_drop, HDR, FD]; omega), List.drop_drop]
  exact ⟨rfl, rfl, List.mem_append_right _ (List.mem_cons_of_mem _ (List.mem_singleton.mpr rfl)),
    fun hx => by simp only [HDR] at ho; omega⟩

/-- same header, the bytes after the buffer not mapped (a guard page): the consumer of the slice faulted -/
theorem orig_malformed_rights_long_fault {base : Nat} {mem : List Nat} {ctl : Nat} (env : CtlEnv base mem ctl)
    (o : Nat) (h : Hdr) (hstop : (wfPrefix uNext mem ctl).2 = .malformed o h) (hr : isRights h = true)
    (hlong : 16 ≤ h.len) (hb24 : 24 ≤ base) (hov : base + o + h.len < U64) (hsz : h.len < 2 ^ 63)
    (hunmapped : mem.length < o + 16 + 4 * ((h.len - 16) / 4)) : (iterate false base mem ctl).bad = some .fault := by
  obtain ⟨ho, _, hnok⟩ := walk_malformed env hstop
  obtain ⟨pre, hrr, _⟩ := orig_at_malformed env hstop
  have hm := env.mapped
  rw [hrr, lastStep_rights_long base ctl o _ h hr hnok hlong ho env.noWrap hov (by omega)
    (by simp only [HDR, FD, ISIZE_MAX]; omega), if_pos (by simp only [List.length_drop, HDR, FD] at *; omega)]

/-- before the repair, whatever its `cmsg_len`, a malformed SOL_SOCKET/SCM_RIGHTS header was never simply where the
iteration stopped: the run crashed, or one more item — built from the malformed header — was yielded -/
theorem orig_malformed_rights_never_clean {base : Nat} {mem : List Nat} {ctl : Nat} (env : CtlEnv base mem ctl)
    (o : Nat) (h : Hdr) (hstop : (wfPrefix uNext mem ctl).2 = .malformed o h) (hr : isRights h = true) :
    (iterate false base mem ctl).bad ≠ none ∨
    (iterate false base mem ctl).msgs.length = (rightsOf mem (wfPrefix uNext mem ctl).1).length + 1 := by
  obtain ⟨pre, hrr, _⟩ := orig_at_malformed env hstop
  rw [hrr]
  rcases lastStep_rights_never_clean base ctl o (mem.drop o) h hr with hb | hm
  · exact .inl hb
  · exact .inr (by rw [List.length_append, hm])

/-- **witnesses of the repaired defect** — 16-byte buffers holding one header tagged SOL_SOCKET/SCM_RIGHTS: before the
repair `cmsg_len = 0` panicked; `cmsg_len = 24` handed out two descriptors read from the 8 bytes AFTER the buffer (5 and 6
here), or faulted when nothing was mapped there.  (Reproduced on the real code before 8263fff.) -/
theorem orig_hostile_witness_panic : (iterate false NOMINAL_BASE (encHdr 0 1 1) 16).bad = some .panic := by decide +kernel

theorem orig_hostile_witness_oob :
    iterate false NOMINAL_BASE (encHdr 24 1 1 ++ Cmsg.le 4 5 ++ Cmsg.le 4 6) 16 = ⟨[[5, 6]], [(0, 16), (16, 8)], none⟩ := by
  decide +kernel

theorem orig_hostile_witness_fault : (iterate false NOMINAL_BASE (encHdr 24 1 1) 16).bad = some .fault := by decide +kernel

/-- the full statement was false before the repair -/
theorem orig_full_statement_false :
    ¬ ∀ (mem : List Nat) (ctl : Nat), CtlEnv NOMINAL_BASE mem ctl →
        (iterate false NOMINAL_BASE mem ctl).bad = none ∧
        ∀ x ∈ (iterate false NOMINAL_BASE mem ctl).reads, x.1 + x.2 ≤ ctl := by
  intro hall
  have := (hall (encHdr 0 1 1) 16 ⟨by decide, by decide, by decide⟩).1
  rw [orig_hostile_witness_panic] at this
  cases this

/-- the repaired code on the same three memories: the header is read, nothing is yielded, nothing else is read -/
theorem fixed_hostile_witnesses :
    iterate true NOMINAL_BASE (encHdr 0 1 1) 16 = ⟨[], [(0, 16)], none⟩ ∧
    iterate true NOMINAL_BASE (encHdr 24 1 1 ++ Cmsg.le 4 5 ++ Cmsg.le 4 6) 16 = ⟨[], [(0, 16)], none⟩ ∧
    iterate true NOMINAL_BASE (encHdr 24 1 1) 16 = ⟨[], [(0, 16)], none⟩ ∧
    iterate true NOMINAL_BASE (encHdr 18446744073709551615 1 2 ++ List.replicate 16 0) 32 = ⟨[], [(0, 16)], none⟩ := by
  decide +kernel

/-- the trailing slot: the userland CMSG_NXTHDR the macros follow (musl: strictly more than a header must remain) never
visits a header that occupies exactly the last 16 bytes of the buffer, the kernel's `__cmsg_nxthdr` does.  Such a header,
if it is `CMSG_OK`, has `cmsg_len = 16` — no payload: the two walks carry exactly the same descriptors -/
theorem kernel_walk_same_descriptors {mem : List Nat} {ctl : Nat} (hmem : ctl ≤ mem.length) :
    (rightsOf mem (wfPrefix kNext mem ctl).1).flatten = (rightsOf mem (wfPrefix uNext mem ctl).1).flatten := by
  unfold wfPrefix
  by_cases h16 : ctl < HDR
  · rw [if_pos h16, if_pos h16]
  · rw [if_neg h16, if_neg h16]; exact walk_slot mem ctl hmem (ctl + 1) 0 (by omega) (by omega)

theorem trailing_slot_witness :
    (iterate true NOMINAL_BASE (encHdr 16 1 1 ++ encHdr 16 1 1) 32).msgs = [[]] ∧
    rightsOf (encHdr 16 1 1 ++ encHdr 16 1 1) (wfPrefix kNext (encHdr 16 1 1 ++ encHdr 16 1 1) 32).1 = [[], []] := by
  decide +kernel

/-- **send_iter_roundtrip**: the real iterator over the buffer `create_send` built yields exactly the descriptors -/
theorem send_iter_roundtrip (fixed : Bool) (base : Nat) (fds : List Nat) (hn : 16 + 4 * fds.length + 8 < 2 ^ 63)
    (hbase : base + 16 + 4 * fds.length + 8 < U64) (hf : ∀ f ∈ fds, f < 2 ^ 32) :
    (iterate fixed base (createSend fds).1 (createSend fds).2).msgs = [fds] ∧
    (iterate fixed base (createSend fds).1 (createSend fds).2).bad = none := by
  have hc := createSend_ctl fds
  have ha := align_lt (16 + 4 * fds.length)
  have hw := createSend_walk uNext fds (by omega) (by
    have ha := align_ge (16 + 4 * fds.length)
    simp only [uNext, createSend_ctl, HDR]; rw [if_pos (by omega)])
  have env : CtlEnv base (createSend fds).1 (createSend fds).2 :=
    ⟨by rw [send_layout_length]; exact Nat.le_refl _, by omega, by simp only [U64] at *; omega⟩
  have := iter_wellformed fixed env (by rw [hw])
  rw [hw] at this
  exact ⟨by rw [this.1]; exact createSend_rights fds (fun f h => by have := hf f h; omega), this.2.1⟩

/-- **cmsg_oob_witness** — the macros as they were before commit 1998249: with an exactly fitting 24-byte buffer
(one descriptor), the field and the local variable 256 bytes apart on the stack, and a stale header in the memory
that follows, the iterator reads bytes 24..44 — outside `msg_controllen = 24` — and reports a descriptor (99)
that was never sent.  (On the real code: SIGSEGV against a guard page, phantom `1:99` otherwise.) -/
def witnessMem : List Nat :=
  encHdr 20 1 1 ++ Cmsg.le 4 7 ++ [0, 0, 0, 0] ++ encHdr 20 1 1 ++ Cmsg.le 4 99 ++ List.replicate 36 0

theorem cmsg_oob_witness :
    (iterateOld 140737488347392 140737488347136 witnessMem 24).msgs = [[7], [99]] ∧
    (24, 16) ∈ (iterateOld 140737488347392 140737488347136 witnessMem 24).reads := by
  decide +kernel

/-- the repaired macros on the same memory: one message, nothing read past 24 -/
theorem cmsg_witness_fixed :
    (iterate true NOMINAL_BASE witnessMem 24).msgs = [[7]] ∧ (iterate true NOMINAL_BASE witnessMem 24).reads = [(0, 16), (16, 4)] ∧
    (iterate true NOMINAL_BASE witnessMem 24).bad = none := by
  decide +kernel

end Cm

section Examples
open TinyVerif.SockWrap TinyVerif.SockAddr TinyVerif.Cmsg

-- blocked, interrupted twice, ready, retried: one transfer of 5 bytes
example : run readCfg none [.err 11, .err 4, .err 4, .ok 1, .ok 5] =
    (.ok 5, [(.op, .err 11), (.ppoll none 1, .err 4), (.ppoll none 1, .err 4), (.ppoll none 1, .ok 1), (.op, .ok 5)]) := by decide +kernel
-- a timed read that times out after an interruption: both polls carry the full 3.5 s
example : run readCfg (some (3, 500000000)) [.err 11, .err 4, .ok 0] =
    (.timeout, [(.op, .err 11), (.ppoll (some (3, 500000000)) 1, .err 4), (.ppoll (some (3, 500000000)) 1, .ok 0)]) := by decide +kernel
-- the retried op's failure is returned as it is (also EAGAIN)
example : (run writeCfg none [.err 11, .ok 1, .err 11]).1 = .os 11 := by decide +kernel
example : (tryRun tcpConnectCfg [.err 115]).1 = .wouldBlock := by decide +kernel
-- a complete transfer of 5 bytes through a 2-byte socket with EAGAIN / poll / EINTR / short counts on both sides
example :
    let s := exec (Sys.init [1, 2, 3, 4, 5] 2 9)
      [.r 3 (.succeed 1), .w (.succeed 9), .w (.succeed 1), .w (.succeed 1), .r 3 (.fail 4), .r 3 (.succeed 1), .r 3 (.succeed 9),
       .w (.fail 4), .w (.succeed 5), .r 9 (.succeed 1), .r 1 (.succeed 1), .w (.succeed 9), .close, .r 9 (.succeed 9), .r 9 (.succeed 9)]
    s.w = .done .ok ∧ s.r = .done .eof ∧ s.rcvd = [1, 2, 3, 4, 5] := by decide +kernel
example : SevenBit [47, 116, 109, 112] := by intro c hc; simp at hc; omega
example : tryFromUnix [47, 120, 0] = .ok ([47, 120] ++ List.replicate 106 0) 5 := by decide +kernel
example : inetImage (inetNew [127, 0, 0, 1] 8080) = [2, 0, 31, 144, 127, 0, 0, 1, 0, 0, 0, 0, 0, 0, 0, 0] := by decide +kernel
-- three descriptors into a 27-byte buffer: two fit (16 + 8 = 24 ≤ 27 < 28)
example : (kernelFill [[5, 6, 7]] 27 (List.replicate 40 170)).2 = 24 ∧ delivered [[5, 6, 7]] 27 = [[5, 6]] := by decide +kernel
example : FdsOk [[5, 6, 7], [8]] := by intro fds h f hf; simp at h; rcases h with rfl | rfl <;> simp at hf <;> omega
example : (createSend [7, 8]).1 = encHdr 24 1 1 ++ Cmsg.le 4 7 ++ Cmsg.le 4 8 ∧ (createSend [7, 8]).2 = 24 := by decide +kernel

-- hostile / foreign control buffers.  SCM_CREDENTIALS (level 1, type 2, 12 bytes of payload, CMSG_SPACE 32) in front of two descriptors:
def credsThenRights : List Nat := encHdr 28 1 2 ++ List.replicate 12 77 ++ [0, 0, 0, 0] ++ encHdr 24 1 1 ++ Cmsg.le 4 5 ++ Cmsg.le 4 6
example : CtlEnv NOMINAL_BASE credsThenRights 56 := ⟨by decide, by decide, by decide⟩
example : wfPrefix uNext credsThenRights 56 = ([(0, ⟨28, 1, 2⟩), (32, ⟨24, 1, 1⟩)], .done) ∧
    (iterate true NOMINAL_BASE credsThenRights 56).msgs = [[5, 6]] ∧ (iterate false NOMINAL_BASE credsThenRights 56).msgs = [[5, 6]] := by decide +kernel
-- one descriptor, then a foreign header with cmsg_len = 5: the iterator stops at offset 24 having yielded [7]
def rightsThenShortForeign : List Nat := encHdr 20 1 1 ++ Cmsg.le 4 7 ++ [0, 0, 0, 0] ++ encHdr 5 1 2 ++ List.replicate 8 0
example : CtlEnv NOMINAL_BASE rightsThenShortForeign 48 := ⟨by decide, by decide, by decide⟩
example : (wfPrefix uNext rightsThenShortForeign 48).2 = .malformed 24 ⟨5, 1, 2⟩ ∧ isRights ⟨5, 1, 2⟩ = false ∧
    iterate true NOMINAL_BASE rightsThenShortForeign 48 = ⟨[[7]], [(0, 16), (16, 4), (24, 16)], none⟩ ∧
    iterate false NOMINAL_BASE rightsThenShortForeign 48 = ⟨[[7]], [(0, 16), (16, 4), (24, 16)], none⟩ := by decide +kernel
-- a foreign header whose cmsg_len is larger than the rest of the buffer (truncated last message): clean stop
example : (wfPrefix uNext (encHdr 4096 41 7 ++ List.replicate 16 0) 32).2 = .malformed 0 ⟨4096, 41, 7⟩ ∧
    iterate true NOMINAL_BASE (encHdr 4096 41 7 ++ List.replicate 16 0) 32 = ⟨[], [(0, 16)], none⟩ := by decide +kernel
-- cmsg_len = 2^64 - 1 in a foreign header: before the repair the alignment arithmetic overflowed
example : (wfPrefix uNext (encHdr 18446744073709551615 1 2 ++ List.replicate 16 0) 32).2 =
      .malformed 0 ⟨18446744073709551615, 1, 2⟩ ∧ isRights ⟨18446744073709551615, 1, 2⟩ = false ∧
    U64 ≤ 18446744073709551615 + 23 ∧
    (iterate false NOMINAL_BASE (encHdr 18446744073709551615 1 2 ++ List.replicate 16 0) 32).bad = some .panic := by decide +kernel
-- iter_full on a buffer whose walk ends at a malformed SCM_RIGHTS header (cmsg_len 4096) after a well-formed one
def rightsThenLongRights : List Nat := encHdr 20 1 1 ++ Cmsg.le 4 7 ++ [0, 0, 0, 0] ++ encHdr 4096 1 1 ++ Cmsg.le 4 8 ++ Cmsg.le 4 9
example : CtlEnv NOMINAL_BASE rightsThenLongRights 48 ∧ (wfPrefix uNext rightsThenLongRights 48).2 = .malformed 24 ⟨4096, 1, 1⟩ ∧
    iterate true NOMINAL_BASE rightsThenLongRights 48 = ⟨[[7]], [(0, 16), (16, 4), (24, 16)], none⟩ ∧
    (iterate false NOMINAL_BASE rightsThenLongRights 48).bad = some .fault :=
  ⟨⟨by decide, by decide, by decide⟩, by decide, by decide, by decide⟩
-- the hypotheses of the orig_malformed_rights theorems on the witnesses
example : CtlEnv NOMINAL_BASE (encHdr 0 1 1) 16 ∧ (wfPrefix uNext (encHdr 0 1 1) 16).2 = .malformed 0 ⟨0, 1, 1⟩ ∧
    isRights ⟨0, 1, 1⟩ = true := ⟨⟨by decide, by decide, by decide⟩, by decide, by decide⟩
example : CtlEnv NOMINAL_BASE (encHdr 24 1 1 ++ Cmsg.le 4 5 ++ Cmsg.le 4 6) 16 ∧
    (wfPrefix uNext (encHdr 24 1 1 ++ Cmsg.le 4 5 ++ Cmsg.le 4 6) 16).2 = .malformed 0 ⟨24, 1, 1⟩ ∧
    0 + 24 ≤ (encHdr 24 1 1 ++ Cmsg.le 4 5 ++ Cmsg.le 4 6).length ∧ 16 - 0 + 4 ≤ 24 :=
  ⟨⟨by decide, by decide, by decide⟩, by decide, by decide, by decide⟩
example : CtlEnv NOMINAL_BASE (encHdr 24 1 1) 16 ∧ (wfPrefix uNext (encHdr 24 1 1) 16).2 = .malformed 0 ⟨24, 1, 1⟩ ∧
    (encHdr 24 1 1).length < 0 + 16 + 4 * ((24 - 16) / 4) := ⟨⟨by decide, by decide, by decide⟩, by decide, by decide⟩
-- before the repair, a malformed rights header whose excess is below 4 bytes: an item was still built from it; now: nothing
example : iterate false NOMINAL_BASE (encHdr 23 1 1 ++ Cmsg.le 4 9 ++ [0, 0, 0, 0]) 20 = ⟨[[9]], [(0, 16), (16, 4)], none⟩ ∧
    (wfPrefix uNext (encHdr 23 1 1 ++ Cmsg.le 4 9 ++ [0, 0, 0, 0]) 20).2 = .malformed 0 ⟨23, 1, 1⟩ ∧
    iterate true NOMINAL_BASE (encHdr 23 1 1 ++ Cmsg.le 4 9 ++ [0, 0, 0, 0]) 20 = ⟨[], [(0, 16)], none⟩ := by decide +kernel
-- from_raw_parts' precondition check before the repair: 2^63 + 32
example : (iterate false NOMINAL_BASE (encHdr 9223372036854775840 1 1) 16).bad = some .abort ∧
    (iterate true NOMINAL_BASE (encHdr 9223372036854775840 1 1) 16).bad = none := by decide +kernel
-- the send side
example : wfPrefix kNext (createSend [7, 8, 9]).1 (createSend [7, 8, 9]).2 = ([(0, ⟨28, 1, 1⟩)], .done) ∧
    (createSend [7, 8, 9]).1 = [28, 0, 0, 0, 0, 0, 0, 0, 1, 0, 0, 0, 1, 0, 0, 0, 7, 0, 0, 0, 8, 0, 0, 0, 9, 0, 0, 0, 0, 0, 0, 0] ∧
    (iterate true NOMINAL_BASE (createSend [7, 8, 9]).1 (createSend [7, 8, 9]).2).msgs = [[7, 8, 9]] := by decide +kernel
example : NOMINAL_BASE + 16 + 4 * [7, 8, 9].length + 8 < U64 ∧ ∀ f ∈ [7, 8, 9], f < 2 ^ 32 := by decide +kernel

end Examples

end TinyVerif.C16
