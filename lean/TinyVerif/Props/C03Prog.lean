/-
C03 — progress: from a reachable state no operation raises one of the model's error outcomes.

The theorems of `Props/C03.lean` / `Props/C03Ind.lean` speak about steps that return `.ok`.  The model has explicit
`error` outcomes for a failed `debug_assert!` of the port (15 sites), an arithmetic underflow (20 sites), a read of a
header word that was never written, the dead direct-mmap branches, a chunk not found in the bin it should be in, a
fencepost loop that does not end — and `os-desync:*`: the list of OS answers handed to `step` does not match the
system calls the operation makes (an artefact of taking the OS answers as a list).  Here: from the invariant
`Inv3 = Inv2 ∧ RcOk ∧ FpOk` (`RcOk`: `release_checks > 0` once the heap is initialised; `FpOk`: `footprint` = sum of
the segment sizes — both needed: kernel-checked states with `Inv2` from which `free` stops with
`underflow:release_checks` resp. `underflow:footprint` are in `Proofs/DlProgStep.lean` / `DlProgSys.lean`; both
inductive) only the desync outcomes are possible.  Consequences for the real allocator (whose debug build executes
the same asserts and overflow checks): no `debug_assert!` of the port can fail and no subtraction can underflow, for
any history, any sizes / alignments and any OS behaviour within the contract — "the heap remains fully usable".

`ValidOp`: the id of a malloc / calloc is not in use, the id of a realloc / free names a live block (the harness's
own bookkeeping).
-/
import TinyVerif.Props.C03Ind
import TinyVerif.Proofs.DlProgAll
namespace TinyVerif.Dl

/-- **no model error from a good state**: a step either runs or stops because the OS-answer list does not fit -/
theorem step_never_fails {hs : Hist} {op : Op} {os : List OsDir} (hi : Inv3 hs) (hop : OpOk hs op os)
    (hv : ValidOp hs op) :
    (∃ hs' out, hs.step op os = .ok (hs', out) ∧ Inv3 hs') ∨ (∃ e, hs.step op os = .error e ∧ StepErr e) := by
  rcases step_ok_or_desync hi hop hv with ⟨hs', out, h⟩ | h
  · exact Or.inl ⟨hs', out, h, inv3_step hi hop h⟩
  · exact Or.inr h

/-- in particular none of the port's `debug_assert!`s and none of the underflow guards can fire -/
theorem no_assert_no_underflow {hs : Hist} {op : Op} {os : List OsDir} (hi : Inv3 hs) (hop : OpOk hs op os)
    (hv : ValidOp hs op) (e : String) (h : hs.step op os = .error e) :
    e = "os-desync:mmap" ∨ e = "os-desync:mremap" ∨ e = "os-desync:munmap" ∨ e = "os-desync:unused-answers" := by
  rcases step_progress hi.1 hi.2.1 hi.2.2 hop hv e h with (h1 | h1 | h1) | h1
  · exact Or.inl h1
  · exact Or.inr (Or.inl h1)
  · exact Or.inr (Or.inr (Or.inl h1))
  · exact Or.inr (Or.inr (Or.inr h1))

/-- **every history from the empty heap** whose operations satisfy `OpOk` and `ValidOp` in the state they are
applied to either runs to the end in the invariant or stops at a desync -/
theorem history_never_fails {ops : List (Op × List OsDir)} (hok : RunOk2 Hist.init ops) :
    (∃ hs' evs, Hist.init.run ops = .ok (hs', evs) ∧ Inv3 hs') ∨
    (∃ e, Hist.init.run ops = .error e ∧ StepErr e) := by
  rcases run_progress hok with ⟨hs', evs, h, hi⟩ | h
  · exact Or.inl ⟨hs', evs, h, hi⟩
  · exact Or.inr h

example : Inv3 Hist.init := inv3_init

end TinyVerif.Dl
