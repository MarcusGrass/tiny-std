/- Helper lemmas for C07: little-endian memory reads/writes, C strings, word blocks. -/
import TinyVerif.Model.Start
namespace TinyVerif.Start

@[simp] theorem R.bind_ok {α β : Type} (a : α) (f : α → R β) : (R.ok a).bind f = f a := rfl
@[simp] theorem R.bind_fault {α β : Type} (f : α → R β) : (R.fault : R α).bind f = .fault := rfl
@[simp] theorem R.bind_panic {α β : Type} (f : α → R β) : (R.panic : R α).bind f = .panic := rfl
@[simp] theorem R.bind_fuel {α β : Type} (f : α → R β) : (R.fuel : R α).bind f = .fuel := rfl

theorem pow8 : (256 : Nat) ^ 8 = W64 := by decide

/-! ## little-endian reads -/

theorem rdLE_of_bytes (m : Mem) : ∀ (n a v : Nat),
    (∀ k, k < n → m (a + k) = some (v / 256 ^ k % 256)) → rdLE m a n = .ok (v % 256 ^ n)
  | 0, a, v, _ => by simp [rdLE, Nat.mod_one]
  | n + 1, a, v, h => by
    have h0 : m a = some (v % 256) := by simpa using h 0 (by omega)
    have ih := rdLE_of_bytes m n (a + 1) (v / 256) (by
      intro k hk
      have := h (k + 1) (by omega)
      rw [Nat.pow_succ', ← Nat.div_div_eq_div_mul] at this
      rw [← this]; congr 1; omega)
    simp only [rdLE, rd8, h0, R.bind_ok, ih]
    rw [Nat.pow_succ', Nat.mod_mul]

theorem rdLE_congr (m1 m2 : Mem) : ∀ (n a : Nat), (∀ k, k < n → m1 (a + k) = m2 (a + k)) → rdLE m1 a n = rdLE m2 a n
  | 0, _, _ => rfl
  | n + 1, a, h => by
    have h0 : m1 a = m2 a := by simpa using h 0 (by omega)
    have ih := rdLE_congr m1 m2 n (a + 1) (by
      intro k hk
      have := h (k + 1) (by omega)
      rw [show a + 1 + k = a + (k + 1) by omega]; exact this)
    simp only [rdLE, rd8, h0, ih]

theorem st64_same (m : Mem) (a v k : Nat) (hk : k < 8) : st64 m a v (a + k) = some (v / 256 ^ k % 256) := by
  simp only [st64]
  rw [if_pos (by omega), Nat.add_sub_cancel_left]

theorem st64_other (m : Mem) (a v x : Nat) (h : x < a ∨ a + 8 ≤ x) : st64 m a v x = m x := by
  simp only [st64]
  rw [if_neg (by omega)]

theorem rd64_st64_same (m : Mem) (a v : Nat) (hv : v < W64) : rd64 (st64 m a v) a = .ok v := by
  have := rdLE_of_bytes (st64 m a v) 8 a v (fun k hk => st64_same m a v k hk)
  rw [pow8, Nat.mod_eq_of_lt hv] at this
  exact this

theorem rdLE_st64_other (m : Mem) (a v b n : Nat) (h : b + n ≤ a ∨ a + 8 ≤ b) :
    rdLE (st64 m a v) b n = rdLE m b n :=
  rdLE_congr _ _ n b (fun k hk => st64_other m a v (b + k) (by omega))

theorem rd64_st64_other (m : Mem) (a v b : Nat) (h : b + 8 ≤ a ∨ a + 8 ≤ b) :
    rd64 (st64 m a v) b = rd64 m b := rdLE_st64_other m a v b 8 h

theorem wr64_ok (m : Mem) (a v w : Nat) (h : rd64 m a = .ok w) : wr64 m a v = .ok (st64 m a v) := by
  simp [wr64, h]

/-! ## C strings -/

/-- the NUL-terminated string `s` sits at `p` -/
def CStrAt (m : Mem) (p : Nat) (s : Bytes) : Prop :=
  (∀ k (h : k < s.length), m (p + k) = some s[k]) ∧ m (p + s.length) = some 0

theorem cstrLoop_eq (m : Mem) (p : Nat) (s : Bytes) (hs : CStrAt m p s) (h0 : 0 ∉ s) :
    ∀ (f i : Nat), i ≤ s.length → s.length - i < f → cstrLoop m p f i = .ok (s.drop i)
  | 0, _, _, hf => by omega
  | f + 1, i, hi, hf => by
    by_cases hlt : i < s.length
    · have hb := hs.1 i hlt
      have hne : s[i] ≠ 0 := fun h => h0 (h ▸ List.getElem_mem hlt)
      have ih := cstrLoop_eq m p s hs h0 f (i + 1) (by omega) (by omega)
      simp only [cstrLoop, rd8, hb, R.bind_ok, if_neg hne, ih]
      rw [List.drop_eq_getElem_cons hlt]
    · have : i = s.length := by omega
      subst this
      simp [cstrLoop, rd8, hs.2]

theorem cstr_eq (m : Mem) (p : Nat) (s : Bytes) (fuel : Nat) (hs : CStrAt m p s) (h0 : 0 ∉ s) (hf : s.length < fuel) :
    cstr m p fuel = .ok s := by
  have := cstrLoop_eq m p s hs h0 fuel 0 (by omega) (by omega)
  simpa [cstr] using this

/-! ## word blocks -/

/-- the 64-bit words `ws` sit at `a`, `a+8`, … -/
def WordsAt (m : Mem) : Nat → List Nat → Prop
  | _, [] => True
  | a, w :: ws => rd64 m a = .ok w ∧ WordsAt m (a + 8) ws

theorem WordsAt_append (m : Mem) : ∀ (xs ys : List Nat) (a : Nat),
    WordsAt m a (xs ++ ys) ↔ WordsAt m a xs ∧ WordsAt m (a + 8 * xs.length) ys
  | [], ys, a => by simp [WordsAt]
  | x :: xs, ys, a => by
    have ih := WordsAt_append m xs ys (a + 8)
    simp only [List.cons_append, WordsAt, ih, List.length_cons]
    rw [show a + 8 + 8 * xs.length = a + 8 * (xs.length + 1) by omega]
    exact and_assoc.symm

/-- strings `ss` sit at the addresses `ps` -/
def StrsAt (m : Mem) : List Nat → List Bytes → Prop
  | [], [] => True
  | p :: ps, s :: ss => CStrAt m p s ∧ StrsAt m ps ss
  | _, _ => False

theorem StrsAt_length (m : Mem) : ∀ (ps : List Nat) (ss : List Bytes), StrsAt m ps ss → ps.length = ss.length
  | [], [], _ => rfl
  | _ :: ps, _ :: ss, h => by simp [StrsAt_length m ps ss h.2]
  | [], _ :: _, h => by simp [StrsAt] at h
  | _ :: _, [], h => by simp [StrsAt] at h


/-! ## `resolve`'s walks -/

theorem nullLoop_eq (m : Mem) (envp : Nat) : ∀ (ps : List Nat) (off f : Nat),
    WordsAt m (envp + 8 * off) (ps ++ [0]) → (∀ p ∈ ps, p ≠ 0) → ps.length < f →
    nullLoop m envp f off = .ok (off + ps.length)
  | _, _, 0, _, _, hf => by omega
  | [], off, f + 1, hw, _, _ => by
    simp only [List.nil_append, WordsAt] at hw
    simp [nullLoop, hw.1]
  | p :: ps, off, f + 1, hw, hne, hf => by
    simp only [List.cons_append, WordsAt] at hw
    have hp : p ≠ 0 := hne p (by simp)
    have ih := nullLoop_eq m envp ps (off + 1) f (by rw [show envp + 8 * (off + 1) = envp + 8 * off + 8 by omega]; exact hw.2)
      (fun q hq => hne q (by simp [hq])) (by simp at hf; omega)
    simp only [nullLoop, hw.1, R.bind_ok, if_neg hp, ih, List.length_cons]
    congr 1; omega

theorem auxSet_not_kept (c : AuxValues) (k v : Nat) (h : ¬ (k ≤ 51 ∧ k ∈ keptKeys)) : auxSet c k v = c := by
  unfold auxSet
  by_cases h51 : k ≤ 51
  · have hk : k ∉ keptKeys := fun hk => h ⟨h51, hk⟩
    simp only [keptKeys, List.mem_cons, List.not_mem_nil, or_false, not_or] at hk
    simp only [if_pos h51]
    obtain ⟨h1, h2, h3, h4, h5, h6, h7, h8, h9, h10⟩ := hk
    simp only [if_neg h1, if_neg h2, if_neg h3, if_neg h4, if_neg h5, if_neg h6, if_neg h7, if_neg h8, if_neg h9, if_neg h10]
  · simp only [if_neg h51]

/-- first key of an aux list, 0 (= AT_NULL) for the empty list -/
def headKey : List (Nat × Nat) → Nat
  | [] => 0
  | kv :: _ => kv.1

theorem headKey_word (m : Mem) (a : Nat) (aux : List (Nat × Nat)) (h : WordsAt m a (auxFlat aux ++ [0, 0])) :
    rd64 m a = .ok (headKey aux) := by
  cases aux with
  | nil => simp only [auxFlat, List.flatMap_nil, List.nil_append, WordsAt] at h; exact h.1
  | cons kv aux => simp only [auxFlat, List.flatMap_cons, List.cons_append, WordsAt] at h; exact h.1

/-- The walk over a (key, value) table ending with key 0 (aux vector, `.dynamic`); `L`: fuel, index, current key, collected. -/
theorem kvLoop_eq {σ : Type} {m : Mem} {tbl : Nat} {L : Nat → Nat → Nat → σ → R σ} {kept : Nat → Prop} [DecidablePred kept]
    {set : σ → Nat → Nat → σ}
    (hL : ∀ f i k c, L (f + 1) i k c = if k = 0 then .ok c else
      (if kept k then (rd64 m (tbl + 8 * (i + 1))).bind fun v => .ok (set c k v) else .ok c).bind fun c' =>
      (rd64 m (tbl + 8 * (i + 2))).bind fun k' => L f (i + 2) k' c')
    (hset : ∀ c k v, ¬ kept k → set c k v = c) :
    ∀ (kvs : List (Nat × Nat)) (i f : Nat) (c : σ),
    WordsAt m (tbl + 8 * i) (auxFlat kvs ++ [0, 0]) → (∀ kv ∈ kvs, kv.1 ≠ 0) → kvs.length < f →
    L f i (headKey kvs) c = .ok (kvs.foldl (fun c kv => set c kv.1 kv.2) c)
  | _, _, 0, _, _, _, hf => by omega
  | [], i, f + 1, c, _, _, _ => by rw [hL, headKey, if_pos rfl]; rfl
  | (k, v) :: kvs, i, f + 1, c, hw, hne, hf => by
    have hk : k ≠ 0 := hne (k, v) List.mem_cons_self
    simp only [auxFlat, List.flatMap_cons, List.cons_append, List.nil_append, WordsAt] at hw
    have hrest : WordsAt m (tbl + 8 * (i + 2)) (auxFlat kvs ++ [0, 0]) := by
      rw [show tbl + 8 * (i + 2) = tbl + 8 * i + 8 + 8 by omega]; exact hw.2.2
    have hstep : (if kept k then (rd64 m (tbl + 8 * (i + 1))).bind fun v => R.ok (set c k v) else R.ok c) = R.ok (set c k v) := by
      split
      · rw [show tbl + 8 * (i + 1) = tbl + 8 * i + 8 by omega, hw.2.1]; rfl
      · next h => rw [hset c k v h]
    rw [show headKey ((k, v) :: kvs) = k from rfl, hL, if_neg hk, hstep, R.bind_ok, headKey_word m _ kvs hrest, R.bind_ok]
    exact kvLoop_eq hL hset kvs (i + 2) f _ hrest (fun kv h => hne kv (List.mem_cons_of_mem _ h))
      (Nat.lt_of_succ_lt_succ hf)

theorem auxLoop_eq (m : Mem) (auxv : Nat) (aux : List (Nat × Nat)) (i f : Nat) (c : AuxValues)
    (hw : WordsAt m (auxv + 8 * i) (auxFlat aux ++ [0, 0])) (hne : ∀ kv ∈ aux, kv.1 ≠ 0) (hf : aux.length < f) :
    auxLoop m auxv f i (headKey aux) c = .ok (aux.foldl (fun c kv => auxSet c kv.1 kv.2) c) :=
  kvLoop_eq (L := auxLoop m auxv) (kept := fun k => k ≤ 51 ∧ k ∈ keptKeys) (fun _ _ _ _ => rfl) auxSet_not_kept
    aux i f c hw hne hf

theorem get_auxSet (c : AuxValues) (k v key : Nat) (hkey : key ∈ keptKeys) :
    (auxSet c k v).get key = if k = key then v else c.get key := by
  by_cases hk : k ∈ keptKeys
  · -- both keys range over the ten literals of `keptKeys`; each entry of the 10 × 10 table holds by computation
    simp only [keptKeys, List.mem_cons, List.not_mem_nil, or_false] at hk hkey
    rcases hk with rfl | rfl | rfl | rfl | rfl | rfl | rfl | rfl | rfl | rfl <;>
      rcases hkey with rfl | rfl | rfl | rfl | rfl | rfl | rfl | rfl | rfl | rfl <;> rfl
  · rw [auxSet_not_kept c k v (fun h => hk h.2), if_neg (by rintro rfl; exact hk hkey)]

theorem get_fold (key : Nat) (hkey : key ∈ keptKeys) : ∀ (aux : List (Nat × Nat)) (c : AuxValues),
    (aux.foldl (fun c kv => auxSet c kv.1 kv.2) c).get key =
      aux.foldl (fun acc kv => if kv.1 = key then kv.2 else acc) (c.get key)
  | [], _ => rfl
  | kv :: aux, c => by
    simp only [List.foldl_cons]
    rw [get_fold key hkey aux, get_auxSet c kv.1 kv.2 key hkey]


theorem collectOs_eq (m : Mem) (e : Env) (fuel n : Nat) :
    ∀ (ps : List Nat) (ss : List Bytes) (i k : Nat),
    WordsAt m (e.argv + 8 * i) ps → StrsAt m ps ss → (∀ p ∈ ps, p ≠ 0) → (∀ s ∈ ss, 0 ∉ s ∧ s.length < fuel) →
    n = i + ps.length → 0 < e.argv → ps.length < k →
    collectOs m e fuel k ⟨i, n⟩ = .ok ss
  | _, _, _, 0, _, _, _, _, _, _, hk => by omega
  | [], [], i, k + 1, _, _, _, _, hn, _, _ => by
    simp at hn
    simp [collectOs, ArgsOs.next, hn]
  | [], _ :: _, _, _ + 1, _, hs, _, _, _, _, _ => by simp [StrsAt] at hs
  | _ :: _, [], _, _ + 1, _, hs, _, _, _, _, _ => by simp [StrsAt] at hs
  | p :: ps, s :: ss, i, k + 1, hw, hs, hne, hss, hn, ha, hk => by
    simp only [WordsAt] at hw
    simp only [StrsAt] at hs
    have hp : p ≠ 0 := hne p (by simp)
    have hs0 := hss s (by simp)
    have ih := collectOs_eq m e fuel n ps ss (i + 1) k
      (by rw [show e.argv + 8 * (i + 1) = e.argv + 8 * i + 8 by omega]; exact hw.2) hs.2
      (fun q hq => hne q (by simp [hq])) (fun t ht => hss t (by simp [ht])) (by simp at hn; omega) ha (by simp at hk; omega)
    have hlt : i < n := by simp at hn; omega
    have hnz : e.argv + 8 * i ≠ 0 := by omega
    simp only [collectOs, ArgsOs.next, if_pos hlt, if_neg hnz, hw.1, R.bind_ok, if_neg hp,
      cstr_eq m p s fuel hs.1 hs0.1 hs0.2, ih]

theorem envWalk_eq (m : Mem) (fuel : Nat) : ∀ (ps : List Nat) (ss : List Bytes) (envPtr k : Nat),
    WordsAt m envPtr (ps ++ [0]) → StrsAt m ps ss → (∀ p ∈ ps, p ≠ 0) → (∀ s ∈ ss, 0 ∉ s ∧ s.length < fuel) →
    0 < envPtr → ps.length < k →
    envWalk m fuel k envPtr = .ok ss
  | _, _, _, 0, _, _, _, _, _, hk => by omega
  | [], [], envPtr, k + 1, hw, _, _, _, ha, _ => by
    simp only [List.nil_append, WordsAt] at hw
    have : envPtr ≠ 0 := by omega
    simp [envWalk, this, hw.1]
  | [], _ :: _, _, _ + 1, _, hs, _, _, _, _ => by simp [StrsAt] at hs
  | _ :: _, [], _, _ + 1, _, hs, _, _, _, _ => by simp [StrsAt] at hs
  | p :: ps, s :: ss, envPtr, k + 1, hw, hs, hne, hss, ha, hk => by
    simp only [List.cons_append, WordsAt] at hw
    simp only [StrsAt] at hs
    have hp : p ≠ 0 := hne p (by simp)
    have hs0 := hss s (by simp)
    have ih := envWalk_eq m fuel ps ss (envPtr + 8) k hw.2 hs.2
      (fun q hq => hne q (by simp [hq])) (fun t ht => hss t (by simp [ht])) (by omega) (by simp at hk; omega)
    have hnz : envPtr ≠ 0 := by omega
    simp only [envWalk, if_neg hnz, hw.1, R.bind_ok, if_neg hp, cstr_eq m p s fuel hs.1 hs0.1 hs0.2, ih]

theorem collectArgs_eq (m : Mem) (e : Env) (fuel : Nat) : ∀ (k : Nat) (it : ArgsOs),
    collectArgs m e fuel k it = (collectOs m e fuel k it).bind fun l => .ok (l.map asStr)
  | 0, _ => rfl
  | k + 1, it => by
    simp only [collectArgs, collectOs, Args.next]
    cases h : it.next m e fuel with
    | ok r =>
      obtain ⟨o, it'⟩ := r
      cases o with
      | none => simp
      | some s =>
        simp only [R.bind_ok, Option.map_some]
        rw [collectArgs_eq m e fuel k it']
        cases collectOs m e fuel k it' <;> simp
    | fault => simp
    | panic => simp
    | fuel => simp


/-- memory `m` holds an ABI-conformant initial process stack at `sp` for (argv, env, aux), the strings being
    at the addresses `aptrs` / `eptrs` (anywhere: the kernel's padding, AT_RANDOM bytes, platform string … are
    not constrained) -/
structure StackAt (m : Mem) (sp : Nat) (argv env : List Bytes) (aux : List (Nat × Nat))
    (aptrs eptrs : List Nat) : Prop where
  words : WordsAt m sp (stackWords argv.length aptrs eptrs aux)
  astrs : StrsAt m aptrs argv
  estrs : StrsAt m eptrs env
  aptrs_ne : ∀ p ∈ aptrs, p ≠ 0
  eptrs_ne : ∀ p ∈ eptrs, p ≠ 0
  aux_keys : ∀ kv ∈ aux, kv.1 ≠ 0
  argv_nul_free : ∀ s ∈ argv, 0 ∉ s
  env_nul_free : ∀ s ∈ env, 0 ∉ s
  argc_small : 8 * argv.length + 16 < W64

/-- what `from_auxv` collects: later entries overwrite earlier ones -/
def auxOf (aux : List (Nat × Nat)) : AuxValues := aux.foldl (fun c kv => auxSet c kv.1 kv.2) AuxValues.zeroed

/-- the pointers `resolve` must return -/
def envOf (sp argc : Nat) : Env := ⟨argc, sp + 8, sp + (8 + argc * 8 + 8)⟩

theorem stack_parts {m : Mem} {sp : Nat} {argv env : List Bytes} {aux : List (Nat × Nat)} {aptrs eptrs : List Nat}
    (h : StackAt m sp argv env aux aptrs eptrs) :
    rd64 m sp = .ok argv.length ∧ WordsAt m (sp + 8) aptrs ∧
    WordsAt m (sp + (8 + argv.length * 8 + 8)) (eptrs ++ [0]) ∧
    WordsAt m (sp + (8 + argv.length * 8 + 8) + 8 * eptrs.length + 8) (auxFlat aux ++ [0, 0]) := by
  have hw := h.words
  have hl := StrsAt_length m aptrs argv h.astrs
  simp only [stackWords, List.append_assoc, List.cons_append, List.nil_append, WordsAt, WordsAt_append] at hw
  obtain ⟨h1, h2, h3, h4, h5, h6⟩ := hw
  rw [hl] at h3 h4 h5 h6
  refine ⟨h1, h2, ?_, ?_⟩
  · rw [WordsAt_append]
    refine ⟨?_, ?_, trivial⟩
    · rw [show sp + (8 + argv.length * 8 + 8) = sp + 8 + 8 * argv.length + 8 by omega]; exact h4
    · rw [show sp + (8 + argv.length * 8 + 8) + 8 * eptrs.length = sp + 8 + 8 * argv.length + 8 + 8 * eptrs.length by omega]; exact h5
  · rw [show sp + (8 + argv.length * 8 + 8) + 8 * eptrs.length + 8 = sp + 8 + 8 * argv.length + 8 + 8 * eptrs.length + 8 by omega]
    rw [WordsAt_append]
    exact ⟨h6.1, h6.2.1, h6.2.2.1, trivial⟩

theorem resolve_eq {m : Mem} {sp : Nat} {argv env : List Bytes} {aux : List (Nat × Nat)} {aptrs eptrs : List Nat}
    (h : StackAt m sp argv env aux aptrs eptrs) (dynv fuel : Nat) (hf : env.length < fuel ∧ aux.length < fuel) :
    resolve m sp dynv fuel =
      (relocateSymbols m dynv (auxOf aux) fuel).bind fun m' => .ok (envOf sp argv.length, auxOf aux, m') := by
  obtain ⟨h1, _, h3, h4⟩ := stack_parts h
  have hle := StrsAt_length m eptrs env h.estrs
  have hs := h.argc_small
  have hnull := nullLoop_eq m (sp + (8 + argv.length * 8 + 8)) eptrs 0 fuel (by simpa using h3) h.eptrs_ne (by omega)
  have haux := auxLoop_eq m (sp + (8 + argv.length * 8 + 8) + 8 * eptrs.length + 8) aux 0 fuel AuxValues.zeroed
    (by simpa using h4) h.aux_keys hf.2
  unfold resolve
  simp only [h1, R.bind_ok, chk]
  rw [if_pos (by omega), R.bind_ok, if_pos (by omega), R.bind_ok, if_pos (by omega), R.bind_ok, hnull, R.bind_ok]
  simp only [Nat.zero_add]
  unfold fromAuxv
  rw [headKey_word m _ aux h4, R.bind_ok, haux, R.bind_ok]
  rfl


/-! ## relocation tables -/

structure RelaEnt where
  off : Nat
  info : Nat
  addend : Nat
  deriving Repr, DecidableEq

/-- the `Elf64_Rela` records `es` sit at `a`, `a+24`, … -/
def RelaAt (m : Mem) : Nat → List RelaEnt → Prop
  | _, [] => True
  | a, e :: es => rd64 m a = .ok e.off ∧ rd64 m (a + 8) = .ok e.info ∧ rd64 m (a + 16) = .ok e.addend ∧
      RelaAt m (a + 24) es

theorem RelaAt_frame (m m' : Mem) : ∀ (es : List RelaEnt) (a : Nat),
    (∀ x, a ≤ x → x < a + 24 * es.length → m' x = m x) → RelaAt m a es → RelaAt m' a es
  | [], _, _, _ => trivial
  | e :: es, a, hfr, h => by
    simp only [RelaAt] at h ⊢
    simp only [List.length_cons] at hfr
    have r : ∀ b, a ≤ b → b + 8 ≤ a + 24 → rd64 m' b = rd64 m b := fun b h1 h2 =>
      rdLE_congr m' m 8 b (fun k hk => hfr (b + k) (by omega) (by omega))
    refine ⟨by rw [r a (by omega) (by omega)]; exact h.1, by rw [r (a + 8) (by omega) (by omega)]; exact h.2.1,
      by rw [r (a + 16) (by omega) (by omega)]; exact h.2.2.1, ?_⟩
    exact RelaAt_frame m m' es (a + 24) (fun x h1 h2 => hfr x (by omega) (by omega)) h.2.2.2

/-- two 8-byte words do not overlap -/
def Apart (a b : Nat) : Prop := a + 8 ≤ b ∨ b + 8 ≤ a

/-- `[lo, hi)`: the window of the table still to be read; no RELATIVE target lies in it, so the stores do not change
what the loop reads next. -/
theorem relaLoop_exact (base tbl lo hi : Nat) : ∀ (es : List RelaEnt) (i : Nat) (m : Mem),
    RelaAt m (tbl + 24 * i) es → lo ≤ tbl + 24 * i → tbl + 24 * (i + es.length) ≤ hi →
    (∀ e ∈ es, e.info = R_RELATIVE → base + e.off < W64 ∧ base + e.addend < W64) →
    (∀ e ∈ es, e.info = R_RELATIVE → ∃ w, rd64 m (base + e.off) = .ok w) →
    (∀ e ∈ es, e.info = R_RELATIVE → base + e.off + 8 ≤ lo ∨ hi ≤ base + e.off) →
    es.Pairwise (fun e1 e2 => e1.info = R_RELATIVE → e2.info = R_RELATIVE → Apart (base + e1.off) (base + e2.off)) →
    ∃ m', relaLoop base tbl es.length i m = .ok m' ∧
      (∀ e ∈ es, e.info = R_RELATIVE → rd64 m' (base + e.off) = .ok (base + e.addend)) ∧
      (∀ x, (∀ e ∈ es, e.info = R_RELATIVE → x < base + e.off ∨ base + e.off + 8 ≤ x) → m' x = m x)
  | [], i, m, _, _, _, _, _, _, _ => ⟨m, rfl, by simp, fun _ _ => rfl⟩
  | e :: es, i, m, hat, hlo, hhi, hrange, hmap, hoff, hdist => by
    simp only [RelaAt] at hat
    obtain ⟨hoffw, hinfo, haddw, hrest⟩ := hat
    simp only [List.length_cons] at hhi
    rw [List.pairwise_cons] at hdist
    have hrest' : RelaAt m (tbl + 24 * (i + 1)) es := by
      rw [show tbl + 24 * (i + 1) = tbl + 24 * i + 24 by omega]; exact hrest
    by_cases hrel : e.info = R_RELATIVE
    · obtain ⟨hr1, hr2⟩ := hrange e (by simp) hrel
      obtain ⟨w, hw⟩ := hmap e (by simp) hrel
      have hofft := hoff e (by simp) hrel
      let m1 := st64 m (base + e.off) (base + e.addend)
      have hat1 : RelaAt m1 (tbl + 24 * (i + 1)) es :=
        RelaAt_frame m m1 es _ (fun x h1 h2 => st64_other m _ _ x (by omega)) hrest'
      have hmap1 : ∀ e' ∈ es, e'.info = R_RELATIVE → ∃ w, rd64 m1 (base + e'.off) = .ok w := by
        intro e' he' hr'
        obtain ⟨w', hw'⟩ := hmap e' (by simp [he']) hr'
        refine ⟨w', ?_⟩
        have hap := hdist.1 e' he' hrel hr'
        show rd64 (st64 m _ _) _ = _
        rw [rd64_st64_other m _ _ _ (by unfold Apart at hap; omega)]; exact hw'
      obtain ⟨m', hrun, hP1, hP2⟩ := relaLoop_exact base tbl lo hi es (i + 1) m1 hat1 (by omega) (by omega)
        (fun e' he' => hrange e' (by simp [he'])) hmap1 (fun e' he' => hoff e' (by simp [he'])) hdist.2
      refine ⟨m', ?_, ?_, ?_⟩
      · simp only [List.length_cons, relaLoop, SZ_RELA, hinfo, R.bind_ok, if_pos hrel, hoffw, chk, if_pos hr1,
          wr64_ok m _ _ w hw]
        rw [haddw, R.bind_ok, if_pos hr2, R.bind_ok]
        exact hrun
      · intro e' he' hr'
        rcases List.mem_cons.1 he' with rfl | he'
        · have : rd64 m' (base + e'.off) = rd64 m1 (base + e'.off) :=
            rdLE_congr m' m1 8 _ (fun k hk => hP2 _ (fun e2 he2 hr2' => by
              have hap := hdist.1 e2 he2 hrel hr2'
              unfold Apart at hap; omega))
          rw [this]
          exact rd64_st64_same m _ _ hr2
        · exact hP1 e' he' hr'
      · intro x hx
        rw [hP2 x (fun e' he' hr' => hx e' (by simp [he']) hr')]
        exact st64_other m _ _ x (by have := hx e (by simp) hrel; omega)
    · obtain ⟨m', hrun, hP1, hP2⟩ := relaLoop_exact base tbl lo hi es (i + 1) m hrest' (by omega) (by omega)
        (fun e' he' => hrange e' (by simp [he'])) (fun e' he' => hmap e' (by simp [he']))
        (fun e' he' => hoff e' (by simp [he'])) hdist.2
      refine ⟨m', ?_, ?_, ?_⟩
      · simp only [List.length_cons, relaLoop, SZ_RELA, hinfo, R.bind_ok, if_neg hrel]
        exact hrun
      · intro e' he' hr'
        rcases List.mem_cons.1 he' with rfl | he'
        · exact absurd hr' hrel
        · exact hP1 e' he' hr'
      · intro x hx
        exact hP2 x (fun e' he' hr' => hx e' (by simp [he']) hr')


structure RelEnt where
  off : Nat
  info : Nat
  deriving Repr, DecidableEq

/-- the `Elf64_Rel` records `es` sit at `a`, `a+16`, … -/
def RelAt (m : Mem) : Nat → List RelEnt → Prop
  | _, [] => True
  | a, e :: es => rd64 m a = .ok e.off ∧ rd64 m (a + 8) = .ok e.info ∧ RelAt m (a + 16) es

theorem RelAt_frame (m m' : Mem) : ∀ (es : List RelEnt) (a : Nat),
    (∀ x, a ≤ x → x < a + 16 * es.length → m' x = m x) → RelAt m a es → RelAt m' a es
  | [], _, _, _ => trivial
  | e :: es, a, hfr, h => by
    simp only [RelAt] at h ⊢
    simp only [List.length_cons] at hfr
    have r : ∀ b, a ≤ b → b + 8 ≤ a + 16 → rd64 m' b = rd64 m b := fun b h1 h2 =>
      rdLE_congr m' m 8 b (fun k hk => hfr (b + k) (by omega) (by omega))
    refine ⟨by rw [r a (by omega) (by omega)]; exact h.1, by rw [r (a + 8) (by omega) (by omega)]; exact h.2.1, ?_⟩
    exact RelAt_frame m m' es (a + 16) (fun x h1 h2 => hfr x (by omega) (by omega)) h.2.2

/-- `lo`, `hi` as in `relaLoop_exact` -/
theorem relLoop_exact (base tbl lo hi : Nat) : ∀ (es : List RelEnt) (i : Nat) (m : Mem),
    RelAt m (tbl + 16 * i) es → lo ≤ tbl + 16 * i → tbl + 16 * (i + es.length) ≤ hi →
    (∀ e ∈ es, e.info = R_RELATIVE → base + e.off < W64 ∧ ∃ old, rd64 m (base + e.off) = .ok old ∧ old + base < W64) →
    (∀ e ∈ es, e.info = R_RELATIVE → base + e.off + 8 ≤ lo ∨ hi ≤ base + e.off) →
    es.Pairwise (fun e1 e2 => e1.info = R_RELATIVE → e2.info = R_RELATIVE → Apart (base + e1.off) (base + e2.off)) →
    ∃ m', relLoop base tbl es.length i m = .ok m' ∧
      (∀ e ∈ es, e.info = R_RELATIVE → ∀ old, rd64 m (base + e.off) = .ok old → rd64 m' (base + e.off) = .ok (old + base)) ∧
      (∀ x, (∀ e ∈ es, e.info = R_RELATIVE → x < base + e.off ∨ base + e.off + 8 ≤ x) → m' x = m x)
  | [], i, m, _, _, _, _, _, _ => ⟨m, rfl, by simp, fun _ _ => rfl⟩
  | e :: es, i, m, hat, hlo, hhi, hrange, hoff, hdist => by
    simp only [RelAt] at hat
    obtain ⟨hoffw, hinfo, hrest⟩ := hat
    simp only [List.length_cons] at hhi
    rw [List.pairwise_cons] at hdist
    have hrest' : RelAt m (tbl + 16 * (i + 1)) es := by
      rw [show tbl + 16 * (i + 1) = tbl + 16 * i + 16 by omega]; exact hrest
    by_cases hrel : e.info = R_RELATIVE
    · obtain ⟨hr1, old, hold, hr2⟩ := hrange e (by simp) hrel
      have hofft := hoff e (by simp) hrel
      let m1 := st64 m (base + e.off) (old + base)
      have hat1 : RelAt m1 (tbl + 16 * (i + 1)) es :=
        RelAt_frame m m1 es _ (fun x h1 h2 => st64_other m _ _ x (by omega)) hrest'
      have hsame : ∀ e' ∈ es, e'.info = R_RELATIVE → rd64 m1 (base + e'.off) = rd64 m (base + e'.off) := by
        intro e' he' hr'
        have hap := hdist.1 e' he' hrel hr'
        exact rd64_st64_other m _ _ _ (by unfold Apart at hap; omega)
      obtain ⟨m', hrun, hP1, hP2⟩ := relLoop_exact base tbl lo hi es (i + 1) m1 hat1 (by omega) (by omega)
        (fun e' he' hr' => by
          obtain ⟨a, o, b, c⟩ := hrange e' (by simp [he']) hr'
          exact ⟨a, o, by rw [hsame e' he' hr']; exact b, c⟩)
        (fun e' he' => hoff e' (by simp [he'])) hdist.2
      refine ⟨m', ?_, ?_, ?_⟩
      · simp only [List.length_cons, relLoop, SZ_REL, hinfo, R.bind_ok, if_pos hrel, hoffw, chk, if_pos hr1,
          hold, if_pos hr2, wr64_ok m _ _ old hold]
        exact hrun
      · intro e' he' hr' old' hold'
        rcases List.mem_cons.1 he' with rfl | he'
        · have : rd64 m' (base + e'.off) = rd64 m1 (base + e'.off) :=
            rdLE_congr m' m1 8 _ (fun k hk => hP2 _ (fun e2 he2 hr2' => by
              have hap := hdist.1 e2 he2 hrel hr2'
              unfold Apart at hap; omega))
          rw [this]
          have : old' = old := by rw [hold] at hold'; exact (R.ok.inj hold').symm
          subst this
          exact rd64_st64_same m _ _ hr2
        · exact hP1 e' he' hr' old' (by rw [hsame e' he' hr']; exact hold')
      · intro x hx
        rw [hP2 x (fun e' he' hr' => hx e' (by simp [he']) hr')]
        exact st64_other m _ _ x (by have := hx e (by simp) hrel; omega)
    · obtain ⟨m', hrun, hP1, hP2⟩ := relLoop_exact base tbl lo hi es (i + 1) m hrest' (by omega) (by omega)
        (fun e' he' => hrange e' (by simp [he']))
        (fun e' he' => hoff e' (by simp [he'])) hdist.2
      refine ⟨m', ?_, ?_, ?_⟩
      · simp only [List.length_cons, relLoop, SZ_REL, hinfo, R.bind_ok, if_neg hrel]
        exact hrun
      · intro e' he' hr'
        rcases List.mem_cons.1 he' with rfl | he'
        · exact absurd hr' hrel
        · exact hP1 e' he' hr'
      · intro x hx
        exact hP2 x (fun e' he' hr' => hx e' (by simp [he']) hr')


/-! ## `.dynamic` and program headers -/

theorem dynSet_not_kept (d : DynSection) (k v : Nat) (h : ¬ (k < 19 ∧ k ∈ [DT_RELA, DT_RELASZ, DT_REL, DT_RELSZ])) :
    dynSet d k v = d := by
  unfold dynSet
  by_cases h19 : k < 19
  · have hk : k ∉ [DT_RELA, DT_RELASZ, DT_REL, DT_RELSZ] := fun hk => h ⟨h19, hk⟩
    simp only [List.mem_cons, List.not_mem_nil, or_false, not_or] at hk
    obtain ⟨h1, h2, h3, h4⟩ := hk
    simp only [if_pos h19, if_neg h1, if_neg h2, if_neg h3, if_neg h4]
  · simp only [if_neg h19]

/-- what `init_from_dynv` collects -/
def dynOf (dyn : List (Nat × Nat)) : DynSection := dyn.foldl (fun d kv => dynSet d kv.1 kv.2) ⟨0, 0, 0, 0⟩

theorem dynLoop_eq (m : Mem) (dynv : Nat) (dyn : List (Nat × Nat)) (i f : Nat) (d : DynSection)
    (hw : WordsAt m (dynv + 8 * i) (auxFlat dyn ++ [0, 0])) (hne : ∀ kv ∈ dyn, kv.1 ≠ 0) (hf : dyn.length < f) :
    dynLoop m dynv f i (headKey dyn) d = .ok (dyn.foldl (fun d kv => dynSet d kv.1 kv.2) d) :=
  kvLoop_eq (L := dynLoop m dynv) (kept := fun k => k < 19 ∧ k ∈ [DT_RELA, DT_RELASZ, DT_REL, DT_RELSZ])
    (fun _ _ _ _ => rfl) dynSet_not_kept dyn i f d hw hne hf

theorem initFromDynv_eq (m : Mem) (dynv fuel : Nat) (dyn : List (Nat × Nat))
    (hw : WordsAt m dynv (auxFlat dyn ++ [0, 0])) (hne : ∀ kv ∈ dyn, kv.1 ≠ 0) (hf : dyn.length < fuel) :
    initFromDynv m dynv fuel = .ok (dynOf dyn) := by
  unfold initFromDynv
  rw [headKey_word m dynv dyn hw, R.bind_ok]
  exact dynLoop_eq m dynv dyn 0 fuel _ (by simpa using hw) hne hf

/-- program headers (p_type, p_vaddr) at `a`, `a + phent`, … -/
def PhdrsAt (m : Mem) (phent : Nat) : Nat → List (Nat × Nat) → Prop
  | _, [] => True
  | a, h :: hs => rd32 m a = .ok h.1 ∧ rd64 m (a + OFF_P_VADDR) = .ok h.2 ∧ PhdrsAt m phent (a + phent) hs

/-- `p_vaddr` of the first PT_DYNAMIC header in a list -/
def firstDyn : List (Nat × Nat) → Option Nat
  | [] => none
  | h :: hs => if h.1 = PT_DYNAMIC then some h.2 else firstDyn hs

theorem findBaseLoop_eq (m : Mem) (dynv phent : Nat) : ∀ (hs : List (Nat × Nat)) (pb : Nat),
    PhdrsAt m phent (pb + phent) hs → pb + phent * hs.length < W64 →
    (∀ va, firstDyn hs = some va → va ≤ dynv) →
    findBaseLoop m dynv phent hs.length pb = .ok ((firstDyn hs).map (dynv - ·))
  | [], _, _, _, _ => rfl
  | h :: hs, pb, hat, hlt, hva => by
    simp only [PhdrsAt] at hat
    simp only [List.length_cons] at hlt
    have hlt' : pb + phent < W64 := by
      have : phent ≤ phent * (hs.length + 1) := Nat.le_mul_of_pos_right _ (by omega)
      omega
    simp only [List.length_cons, findBaseLoop, chk, if_pos hlt', R.bind_ok, hat.1, firstDyn]
    by_cases hty : h.1 = PT_DYNAMIC
    · have := hva h.2 (by simp [firstDyn, hty])
      simp [hty, hat.2.1, this]
    · rw [if_neg hty, if_neg hty]
      exact findBaseLoop_eq m dynv phent hs (pb + phent) hat.2.2
        (by rw [Nat.mul_succ] at hlt; omega) (fun va h' => hva va (by simp [firstDyn, hty, h']))


/-- ELF well-formedness assumed of a static-PIE image loaded at `base`, for `DynSection::relocate` -/
structure RelocWF (m : Mem) (base : Nat) (d : DynSection) (rels : List RelEnt) (relas : List RelaEnt) : Prop where
  rel_count : rels.length = d.relSz / SZ_REL
  rela_count : relas.length = d.relaSz / SZ_RELA
  rel_addr : base + d.rel < W64
  rela_addr : base + d.rela < W64
  rel_at : RelAt m (base + d.rel) rels
  rela_at : RelaAt m (base + d.rela) relas
  /-- REL targets are mapped words whose relocated value fits in 64 bits -/
  rel_range : ∀ e ∈ rels, e.info = R_RELATIVE → base + e.off < W64 ∧ ∃ old, rd64 m (base + e.off) = .ok old ∧ old + base < W64
  rela_range : ∀ e ∈ relas, e.info = R_RELATIVE → base + e.off < W64 ∧ base + e.addend < W64
  rela_mapped : ∀ e ∈ relas, e.info = R_RELATIVE → ∃ w, rd64 m (base + e.off) = .ok w
  /-- no target lies inside a relocation table that is still to be read -/
  rel_off_rel : ∀ e ∈ rels, e.info = R_RELATIVE →
    base + e.off + 8 ≤ base + d.rel ∨ base + d.rel + 16 * rels.length ≤ base + e.off
  rel_off_rela : ∀ e ∈ rels, e.info = R_RELATIVE →
    base + e.off + 8 ≤ base + d.rela ∨ base + d.rela + 24 * relas.length ≤ base + e.off
  rela_off_rela : ∀ e ∈ relas, e.info = R_RELATIVE →
    base + e.off + 8 ≤ base + d.rela ∨ base + d.rela + 24 * relas.length ≤ base + e.off
  /-- targets pairwise distinct (non-overlapping words) -/
  rel_distinct : rels.Pairwise fun e1 e2 => e1.info = R_RELATIVE → e2.info = R_RELATIVE → Apart (base + e1.off) (base + e2.off)
  rela_distinct : relas.Pairwise fun e1 e2 => e1.info = R_RELATIVE → e2.info = R_RELATIVE → Apart (base + e1.off) (base + e2.off)
  cross_distinct : ∀ e1 ∈ rels, ∀ e2 ∈ relas, e1.info = R_RELATIVE → e2.info = R_RELATIVE → Apart (base + e1.off) (base + e2.off)

theorem rel_phase (base a n : Nat) (m : Mem) (ha : a < W64) :
    (if n = 0 then R.ok m else (chk a).bind fun tbl => relLoop base tbl n 0 m) = relLoop base a n 0 m := by
  by_cases h : n = 0
  · subst h; rfl
  · simp [h, chk, ha]

theorem rela_phase (base a n : Nat) (m : Mem) (ha : a < W64) :
    (if n = 0 then R.ok m else (chk a).bind fun tbl => relaLoop base tbl n 0 m) = relaLoop base a n 0 m := by
  by_cases h : n = 0
  · subst h; rfl
  · simp [h, chk, ha]

theorem le_length : ∀ (n w : Nat), (le n w).length = n
  | 0, _ => rfl
  | n + 1, w => by simp [le, le_length n]

theorem le_get : ∀ (n w k : Nat), k < n → (le n w)[k]? = some (w / 256 ^ k % 256)
  | 0, _, _, h => by omega
  | n + 1, w, 0, _ => by simp [le]
  | n + 1, w, k + 1, h => by
    simp only [le, List.getElem?_cons_succ]
    rw [le_get n (w / 256) k (by omega), Nat.pow_succ', Nat.div_div_eq_div_mul]

theorem memOf_at (base : Nat) (pre mid post : Bytes) (k : Nat) (hk : k < mid.length) :
    memOf base (pre ++ mid ++ post) (base + pre.length + k) = mid[k]? := by
  unfold memOf
  rw [if_neg (by omega), show base + pre.length + k - base = pre.length + k by omega, List.append_assoc,
    List.getElem?_append_right (by omega), show pre.length + k - pre.length = k by omega,
    List.getElem?_append_left hk]

theorem WordsAt_leWords (base : Nat) : ∀ (ws : List Nat) (pre post : Bytes), (∀ w ∈ ws, w < W64) →
    WordsAt (memOf base (pre ++ leWords ws ++ post)) (base + pre.length) ws
  | [], _, _, _ => trivial
  | w :: ws, pre, post, h => by
    have hw : w < W64 := h w (by simp)
    refine ⟨?_, ?_⟩
    · have := rdLE_of_bytes (memOf base (pre ++ leWords (w :: ws) ++ post)) 8 (base + pre.length) w (by
        intro k hk
        have e : leWords (w :: ws) = le 8 w ++ leWords ws := by simp [leWords]
        rw [e, show pre ++ (le 8 w ++ leWords ws) ++ post = pre ++ le 8 w ++ (leWords ws ++ post) by simp,
          memOf_at base pre (le 8 w) _ k (by rw [le_length]; exact hk)]
        exact le_get 8 w k hk)
      rw [pow8, Nat.mod_eq_of_lt hw] at this
      exact this
    · have ih := WordsAt_leWords base ws (pre ++ le 8 w) post (fun x hx => h x (by simp [hx]))
      have e : pre ++ leWords (w :: ws) ++ post = pre ++ le 8 w ++ leWords ws ++ post := by simp [leWords]
      rw [e]
      rw [List.length_append, le_length] at ih
      rw [show base + pre.length + 8 = base + (pre.length + 8) by omega]
      exact ih

theorem StrsAt_strBytes (base : Nat) : ∀ (ss : List Bytes) (pre post : Bytes),
    StrsAt (memOf base (pre ++ strBytes ss ++ post)) (ptrsFrom (base + pre.length) ss) ss
  | [], _, _ => trivial
  | s :: ss, pre, post => by
    have e : pre ++ strBytes (s :: ss) ++ post = pre ++ (s ++ [0]) ++ (strBytes ss ++ post) := by simp [strBytes]
    refine ⟨⟨?_, ?_⟩, ?_⟩
    · intro k hk
      rw [e, memOf_at base pre (s ++ [0]) _ k (by simp; omega), List.getElem?_append_left hk]
      exact List.getElem?_eq_getElem hk
    · rw [e, memOf_at base pre (s ++ [0]) _ s.length (by simp)]
      simp
    · have ih := StrsAt_strBytes base ss (pre ++ (s ++ [0])) post
      have e2 : pre ++ strBytes (s :: ss) ++ post = pre ++ (s ++ [0]) ++ strBytes ss ++ post := by simp [strBytes]
      rw [e2]
      simp only [List.length_append, List.length_cons, List.length_nil] at ih
      rw [show base + pre.length + s.length + 1 = base + (pre.length + (s.length + (0 + 1))) by omega]
      exact ih

theorem ptrsFrom_pos : ∀ (ss : List Bytes) (p : Nat), 0 < p → ∀ q ∈ ptrsFrom p ss, q ≠ 0
  | [], _, _, _, h => by simp [ptrsFrom] at h
  | s :: ss, p, hp, q, h => by
    simp only [ptrsFrom, List.mem_cons] at h
    rcases h with rfl | h
    · omega
    · exact ptrsFrom_pos ss (p + s.length + 1) (by omega) q h

theorem ptrsFrom_lt : ∀ (ss : List Bytes) (p : Nat), ∀ q ∈ ptrsFrom p ss, q < p + (strBytes ss).length
  | [], _, _, h => by simp [ptrsFrom] at h
  | s :: ss, p, q, h => by
    simp only [ptrsFrom, List.mem_cons] at h
    have e : (strBytes (s :: ss)).length = s.length + 1 + (strBytes ss).length := by simp [strBytes]; omega
    rcases h with rfl | h
    · omega
    · have := ptrsFrom_lt ss (p + s.length + 1) q h; omega

theorem ptrsFrom_length : ∀ (ss : List Bytes) (p : Nat), (ptrsFrom p ss).length = ss.length
  | [], _ => rfl
  | s :: ss, p => by simp [ptrsFrom, ptrsFrom_length ss]

theorem leWords_length (ws : List Nat) : (leWords ws).length = 8 * ws.length := by
  induction ws with
  | nil => rfl
  | cons w ws ih => simp only [leWords, List.flatMap_cons, List.length_append, le_length] at ih ⊢; rw [ih]; simp; omega

theorem auxFlat_length (aux : List (Nat × Nat)) : (auxFlat aux).length = 2 * aux.length := by
  induction aux with
  | nil => rfl
  | cons kv aux ih => simp only [auxFlat, List.flatMap_cons, List.length_append] at ih ⊢; rw [ih]; simp; omega

theorem length_le_strBytes : ∀ ss : List Bytes, ss.length ≤ (strBytes ss).length
  | [] => by simp
  | s :: ss => by
    have ih := length_le_strBytes ss
    have e : (strBytes (s :: ss)).length = s.length + 1 + (strBytes ss).length := by simp [strBytes]; omega
    rw [e]; simp; omega

end TinyVerif.Start
