import TinyVerif.Proofs.DlIndFree
/-!
# `free_heap` / `dispose_chunk` preserve the strengthened invariant (tag `fr_`)

`free_heap` and `dispose_chunk` are the same coalescing code.  Its two halves are described once, as
relations between the heaps involved and the primitive calls made (`fr_Back`: backward consolidation,
`fr_Fwd`: forward consolidation and binning), and ONE core theorem is proved about them:

  `fr_core : SInv s → User s p0 psize0 → fr_Back … → fr_Fwd … → WFS { s with h := H } ∧ FreeAtTab s.h.ents H.ents p0`

The two interface theorems `fr_free_heap_spec : free_heap_Spec` and `fr_dispose_chunk_spec : dispose_chunk_Spec`
unfold the respective function into `fr_Back` / `fr_Fwd` and finish with `gl_sinv_freeAtTab`.

Branches (backward × forward): the backward step yields the run `[x]` (predecessor in use), `[wv, x]` with
`wv` unlinked from its bin, `[wv, x]` with `wv = dv` (`fr_BackOk`), or ends the operation (`*-back-dv`);
the forward step appends the free successor (`top`, `dv`, a binned chunk) to the run and ends in one of the
three generic theorems of `Proofs/DlIndFree.lean` (`fr_insert_wfs`, `fr_dv_wfs`, `fr_top_wfs`).
-/
namespace TinyVerif.Dl

open List

/-! ## the two halves of the coalescing code, as relations -/

/-- backward consolidation of `free_heap` / `dispose_chunk`: `e` is the header of the chunk at `p0`, `en` the
header at `next`; result `(h1, P, S, stop)` -/
def fr_Back (h : Heap) (e en : Ent) (p0 psize0 next : Nat) (h1 : Heap) (P S : Nat) (stop : Bool) : Prop :=
  (e.pin = true ∧ h1 = h ∧ P = p0 ∧ S = psize0 ∧ stop = false) ∨
  (e.pin = false ∧ e.pfoot ≤ p0 ∧ P = p0 - e.pfoot ∧ S = psize0 + e.pfoot ∧
    ((P ≠ h.dv ∧ unlink_chunk h P e.pfoot = .ok h1 ∧ stop = false) ∨
     (P = h.dv ∧ (en.cin && en.pin) = true ∧ stop = true ∧
        ∃ h3 t, set_free_with_pinuse { h with dvsize := S } P S next = .ok h3 ∧ h1 = h3.tag t) ∨
     (P = h.dv ∧ (en.cin && en.pin) = false ∧ h1 = h ∧ stop = false)))

/-- forward consolidation and binning -/
def fr_Fwd (h1 : Heap) (P S next : Nat) (en : Ent) (H : Heap) : Prop :=
  (en.cin = true ∧ ∃ h3 t, set_free_with_pinuse h1 P S next = .ok h3 ∧ insert_chunk (h3.tag t) P S = .ok H) ∨
  (en.cin = false ∧ next = h1.top ∧
    ∃ h3 t, writeHead { h1 with topsize := h1.topsize + S, top := P } P (h1.topsize + S) false true = .ok h3 ∧
      H = (if P = h3.dv then { h3 with dv := 0, dvsize := 0 } else h3).tag t) ∨
  (en.cin = false ∧ next ≠ h1.top ∧ next = h1.dv ∧
    ∃ h3 t, set_size_and_pinuse_of_free_chunk { h1 with dvsize := h1.dvsize + S, dv := P } P (h1.dvsize + S) = .ok h3 ∧
      H = h3.tag t) ∨
  (en.cin = false ∧ next ≠ h1.top ∧ next ≠ h1.dv ∧
    ∃ h2 h3, unlink_chunk h1 next en.size = .ok h2 ∧
      set_size_and_pinuse_of_free_chunk h2 P (S + en.size) = .ok h3 ∧
      ((P = h3.dv ∧ ∃ t, H = ({ h3 with dvsize := S + en.size } : Heap).tag t) ∨
       (P ≠ h3.dv ∧ ∃ t, insert_chunk (h3.tag t) P (S + en.size) = .ok H)))

/-- what the backward step leaves when the operation goes on: the run `a :: as` (ending in the chunk at
`p0`), the header `n` after it, the heap `h1` in which the binned predecessor (if any) is unlinked -/
structure fr_BackOk (s : St) (pre post : List Ent) (a : Ent) (as : List Ent) (n : Ent) (g : Seg) (p0 : Nat)
    (h1 : Heap) (rem : List Nat) (S : Nat) : Prop where
  W : fr_Win s pre post a as n g p0
  u : fr_Unl s h1 rem
  hfree : ∀ e ∈ a :: as, isFree e = true → e.addr ∈ rem ∨ e.addr = s.h.dv
  hrem : ∀ v ∈ rem, ∃ e ∈ a :: as, isFree e = true ∧ e.addr = v
  hP : a.addr ∈ rem ∨ a.addr = s.h.dv ∨ a.cin = true
  nS : n.addr = a.addr + S
  npin : n.pin = true
  n8 : n.size ≠ 8
  dvc : (a.addr = s.h.dv ∧ rem = [] ∧ s.h.dv ≠ 0 ∧ n.cin = false ∧ ∃ e ∈ a :: as, e.addr = s.h.dv) ∨
    (a.addr ≠ s.h.dv ∧ ∀ e ∈ a :: as, e.addr ≠ s.h.dv)

/-- an in-use header is not `dv` -/
theorem fr_cin_ne_dv {s : St} (w : WFS s) {e : Ent} (he : e ∈ s.h.ents) (hc : e.cin = true) : e.addr ≠ s.h.dv := by
  intro heq
  by_cases h0 : s.h.dv = 0
  · exact Nat.ne_of_gt (w.addr_pos he) (heq.trans h0)
  · exact fr_cin_not_listed w he hc (mem_freeList.2 (Or.inr (Or.inl ⟨h0, heq⟩)))

theorem fr_dvsize_ne {s : St} (w : WFS s) (h0 : s.h.dv ≠ 0) : s.h.dvsize ≠ 0 := by
  have hd := w.dv
  unfold dvOk at hd
  rw [if_neg h0] at hd
  split at hd
  · simp only [Bool.and_eq_true, decide_eq_true_eq] at hd; omega
  · cases hd

theorem fr_next_found {s : St} (hi : SInv s) {pre post : List Ent} {x en : Ent} (hes : s.h.ents = pre ++ x :: post)
    (hxc : x.cin = true) (h8 : x.size ≠ 8) (hr : isRecord s.segs x = false) {g : Seg} (hg : g ∈ s.segs)
    (hgx : inSeg g x = true) (hen : findEnt s.h.ents (x.addr + x.size) = some en) :
    ∃ post', post = en :: post' ∧ en.addr = x.addr + x.size ∧ inSeg g en = true ∧ en.pin = true ∧ en.size ≠ 8 := by
  obtain ⟨n, post', hp, hna, hgn, hnp, hn8⟩ := fr_next hi hes hxc h8 hr hg hgx
  have := entsOk_find n (by rw [hes, hp]; simp) hi.wfs.ents
  rw [hna, hen] at this
  obtain rfl := Option.some.inj this
  exact ⟨post', hp, hna, hgn, hnp, hn8⟩

theorem fr_back_parts {s : St} (hi : SInv s) {x en : Ent} (hxm : x ∈ s.h.ents)
    (hxc : x.cin = true) (hx8 : x.size ≠ 8) (hr : isRecord s.segs x = false)
    (hen : findEnt s.h.ents (x.addr + x.size) = some en) (hxp : x.pin = false) :
    ∃ pre wv post g, s.h.ents = pre ++ wv :: x :: en :: post ∧ fr_Win s pre post wv [x] en g x.addr ∧
      isFree wv = true ∧ wv.addr = x.addr - x.pfoot ∧ en.addr = wv.addr + (x.size + x.pfoot) ∧
      en.addr = x.addr + x.size ∧ en.pin = true ∧ en.size ≠ 8 := by
  have w := hi.wfs
  obtain ⟨pre, wv, post, g, hes, hg, hgw, hgx, hwf, hwt, hxaw, hpf⟩ := fr_prev_free w hxm hxc hxp
  obtain ⟨post', hp, hna, hgn, hnp, hn8⟩ := fr_next_found hi (pre := pre ++ [wv]) (post := post) (by rw [hes]; simp) hxc hx8 hr hg hgx hen
  subst hp
  exact ⟨pre, wv, post', g, hes, fr_win1 w hes hg hgw hgx hgn hxaw hna hwf, hwf,
    by rw [hpf, hxaw, Nat.add_sub_cancel], by rw [hna, hxaw, hpf, Nat.add_assoc, Nat.add_comm wv.size], hna, hnp, hn8⟩

/-- **the backward step**, when the operation goes on (`stop = false`) -/
theorem fr_back_ok {s : St} (hi : SInv s) {p0 psize0 : Nat} {x en : Ent} (hx : findEnt s.h.ents p0 = some x)
    (hxc : x.cin = true) (hxs : x.size = psize0) (h8 : psize0 ≠ 8) (hr : isRecord s.segs x = false)
    (hen : findEnt s.h.ents (p0 + psize0) = some en) {h1 : Heap} {P S : Nat}
    (hb : fr_Back s.h x en p0 psize0 (p0 + psize0) h1 P S false) :
    ∃ pre post a as g rem, a.addr = P ∧ fr_BackOk s pre post a as en g p0 h1 rem S := by
  have w := hi.wfs
  obtain ⟨hxm, hxa⟩ := findEnt_some hx
  subst hxa
  subst hxs
  have hxdv := fr_cin_ne_dv w hxm hxc
  cases hxp : x.pin with
  | true =>
    rcases hb with ⟨_, hh1, hP, hS, _⟩ | ⟨hp, _⟩
    · subst hh1
      obtain ⟨g, hg, hgx⟩ := w.struct.seg_of hxm
      obtain ⟨pre, post, hes⟩ := List.append_of_mem hxm
      obtain ⟨post', hp, hna, hgn, hnp, hn8⟩ := fr_next_found hi hes hxc h8 hr hg hgx hen
      subst hp
      refine ⟨pre, post', x, [], g, [], hP.symm, ⟨fr_win0 hes hg hgx hgn hna hxp h8, fr_unl_refl w, ?_, ?_,
        Or.inr (Or.inr hxc), hS ▸ hna, hnp, hn8, Or.inr ⟨hxdv, ?_⟩⟩⟩
      · intro e he hf
        rw [List.mem_singleton.1 he] at hf
        rw [(isFree_iff.1 hf).1] at hxc; cases hxc
      · intro v hv; cases hv
      · intro e he
        rw [List.mem_singleton.1 he]; exact hxdv
    · rw [hxp] at hp; cases hp
  | false =>
    rcases hb with ⟨hp, _⟩ | ⟨_, hle, hP, hS, hcase⟩
    · rw [hxp] at hp; cases hp
    · obtain ⟨pre, wv, post', g, hes, hW, hwf, hwa, hnS, _, hnp, hn8⟩ := fr_back_parts hi hxm hxc h8 hr hen hxp
      have hwm : wv ∈ s.h.ents := by rw [hes]; simp
      have hPw : wv.addr = P := hwa.trans hP.symm
      rw [← hS] at hnS
      have hfr : ∀ e ∈ [wv, x], isFree e = true → e = wv := by
        intro e he hf
        simp only [List.mem_cons, List.not_mem_nil, or_false] at he
        rcases he with rfl | rfl
        · rfl
        · rw [(isFree_iff.1 hf).1] at hxc; cases hxc
      rcases hcase with ⟨hPd, hul, _⟩ | ⟨_, _, hst, _⟩ | ⟨hPd, hnn, hh1, _⟩
      · -- the predecessor is binned
        have u := fr_unl_step (fr_unl_refl w) hul
        refine ⟨pre, post', wv, [x], g, [] ++ [P], hPw, ⟨hW, u, ?_, ?_, Or.inl (by simp [hPw]), hnS, hnp, hn8,
          Or.inr ⟨hPw ▸ hPd, ?_⟩⟩⟩
        · intro e he hf
          rw [hfr e he hf]
          exact Or.inl (by simp [hPw])
        · intro v hv
          simp only [List.nil_append, List.mem_singleton] at hv
          exact ⟨wv, by simp, hwf, hPw.trans hv.symm⟩
        · intro e he
          simp only [List.mem_cons, List.not_mem_nil, or_false] at he
          rcases he with rfl | rfl
          · exact hPw ▸ hPd
          · exact hxdv
      · cases hst
      · -- the predecessor is `dv`
        subst hh1
        have hnc : en.cin = false := by
          rw [hnp] at hnn
          simpa using hnn
        have hwd : wv.addr = s.h.dv := hPw.trans hPd
        have hdv0 : s.h.dv ≠ 0 := hwd ▸ Nat.ne_of_gt (w.addr_pos hwm)
        refine ⟨pre, post', wv, [x], g, [], hPw, ⟨hW, fr_unl_refl w, ?_, ?_, Or.inr (Or.inl hwd), hnS, hnp, hn8,
          Or.inl ⟨hwd, rfl, hdv0, hnc, wv, by simp, hwd⟩⟩⟩
        · intro e he hf
          rw [hfr e he hf]
          exact Or.inr hwd
        · intro v hv; cases hv

/-- the free header `n` after the run, other than `top`: the in-use header after it -/
theorem fr_after_free {s : St} (w : WFS s) {pre post : List Ent} {a n : Ent} {as : List Ent} {g : Seg} {p : Nat}
    (W : fr_Win s pre post a as n g p) (hnf : isFree n = true) :
    ∃ y post', post = y :: post' ∧ y.addr = n.addr + n.size ∧ inSeg g y = true ∧ linkOk s.h.top n y = true := by
  have hnm : n ∈ s.h.ents := W.mem n (fr_mem_run.2 (Or.inr rfl))
  have hes' : s.h.ents = (pre ++ a :: as) ++ n :: post := by rw [W.hes]; simp
  exact next_entry w.struct hes' W.hg (W.hgm n (fr_mem_run.2 (Or.inr rfl))) (isTrailerEnd_free w.shape hnm hnf)

/-- **the forward step** -/
theorem fr_fwd_ok {s : St} (hi : SInv s) {pre post : List Ent} {a n : Ent} {as : List Ent} {g : Seg} {p0 : Nat}
    {h1 : Heap} {rem : List Nat} {S : Nat} (bk : fr_BackOk s pre post a as n g p0 h1 rem S) {H : Heap}
    (hf : fr_Fwd h1 a.addr S n.addr n H) : WFS { s with h := H } ∧ FreeAtTab s.h.ents H.ents p0 := by
  have w := hi.wfs
  have hnm : n ∈ s.h.ents := bk.W.mem n (fr_mem_run.2 (Or.inr rfl))
  have hents1 : h1.ents = pre ++ (a :: (as ++ [n])) ++ post := bk.u.frame.ents.trans bk.W.hes
  have hb := bk.W.bounds w
  have hrem' : ∀ v ∈ rem, ∃ e ∈ a :: (as ++ [n]), isFree e = true ∧ e.addr = v := fun v hv =>
    (bk.hrem v hv).imp fun e h => ⟨fr_mem_run.2 (Or.inl h.1), h.2⟩
  rcases hf with ⟨hnc, h3, t, e1, hins⟩ | ⟨hnc, hnt, h3, t, e1, hH⟩ | ⟨hnc, hnt, hnd, h3, t, e1, hH⟩ |
    ⟨hnc, hnt, hnd, h2, h3, e1, e2, hcase⟩
  · -- the next chunk is in use: bin the run
    rcases bk.dvc with ⟨_, _, _, hc, _⟩ | ⟨hadv, hndv⟩
    · rw [hc] at hnc; cases hnc
    · have r := fr_set_free_at e1 hents1 hb rfl bk.nS rfl
      refine fr_insert_wfs w bk.W bk.u ?_ bk.hrem ?_ hnc bk.n8 bk.nS r hins
      · intro e he hf
        rcases bk.hfree e he hf with h | h
        · exact h
        · exact absurd h (hndv e he)
      · rcases bk.hP with h | h | h
        · exact Or.inl h
        · exact absurd h hadv
        · exact Or.inr h
  · -- the next chunk is `top`
    have hnf : isFree n = true := isFree_iff.2 ⟨hnc, bk.npin⟩
    have hnt' : n.addr = s.h.top := hnt.trans bk.u.frame.top
    obtain ⟨y, post', hp, hya, hgy, hl⟩ := fr_after_free w bk.W hnf
    subst hp
    obtain ⟨hyc, hyp⟩ := linkOk_top hl hnf hnt'
    have W' := fr_win_snoc bk.W hnc hgy hya
    obtain ⟨_, _, _, xt, _, _, _, htes, hxta, hxtf, hxts, _, _, _, _, _, _, htop0, _, _⟩ :=
      w.top_parts (w.topsize_ne bk.W.hg)
    have hxtm : xt ∈ s.h.ents := by rw [htes]; simp
    have : n = xt := entsOk_addr_inj w.ents hnm hxtm (hnt'.trans hxta.symm)
    subst this
    have hts : h1.topsize = s.h.topsize := bk.u.frame.topsize
    have hend : y.addr = a.addr + (h1.topsize + S) := by rw [hya, bk.nS, hxts, hts, Nat.add_assoc, Nat.add_comm S]
    have hents1' : ({ h1 with topsize := h1.topsize + S, top := a.addr } : Heap).ents =
        pre ++ (a :: ((as ++ [n]) ++ [y])) ++ post' := by
      show h1.ents = _
      rw [hents1]; simp
    have r := fr_writeHead_run e1 hents1' (W'.bounds w) rfl hend
    have hfree' : ∀ e ∈ a :: (as ++ [n]), isFree e = true → e.addr ∈ rem ∨ e.addr = s.h.top ∨ e.addr = s.h.dv := by
      intro e he hf
      rcases fr_mem_run.1 he with h | h
      · rcases bk.hfree e h hf with h' | h'
        · exact Or.inl h'
        · exact Or.inr (Or.inr h')
      · subst h; exact Or.inr (Or.inl hnt')
    have htopin : ∃ e ∈ a :: (as ++ [n]), e.addr = s.h.top := ⟨n, fr_mem_run.2 (Or.inr rfl), hnt'⟩
    rcases bk.dvc with ⟨hadv, _, hdv0, _, ed, hedm, heda⟩ | ⟨hadv, hndv⟩
    · have hcond : a.addr = h3.dv := by rw [r]; exact hadv.trans bk.u.frame.dv.symm
      rw [if_pos hcond] at hH
      have hiH : HeapIs H (pre ++ [{ addr := a.addr, size := h1.topsize + S, cin := false, pin := true, pfoot := a.pfoot }, y]
          ++ post') h1.sbins h1.tbins 0 0 a.addr (h1.topsize + S) := by
        rw [hH, r]; exact ⟨rfl, rfl, rfl, rfl, rfl, rfl, rfl⟩
      exact fr_top_wfs w W' bk.u hfree' hrem' htopin bk.hP hyc hyp hend hiH
        (Or.inl ⟨⟨ed, fr_mem_run.2 (Or.inl hedm), heda⟩, hdv0, rfl, rfl⟩)
    · have hcond : ¬ a.addr = h3.dv := by rw [r]; exact fun h => hadv (h.trans bk.u.frame.dv)
      rw [if_neg hcond] at hH
      have hiH : HeapIs H (pre ++ [{ addr := a.addr, size := h1.topsize + S, cin := false, pin := true, pfoot := a.pfoot }, y]
          ++ post') h1.sbins h1.tbins h1.dv h1.dvsize a.addr (h1.topsize + S) := by
        rw [hH, r]; exact ⟨rfl, rfl, rfl, rfl, rfl, rfl, rfl⟩
      refine fr_top_wfs w W' bk.u hfree' hrem' htopin bk.hP hyc hyp hend hiH
        (Or.inr ⟨?_, bk.u.frame.dv, bk.u.frame.dvsize⟩)
      intro e he
      rcases fr_mem_run.1 he with h | h
      · exact hndv e h
      · subst h; rw [hnt']; exact fun h => w.dv_ne_top htop0 h.symm
  all_goals
    -- the next chunk is a free chunk other than `top`: the in-use header after it
    have hnf : isFree n = true := isFree_iff.2 ⟨hnc, bk.npin⟩
    have hnt' : n.addr ≠ s.h.top := fun h => hnt (h.trans bk.u.frame.top.symm)
    obtain ⟨y, post', hp, hya, hgy, hl⟩ := fr_after_free w bk.W hnf
    subst hp
    obtain ⟨hyc, hyp, hypf⟩ := linkOk_free hl hnf hnt'
    have W' := fr_win_snoc bk.W hnc hgy hya
    have hym : y ∈ s.h.ents := W'.mem y (fr_mem_run.2 (Or.inr rfl))
    have hy8 : y.size ≠ 8 := by
      intro h
      have := (gl_fence_cin w.shape hym h).2
      rw [hyp] at this; cases this
  · -- the next chunk is `dv`
    have hnd' : n.addr = s.h.dv := hnd.trans bk.u.frame.dv
    have hdv0 : s.h.dv ≠ 0 := hnd' ▸ Nat.ne_of_gt (w.addr_pos hnm)
    have hdvs := fr_dvsize_ne w hdv0
    obtain ⟨xd, hxdm, hxda, _, hxds, _, _, _⟩ := w.dv_parts hdvs
    have : n = xd := entsOk_addr_inj w.ents hnm hxdm (hnd'.trans hxda.symm)
    subst this
    have hend : y.addr = a.addr + (h1.dvsize + S) := by
      rw [hya, bk.nS, hxds, bk.u.frame.dvsize, Nat.add_assoc, Nat.add_comm S]
    have hents1' : ({ h1 with dvsize := h1.dvsize + S, dv := a.addr } : Heap).ents =
        pre ++ (a :: ((as ++ [n]) ++ [y])) ++ post' := by
      show h1.ents = _
      rw [hents1]; simp
    have r := fr_set_size_free_at e1 hents1' (W'.bounds w) rfl hend
    rw [fr_pin_false_eta hyp] at r
    have hiH : HeapIs H (pre ++ [{ addr := a.addr, size := h1.dvsize + S, cin := false, pin := true, pfoot := a.pfoot },
        { y with pin := false, pfoot := h1.dvsize + S }] ++ post') h1.sbins h1.tbins a.addr (h1.dvsize + S)
        s.h.top s.h.topsize := by
      rw [hH, r]; exact ⟨rfl, rfl, rfl, rfl, rfl, bk.u.frame.top, bk.u.frame.topsize⟩
    refine fr_dv_wfs w W' bk.u hdvs ?_ hrem' ⟨n, fr_mem_run.2 (Or.inr rfl), hnd'⟩ bk.hP hyc hy8 hend hiH
    intro e he hf
    rcases fr_mem_run.1 he with h | h
    · exact bk.hfree e h hf
    · subst h; exact Or.inr hnd'
  · -- the next chunk is binned
    have u2 := fr_unl_step bk.u e1
    have hents2 : h2.ents = pre ++ (a :: ((as ++ [n]) ++ [y])) ++ post' := by
      rw [u2.frame.ents, bk.W.hes]; simp
    have hend : y.addr = a.addr + (S + n.size) := by rw [hya, bk.nS, Nat.add_assoc]
    have r := fr_set_size_free_at e2 hents2 (W'.bounds w) rfl hend
    rw [fr_pin_false_eta hyp] at r
    have hrem2 : ∀ v ∈ rem ++ [n.addr], ∃ e ∈ a :: (as ++ [n]), isFree e = true ∧ e.addr = v := by
      intro v hv
      rcases List.mem_append.1 hv with hv | hv
      · exact hrem' v hv
      · simp only [List.mem_singleton] at hv
        exact ⟨n, fr_mem_run.2 (Or.inr rfl), hnf, hv.symm⟩
    rcases hcase with ⟨hPd, t, hH⟩ | ⟨hPd, t, hins⟩
    · -- … and the run starts with `dv`
      have hadv : a.addr = s.h.dv := by
        rw [r] at hPd
        exact hPd.trans (u2.frame.dv)
      have hdv0 : s.h.dv ≠ 0 := hadv ▸ Nat.ne_of_gt (w.addr_pos (bk.W.mem_run a List.mem_cons_self))
      rcases bk.dvc with ⟨_, _, _, _, ed, hedm, heda⟩ | ⟨hn, _⟩
      · have hiH : HeapIs H (pre ++ [{ addr := a.addr, size := S + n.size, cin := false, pin := true, pfoot := a.pfoot },
            { y with pin := false, pfoot := S + n.size }] ++ post') h2.sbins h2.tbins a.addr (S + n.size)
            s.h.top s.h.topsize := by
          rw [hH, r]; exact ⟨rfl, rfl, rfl, u2.frame.dv.trans hadv.symm, rfl, u2.frame.top, u2.frame.topsize⟩
        refine fr_dv_wfs w W' u2 (fr_dvsize_ne w hdv0) ?_ hrem2 ⟨ed, fr_mem_run.2 (Or.inl hedm), heda⟩ ?_ hyc hy8 hend hiH
        · intro e he hf
          rcases fr_mem_run.1 he with h | h
          · rcases bk.hfree e h hf with h' | h'
            · exact Or.inl (List.mem_append.2 (Or.inl h'))
            · exact Or.inr h'
          · subst h; exact Or.inl (List.mem_append.2 (Or.inr (by simp)))
        · exact Or.inr (Or.inl hadv)
      · exact absurd hadv hn
    · have hadv : a.addr ≠ s.h.dv := by
        rw [r] at hPd
        exact fun h => hPd (h.trans u2.frame.dv.symm)
      rcases bk.dvc with ⟨h, _⟩ | ⟨_, hndv⟩
      · exact absurd h hadv
      · refine fr_insert_wfs w W' u2 ?_ hrem2 ?_ hyc hy8 hend r hins
        · intro e he hf
          rcases fr_mem_run.1 he with h | h
          · rcases bk.hfree e h hf with h' | h'
            · exact List.mem_append.2 (Or.inl h')
            · exact absurd h' (hndv e h)
          · subst h; exact List.mem_append.2 (Or.inr (by simp))
        · rcases bk.hP with h | h | h
          · exact Or.inl (List.mem_append.2 (Or.inl h))
          · exact absurd h hadv
          · exact Or.inr h

/-- **the backward step ends the operation** (`free-back-dv` / `dispose-back-dv`): the predecessor is `dv`
and the next chunk is in use -/
theorem fr_back_stop {s : St} (hi : SInv s) {p0 psize0 : Nat} {x en : Ent} (hx : findEnt s.h.ents p0 = some x)
    (hxc : x.cin = true) (hxs : x.size = psize0) (h8 : psize0 ≠ 8) (hr : isRecord s.segs x = false)
    (hen : findEnt s.h.ents (p0 + psize0) = some en) {h1 : Heap} {P S : Nat}
    (hb : fr_Back s.h x en p0 psize0 (p0 + psize0) h1 P S true) :
    WFS { s with h := h1 } ∧ FreeAtTab s.h.ents h1.ents p0 := by
  have w := hi.wfs
  obtain ⟨hxm, hxa⟩ := findEnt_some hx
  subst hxa
  subst hxs
  rcases hb with ⟨_, _, _, _, hst⟩ | ⟨hxp, hle, hP, hS, hcase⟩
  · cases hst
  · rcases hcase with ⟨_, _, hst⟩ | ⟨hPd, hnn, _, h3, t, e1, hh1⟩ | ⟨_, _, _, hst⟩
    · cases hst
    · obtain ⟨pre, wv, post', g, hes, hW, hwf, hwa, hend, hna, hnp, hn8⟩ := fr_back_parts hi hxm hxc h8 hr hen hxp
      have hwm : wv ∈ s.h.ents := by rw [hes]; simp
      obtain rfl : P = wv.addr := hP.trans hwa.symm
      rw [← hS] at hend
      have hnc : en.cin = true := by
        simp only [Bool.and_eq_true] at hnn; exact hnn.1
      have hdv0 : s.h.dv ≠ 0 := hPd ▸ Nat.ne_of_gt (w.addr_pos hwm)
      have hents : ({ s.h with dvsize := S } : Heap).ents = pre ++ (wv :: ([x] ++ [en])) ++ post' := by
        show s.h.ents = _
        rw [hes]; simp
      have r := fr_set_free_at e1 hents (hW.bounds w) rfl hend hna.symm
      have hiH : HeapIs h1 (pre ++ [{ addr := wv.addr, size := S, cin := false, pin := true, pfoot := wv.pfoot },
          { en with pin := false, pfoot := S }] ++ post') s.h.sbins s.h.tbins wv.addr S s.h.top s.h.topsize := by
        rw [hh1, r]; exact ⟨rfl, rfl, rfl, hPd.symm, rfl, rfl, rfl⟩
      refine fr_dv_wfs w hW (fr_unl_refl w) (fr_dvsize_ne w hdv0) ?_ (fun v hv => by cases hv)
        ⟨wv, List.mem_cons_self, hPd⟩ (Or.inr (Or.inl hPd)) hnc hn8 hend hiH
      intro e he hf
      simp only [List.mem_cons, List.not_mem_nil, or_false] at he
      rcases he with rfl | rfl
      · exact Or.inr hPd
      · rw [(isFree_iff.1 hf).1] at hxc; cases hxc
    · cases hst

/-- **the core theorem**: the coalescing code shared by `free_heap` and `dispose_chunk`, run on a user chunk,
preserves `WFS` and makes exactly that in-use header disappear -/
theorem fr_core {s : St} (hi : SInv s) {p0 psize0 : Nat} (hu : User s p0 psize0) {x en : Ent}
    (hx : findEnt s.h.ents p0 = some x) (hen : findEnt s.h.ents (p0 + psize0) = some en)
    {h1 : Heap} {P S : Nat} {stop : Bool} (hb : fr_Back s.h x en p0 psize0 (p0 + psize0) h1 P S stop) {H : Heap}
    (hrest : (stop = true ∧ H = h1) ∨ (stop = false ∧ fr_Fwd h1 P S (p0 + psize0) en H)) :
    WFS { s with h := H } ∧ FreeAtTab s.h.ents H.ents p0 := by
  obtain ⟨e, he, hc, hs, h8, hr⟩ := hu
  rw [hx] at he
  injection he with he
  subst he
  rcases hrest with ⟨hst, hH⟩ | ⟨hst, hf⟩
  · subst hst; subst hH
    exact fr_back_stop hi hx hc hs h8 hr hen hb
  · subst hst
    obtain ⟨pre, post, a, as, g, rem, haP, bk⟩ := fr_back_ok hi hx hc hs h8 hr hen hb
    subst haP
    rw [← (findEnt_some hen).2] at hf
    exact fr_fwd_ok hi bk hf

/-! ## the two functions as instances of `fr_Back` / `fr_Fwd` -/

/-- the backward-consolidation block of `free_heap` / `dispose_chunk` (they differ in the messages of the
two early exits and in the branch tag) -/
def fr_backStep (m1 m2 tg : String) (h : Heap) (e en : Ent) (p0 psize0 next : Nat) : M (Heap × Nat × Nat × Bool) := do
  if !e.pin then
    let prevsize := e.pfoot
    failIf (e.mmapped) m1
    failIf (p0 < prevsize) m2
    let prev := p0 - prevsize
    let psize := psize0 + prevsize
    if prev ≠ h.dv then
      let h ← unlink_chunk h prev prevsize
      pure (h, prev, psize, false)
    else if en.cin && en.pin then
      let h := { h with dvsize := psize }
      let h ← set_free_with_pinuse h prev psize next
      pure (h.tag tg, prev, psize, true)
    else pure (h, prev, psize, false)
  else pure (h, p0, psize0, false)

theorem fr_backStep_ok {m1 m2 tg : String} {h : Heap} {e en : Ent} {p0 psize0 next : Nat} {h1 : Heap} {P S : Nat}
    {stop : Bool} (hh : fr_backStep m1 m2 tg h e en p0 psize0 next = .ok (h1, P, S, stop)) :
    fr_Back h e en p0 psize0 next h1 P S stop := by
  unfold fr_backStep at hh
  dsimp only at hh
  by_cases hp : (!e.pin) = true
  · rw [if_pos hp] at hh
    have hp' : e.pin = false := by simpa using hp
    msimp at hh
    obtain ⟨_, _, _, hlt, hh⟩ := hh
    have hle : e.pfoot ≤ p0 := by simpa using hlt
    refine Or.inr ⟨hp', hle, ?_⟩
    by_cases hd : p0 - e.pfoot ≠ h.dv
    · rw [if_pos hd] at hh
      msimp at hh
      obtain ⟨h2, e1, hh⟩ := hh
      simp only [Prod.mk.injEq] at hh
      obtain ⟨r1, r2, r3, r4⟩ := hh
      subst r1; subst r2; subst r3; subst r4
      exact ⟨rfl, rfl, Or.inl ⟨hd, e1, rfl⟩⟩
    · rw [if_neg hd] at hh
      have hd' : p0 - e.pfoot = h.dv := by simpa using hd
      by_cases hc : (en.cin && en.pin) = true
      · rw [if_pos hc] at hh
        msimp at hh
        obtain ⟨h2, e1, hh⟩ := hh
        simp only [Prod.mk.injEq] at hh
        obtain ⟨r1, r2, r3, r4⟩ := hh
        subst r1; subst r2; subst r3; subst r4
        exact ⟨rfl, rfl, Or.inr (Or.inl ⟨hd', hc, rfl, h2, tg, e1, rfl⟩)⟩
      · rw [if_neg hc] at hh
        msimp at hh
        simp only [Prod.mk.injEq] at hh
        obtain ⟨r1, r2, r3, r4⟩ := hh
        subst r1; subst r2; subst r3; subst r4
        exact ⟨rfl, rfl, Or.inr (Or.inr ⟨hd', by simpa using hc, rfl, rfl⟩)⟩
  · rw [if_neg hp] at hh
    have hp' : e.pin = true := by simpa using hp
    msimp at hh
    simp only [Prod.mk.injEq] at hh
    obtain ⟨r1, r2, r3, r4⟩ := hh
    subst r1; subst r2; subst r3; subst r4
    exact Or.inl ⟨hp', rfl, rfl, rfl, rfl⟩

/-- **`dispose_chunk` on a user chunk** -/
theorem fr_dispose_chunk_spec : dispose_chunk_Spec := by
  intro s hi p psize h' hu hh
  unfold dispose_chunk at hh
  dsimp only at hh
  msimp at hh
  obtain ⟨e, he, en, hen, ⟨h1, P, S, stop⟩, hback, hrest⟩ := hh
  have hb := fr_backStep_ok hback
  dsimp only at hrest
  have hfw : (stop = true ∧ h' = h1) ∨ (stop = false ∧ fr_Fwd h1 P S (p + psize) en h') := by
    by_cases hst : stop = true
    · rw [if_pos hst] at hrest
      msimp at hrest
      exact Or.inl ⟨hst, hrest.symm⟩
    · rw [if_neg hst] at hrest
      refine Or.inr ⟨by simpa using hst, ?_⟩
      by_cases hc : en.cin = true
      · rw [if_pos hc] at hrest
        msimp at hrest
        obtain ⟨h3, e1, e2⟩ := hrest
        exact Or.inl ⟨hc, h3, _, e1, e2⟩
      · rw [if_neg hc] at hrest
        have hc' : en.cin = false := by simpa using hc
        by_cases ht : p + psize = h1.top
        · rw [if_pos ht] at hrest
          msimp at hrest
          obtain ⟨h3, e1, e2⟩ := hrest
          exact Or.inr (Or.inl ⟨hc', ht, h3, _, e1, e2.symm⟩)
        · rw [if_neg ht] at hrest
          by_cases hd : p + psize = h1.dv
          · rw [if_pos hd] at hrest
            msimp at hrest
            obtain ⟨h3, e1, e2⟩ := hrest
            exact Or.inr (Or.inr (Or.inl ⟨hc', ht, hd, h3, _, e1, e2.symm⟩))
          · rw [if_neg hd] at hrest
            msimp at hrest
            obtain ⟨h2, e1, h3, e2, hrest⟩ := hrest
            refine Or.inr (Or.inr (Or.inr ⟨hc', ht, hd, h2, h3, e1, e2, ?_⟩))
            by_cases hpd : P = h3.dv
            · rw [if_pos hpd] at hrest
              msimp at hrest
              exact Or.inl ⟨hpd, _, hrest.symm⟩
            · rw [if_neg hpd] at hrest
              exact Or.inr ⟨hpd, _, hrest⟩
  obtain ⟨w', fat⟩ := fr_core hi hu (getE_ok.1 he) (getE_ok.1 hen) hb hfw
  exact gl_sinv_freeAtTab hi w' hu fat

theorem fr_free_bin_ok {h h' : Heap} {p sz : Nat} {t : FreeTail} (hh : free_heap.free_bin h p sz = .ok (h', t)) :
    insert_chunk h p sz = .ok h' ∧ ∀ ts, t ≠ .intoTop ts := by
  unfold free_heap.free_bin at hh
  unfold insert_chunk
  split at hh
  · rename_i hs
    msimp at hh
    obtain ⟨h2, e1, e2⟩ := hh
    simp only [Prod.mk.injEq] at e2
    obtain ⟨r1, r2⟩ := e2
    subst r1; subst r2
    rw [if_pos hs]
    exact ⟨e1, fun ts h => by cases h⟩
  · rename_i hs
    msimp at hh
    obtain ⟨h2, e1, e2⟩ := hh
    simp only [Prod.mk.injEq] at e2
    obtain ⟨r1, r2⟩ := e2
    subst r1; subst r2
    rw [if_neg hs]
    exact ⟨e1, fun ts h => by cases h⟩

/-- **`free_heap` on a user chunk** -/
theorem fr_free_heap_spec : free_heap_Spec := by
  intro s hi mem h' t h16 hu hh
  obtain ⟨z, hu⟩ := hu
  unfold free_heap at hh
  dsimp only at hh
  msimp at hh
  obtain ⟨_, _, e, he, en, hen, ⟨h1, P, S, stop⟩, hback, hrest⟩ := hh
  rw [MEM_OFFSET_eq] at he hen hback hrest
  have hx := getE_ok.1 he
  have hz : e.size = z := by
    obtain ⟨e', he', _, hs, _⟩ := hu
    rw [hx] at he'
    injection he' with he'
    subst he'
    exact hs
  subst hz
  have hb := fr_backStep_ok hback
  dsimp only at hrest
  have hfw : ((stop = true ∧ h' = h1) ∨ (stop = false ∧ fr_Fwd h1 P S (mem - 16 + e.size) en h')) ∧
      (∀ ts, t = .intoTop ts → ts = h'.topsize) := by
    by_cases hst : stop = true
    · rw [if_pos hst] at hrest
      msimp at hrest
      simp only [Prod.mk.injEq] at hrest
      obtain ⟨r1, r2⟩ := hrest
      subst r1; subst r2
      exact ⟨Or.inl ⟨hst, rfl⟩, fun ts h => by cases h⟩
    · rw [if_neg hst] at hrest
      have hst' : stop = false := by simpa using hst
      by_cases hc : en.cin = true
      · rw [if_pos hc] at hrest
        msimp at hrest
        obtain ⟨h3, e1, e2⟩ := hrest
        obtain ⟨e3, e4⟩ := fr_free_bin_ok e2
        exact ⟨Or.inr ⟨hst', Or.inl ⟨hc, h3, _, e1, e3⟩⟩, fun ts h => absurd h (e4 ts)⟩
      · rw [if_neg hc] at hrest
        have hc' : en.cin = false := by simpa using hc
        by_cases ht : mem - 16 + e.size = h1.top
        · rw [if_pos ht] at hrest
          msimp at hrest
          obtain ⟨h3, e1, e2⟩ := hrest
          simp only [Prod.mk.injEq] at e2
          obtain ⟨r1, r2⟩ := e2
          subst r2
          refine ⟨Or.inr ⟨hst', Or.inr (Or.inl ⟨hc', ht, h3, _, e1, r1.symm⟩)⟩, ?_⟩
          intro ts hts
          injection hts with hts
          subst hts
          have := (writeHead_sameTop e1).2
          rw [← r1]
          split <;> exact this.symm
        · rw [if_neg ht] at hrest
          by_cases hd : mem - 16 + e.size = h1.dv
          · rw [if_pos hd] at hrest
            msimp at hrest
            obtain ⟨h3, e1, e2⟩ := hrest
            simp only [Prod.mk.injEq] at e2
            obtain ⟨r1, r2⟩ := e2
            subst r2
            exact ⟨Or.inr ⟨hst', Or.inr (Or.inr (Or.inl ⟨hc', ht, hd, h3, _, e1, r1.symm⟩))⟩, fun ts h => by cases h⟩
          · rw [if_neg hd] at hrest
            msimp at hrest
            obtain ⟨h2, e1, h3, e2, hrest⟩ := hrest
            by_cases hpd : P = h3.dv
            · rw [if_pos hpd] at hrest
              msimp at hrest
              simp only [Prod.mk.injEq] at hrest
              obtain ⟨r1, r2⟩ := hrest
              subst r2
              exact ⟨Or.inr ⟨hst', Or.inr (Or.inr (Or.inr ⟨hc', ht, hd, h2, h3, e1, e2, Or.inl ⟨hpd, _, r1.symm⟩⟩))⟩,
                fun ts h => by cases h⟩
            · rw [if_neg hpd] at hrest
              obtain ⟨e3, e4⟩ := fr_free_bin_ok hrest
              exact ⟨Or.inr ⟨hst', Or.inr (Or.inr (Or.inr ⟨hc', ht, hd, h2, h3, e1, e2, Or.inr ⟨hpd, _, e3⟩⟩))⟩,
                fun ts h => absurd h (e4 ts)⟩
  obtain ⟨w', fat⟩ := fr_core hi hu hx (getE_ok.1 hen) hb hfw.1
  obtain ⟨r1, r2⟩ := gl_sinv_freeAtTab hi w' hu fat
  rw [Nat.sub_add_cancel h16] at r2
  exact ⟨r1, r2, hfw.2⟩

/-! ## non-vacuity: every branch is taken from a reachable state satisfying the hypotheses -/

/-- executable form of `∃ z, User s a z` -/
def fr_userB (s : St) (a : Nat) : Bool :=
  match findEnt s.h.ents a with
  | some e => e.cin && !(decide (e.size = 8)) && !(isRecord s.segs e)
  | none => false

theorem fr_user_of_check {s : St} {a : Nat} (h : fr_userB s a = true) : ∃ z, User s a z := by
  unfold fr_userB at h
  split at h
  · rename_i e he
    simp only [Bool.and_eq_true, Bool.not_eq_true', decide_eq_false_iff_not] at h
    exact ⟨e.size, e, he, h.1.1, rfl, h.1.2, h.2⟩
  · cases h

def fr_state (ops : List (Op × List OsDir)) : Hist :=
  match Hist.init.run ops with
  | .ok (hs, _) => hs
  | .error _ => Hist.init

/-- the state reached by `ops` satisfies the invariant, its live block `id` is a user chunk, and `free_heap`
on it succeeds through the branch tagged `tag` -/
def fr_caseF (ops : List (Op × List OsDir)) (id : Nat) (tag : String) : Bool :=
  fr_invB (fr_state ops) &&
  match findBlock (fr_state ops).live id with
  | none => false
  | some b => decide (16 ≤ b.ptr) && fr_userB (fr_state ops).st (b.ptr - 16) &&
    match free_heap (fr_state ops).st.h b.ptr with
    | .ok (h', _) => h'.tr.getLast? == some tag
    | .error _ => false

/-- the same for `dispose_chunk`, called on the chunk of the live block `id` -/
def fr_caseD (ops : List (Op × List OsDir)) (id : Nat) (tag : String) : Bool :=
  fr_invB (fr_state ops) &&
  match findBlock (fr_state ops).live id with
  | none => false
  | some b =>
    match findEnt (fr_state ops).st.h.ents (b.ptr - 16) with
    | none => false
    | some e => fr_userB (fr_state ops).st (b.ptr - 16) &&
      match dispose_chunk (fr_state ops).st.h (b.ptr - 16) e.size with
      | .ok h' => h'.tr.getLast? == some tag
      | .error _ => false

theorem fr_caseF_sound {ops : List (Op × List OsDir)} {id : Nat} {tag : String} (h : fr_caseF ops id tag = true) :
    ∃ hs mem h' t, Inv hs ∧ 16 ≤ mem ∧ (∃ z, User hs.st (mem - 16) z) ∧ free_heap hs.st.h mem = .ok (h', t) ∧
      h'.tr.getLast? = some tag := by
  unfold fr_caseF at h
  simp only [Bool.and_eq_true] at h
  obtain ⟨h1, h2⟩ := h
  split at h2
  · cases h2
  · rename_i b _
    simp only [Bool.and_eq_true, decide_eq_true_eq] at h2
    obtain ⟨⟨h3, h4⟩, h5⟩ := h2
    split at h5
    · rename_i h' t heq
      exact ⟨_, b.ptr, h', t, fr_inv_of_check h1, h3, fr_user_of_check h4, heq, by simpa using h5⟩
    · cases h5

theorem fr_caseD_sound {ops : List (Op × List OsDir)} {id : Nat} {tag : String} (h : fr_caseD ops id tag = true) :
    ∃ hs p z h', Inv hs ∧ User hs.st p z ∧ dispose_chunk hs.st.h p z = .ok h' ∧ h'.tr.getLast? = some tag := by
  unfold fr_caseD at h
  simp only [Bool.and_eq_true] at h
  obtain ⟨h1, h2⟩ := h
  split at h2
  · cases h2
  · rename_i b _
    split at h2
    · cases h2
    · rename_i e he
      simp only [Bool.and_eq_true] at h2
      obtain ⟨h4, h5⟩ := h2
      split at h5
      · rename_i h' heq
        obtain ⟨z, hu⟩ := fr_user_of_check h4
        have hz : z = e.size := by
          obtain ⟨e', he', _, hs, _⟩ := hu
          rw [he] at he'
          injection he' with he'
          subst he'
          exact hs.symm
        subst hz
        exact ⟨_, b.ptr - 16, e.size, h', fr_inv_of_check h1, hu, heq, by simpa using h5⟩
      · cases h5

/-- `[1, 5, dv, 3, 4, 6, 7, top]`: six live blocks, an 80-byte `dv` between blocks 5 and 3 -/
def fr_ops : List (Op × List OsDir) :=
  [(.malloc 1 100 8, [.m (some 1048576)]), (.malloc 2 100 8, []), (.malloc 3 100 8, []), (.malloc 4 100 8, []),
   (.malloc 6 100 8, []), (.malloc 7 100 8, []), (.free 2, []), (.malloc 5 8 8, [])]

/-- `[1, 5, dv, 3, top]` -/
def fr_ops2 : List (Op × List OsDir) :=
  [(.malloc 1 100 8, [.m (some 1048576)]), (.malloc 2 100 8, []), (.malloc 3 100 8, []), (.free 2, []),
   (.malloc 5 8 8, [])]

set_option maxRecDepth 100000 in
/-- the hypotheses of `fr_free_heap_spec` are satisfiable on every branch: all six branch tags, and the
backward variants (predecessor in use / binned / `dv`) of the forward branches -/
example :
    -- predecessor in use
    fr_caseF fr_ops 1 "free-plain" = true ∧ fr_caseF fr_ops 7 "free-into-top" = true ∧
    fr_caseF fr_ops 5 "free-into-dv" = true ∧ fr_caseF (fr_ops ++ [(.free 6, [])]) 4 "free-fwd" = true ∧
    -- predecessor binned
    fr_caseF (fr_ops ++ [(.free 4, [])]) 6 "free-plain" = true ∧
    fr_caseF (fr_ops ++ [(.free 6, [])]) 7 "free-into-top" = true ∧
    fr_caseF (fr_ops ++ [(.free 1, [])]) 5 "free-into-dv" = true ∧
    fr_caseF (fr_ops ++ [(.free 4, []), (.free 7, [])]) 6 "free-into-top" = true ∧
    -- predecessor is `dv`
    fr_caseF fr_ops 3 "free-back-dv" = true ∧ fr_caseF fr_ops2 3 "free-into-top" = true ∧
    fr_caseF (fr_ops ++ [(.free 4, [])]) 3 "free-fwd-dv" = true :=
  by decide +kernel

set_option maxRecDepth 100000 in
/-- the same for `fr_dispose_chunk_spec` -/
example :
    fr_caseD fr_ops 1 "dispose-bin" = true ∧ fr_caseD fr_ops 7 "dispose-into-top" = true ∧
    fr_caseD fr_ops 5 "dispose-into-dv" = true ∧ fr_caseD (fr_ops ++ [(.free 6, [])]) 4 "dispose-fwd-bin" = true ∧
    fr_caseD fr_ops 3 "dispose-back-dv" = true ∧ fr_caseD fr_ops2 3 "dispose-into-top" = true ∧
    fr_caseD (fr_ops ++ [(.free 4, [])]) 3 "dispose-fwd-dv" = true :=
  by decide +kernel

end TinyVerif.Dl
