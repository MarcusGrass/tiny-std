/- Helper lemmas for C10 / C11 (model: Model/UnixStr.lean, spec: Model/UnixStrSpec.lean). -/
import TinyVerif.Model.UnixStr
import TinyVerif.Model.UnixStrSpec
namespace TinyVerif.UnixStr

/-- raw bytes of a well-formed UnixStr: non-empty, last byte NUL, no other NUL -/
def WFU (l : List Nat) : Prop := l ≠ [] ∧ l.getLast? = some 0 ∧ 0 ∉ l.dropLast

/-- the content (everything but the terminator) -/
def content (l : List Nat) : List Nat := l.dropLast

theorem wfu_iff (l : List Nat) : WFU l ↔ ∃ c, l = c ++ [0] ∧ 0 ∉ c := by
  constructor
  · rintro ⟨hne, hlast, hno⟩
    obtain ⟨ys, rfl⟩ := List.getLast?_eq_some_iff.1 hlast
    exact ⟨ys, rfl, by simpa using hno⟩
  · rintro ⟨c, rfl, hc⟩
    refine ⟨by simp, by simp, by simpa using hc⟩

theorem wfu_snoc {c : List Nat} (hc : 0 ∉ c) : WFU (c ++ [0]) := (wfu_iff _).2 ⟨c, rfl, hc⟩

/-- a NUL followed by anything is not the terminator of a well-formed string -/
theorem not_wfu_nul_inside (pre : List Nat) {post : List Nat} (hpost : post ≠ []) : ¬ WFU (pre ++ 0 :: post) := by
  intro hw
  obtain ⟨c, hc', hc⟩ := (wfu_iff _).1 hw
  obtain ⟨post', z, rfl⟩ := (List.eq_nil_or_concat post).resolve_left hpost
  have h2 : (pre ++ 0 :: post') ++ [z] = c ++ [0] := by simpa using hc'
  exact hc (by rw [← (List.append_inj' h2 rfl).1]; simp)

@[simp] theorem content_snoc (c : List Nat) (b : Nat) : content (c ++ [b]) = c := by simp [content]

theorem scanNul_spec (len : Nat) : ∀ (rest : List Nat) (ind : Nat), len = ind + rest.length →
    (scanNul len ind rest = .noNul ∧ 0 ∉ rest) ∨
    (scanNul len ind rest = .nulAtEnd ∧ ∃ pre, rest = pre ++ [0] ∧ 0 ∉ pre) ∨
    (scanNul len ind rest = .nulInterior ∧ ∃ pre post, rest = pre ++ 0 :: post ∧ 0 ∉ pre ∧ post ≠ [])
  | [], ind, h => by simp [scanNul]
  | b :: rest, ind, h => by
    simp only [List.length_cons] at h
    by_cases hb : b = 0
    · subst hb
      have hlen : 1 ≤ len := by omega
      simp only [scanNul, sub, hlen, if_true]
      by_cases hi : ind = len - 1
      · right; left
        have : rest = [] := by
          have : rest.length = 0 := by omega
          exact List.eq_nil_of_length_eq_zero this
        subst this
        exact ⟨by simp [hi], [], by simp, by simp⟩
      · right; right
        refine ⟨by simp [hi], [], rest, by simp, by simp, ?_⟩
        intro hr; subst hr; simp at h; omega
    · have ih := scanNul_spec len rest (ind + 1) (by omega)
      have hb' : ¬ (0 = b) := fun h => hb h.symm
      simp only [scanNul, hb, if_false]
      rcases ih with ⟨h1, h2⟩ | ⟨h1, pre, h2, h3⟩ | ⟨h1, pre, post, h2, h3, h4⟩
      · left; exact ⟨h1, by simp [h2, hb']⟩
      · right; left; exact ⟨h1, b :: pre, by simp [h2], by simp [h3, hb']⟩
      · right; right; exact ⟨h1, b :: pre, post, by simp [h2], by simp [h3, hb'], h4⟩


theorem idx_lt {l : List Nat} {i : Nat} (h : i < l.length) : idx l i = .ok l[i] := by
  simp [idx, List.getElem?_eq_getElem h]

theorem rd_lt {l : List Nat} {i : Nat} (h : i < l.length) : rd l i = .ok l[i] := by
  simp [rd, List.getElem?_eq_getElem h]

@[simp] theorem bind_ok {α β : Type} (a : α) (f : α → R β) : (R.ok a).bind f = f a := rfl

theorem sub_le {a b : Nat} (h : b ≤ a) : sub a b = .ok (a - b) := by simp [sub, h]

theorem constLoop_eq (s : List Nat) : ∀ i, i ≤ s.length →
    constLoop s i = if 0 ∈ s.take i then .panic else .ok ()
  | 0, _ => by simp [constLoop]
  | i + 1, h => by
    have hi : i < s.length := by omega
    rw [constLoop, idx_lt hi, bind_ok, constLoop_eq s i (by omega), ← List.take_append_getElem hi]
    by_cases hb : s[i] = 0
    · simp only [hb, if_true, List.mem_append, List.mem_singleton, or_true]
    · have : ¬ (0 = s[i]) := fun h => hb h.symm
      simp only [hb, this, if_false, List.mem_append, List.mem_singleton, or_false]

theorem constValidate_snoc (c : List Nat) (b : Nat) :
    constValidate (c ++ [b]) = if b = 0 ∧ 0 ∉ c then .ok () else .panic := by
  have hlen : (c ++ [b]).length = c.length + 1 := by simp
  have hidx : idx (c ++ [b]) c.length = .ok b := by
    rw [idx_lt (by simp)]; simp
  unfold constValidate
  rw [hlen, sub_le (by omega)]
  simp only [bind_ok, Nat.add_sub_cancel, hidx]
  by_cases hb : b = 0
  · subst hb
    rw [constLoop_eq _ _ (by simp)]
    simp
  · simp [hb]

theorem ensureNul_nulfree {p : List Nat} (h : 0 ∉ p) : ensureNul p = p ++ [0] := by
  unfold ensureNul
  split
  · rename_i hl
    obtain ⟨ys, rfl⟩ := List.getLast?_eq_some_iff.1 hl
    simp at h
  · rfl

theorem ensureNul_terminated (c : List Nat) : ensureNul (c ++ [0]) = c ++ [0] := by
  simp [ensureNul]

theorem bufStrlenLoop_spec : ∀ (buf : List Nat) (ind : Nat),
    (0 ∉ buf ∧ bufStrlenLoop ind buf = .err .noterm) ∨
    (∃ pre post, buf = pre ++ 0 :: post ∧ 0 ∉ pre ∧ bufStrlenLoop ind buf = .ok (ind + pre.length))
  | [], ind => by simp [bufStrlenLoop]
  | b :: rest, ind => by
    by_cases hb : b = 0
    · subst hb
      right; exact ⟨[], rest, by simp, by simp, by simp [bufStrlenLoop]⟩
    · have hb' : ¬ (0 = b) := fun h => hb h.symm
      rcases bufStrlenLoop_spec rest (ind + 1) with ⟨h1, h2⟩ | ⟨pre, post, h1, h2, h3⟩
      · left; exact ⟨by simp [h1, hb'], by simp [bufStrlenLoop, hb, h2]⟩
      · right
        refine ⟨b :: pre, post, by simp [h1], by simp [h2, hb'], ?_⟩
        simp only [bufStrlenLoop, hb, if_false, h3, List.length_cons]
        congr 1; omega

/-! ## buf_find = naiveFind -/

/-- what the inner loop computes, as a function of the two remaining slices -/
def cmpRest : List Nat → List Nat → Inner
  | _, [] => .matched
  | [], _ :: _ => .retNone
  | a :: x, b :: y => if a ≠ b then .noMatch else cmpRest x y

@[simp] theorem cmpRest_nil (x : List Nat) : cmpRest x [] = .matched := by cases x <;> rfl

theorem cmpRest_matched : ∀ (x y : List Nat), cmpRest x y = .matched ↔ y.isPrefixOf x = true
  | x, [] => by simp
  | [], b :: y => by simp [cmpRest]
  | a :: x, b :: y => by
    by_cases hab : a = b
    · subst hab; simp [cmpRest, cmpRest_matched x y]
    · have : ¬ (b = a) := fun h => hab h.symm
      simp [cmpRest, hab, this]

theorem cmpRest_retNone : ∀ (x y : List Nat), cmpRest x y = .retNone → x.length < y.length
  | x, [] => by simp
  | [], b :: y => by simp
  | a :: x, b :: y => by
    by_cases hab : a = b
    · subst hab; simp only [cmpRest, ne_eq, not_true_eq_false, if_false, List.length_cons]
      intro h; have := cmpRest_retNone x y h; omega
    · simp [cmpRest, hab]

theorem innerLoop_eq (h n : List Nat) (i : Nat) : ∀ k j, j + k = n.length →
    innerLoop h n i k j = .ok (cmpRest (h.drop (i + j)) (n.drop j))
  | 0, j, hk => by
    have : n.drop j = [] := List.drop_eq_nil_of_le (by omega)
    simp [innerLoop, this]
  | k + 1, j, hk => by
    have hj : j < n.length := by omega
    rw [innerLoop, List.drop_eq_getElem_cons hj]
    cases hh : h[i + j]? with
    | none =>
      have : h.drop (i + j) = [] := List.drop_eq_nil_of_le (by
        have := List.getElem?_eq_none_iff.1 hh; omega)
      simp only [this, cmpRest]
    | some this =>
      have hij : i + j < h.length := by
        rcases Nat.lt_or_ge (i + j) h.length with hlt | hge
        · exact hlt
        · rw [List.getElem?_eq_none_iff.2 hge] at hh; cases hh
      have hv : h[i + j] = this := by
        rw [List.getElem?_eq_getElem hij] at hh; exact Option.some.inj hh
      rw [List.drop_eq_getElem_cons hij, hv]
      simp only [idx_lt hj, bind_ok, cmpRest]
      by_cases hne : this = n[j]
      · simp only [hne, ne_eq, not_true_eq_false, if_false]
        rw [innerLoop_eq h n i k (j + 1) (by omega)]
        rfl
      · simp [hne]

theorem isPrefixOf_of_length_lt {n x : List Nat} (h : x.length < n.length) : n.isPrefixOf x = false :=
  Bool.eq_false_iff.2 fun hq => absurd (List.isPrefixOf_iff_prefix.1 hq).length_le (Nat.not_le.2 h)

theorem naiveFind_short (n : List Nat) : ∀ (x : List Nat), x.length < n.length → naiveFind n x = none
  | [], h => by rw [naiveFind, isPrefixOf_of_length_lt h]; rfl
  | a :: x, h => by
    rw [naiveFind, isPrefixOf_of_length_lt h, naiveFind_short n x (Nat.lt_of_succ_lt h)]; rfl

theorem naiveFind_nil_needle (h : List Nat) : naiveFind [] h = some 0 := by
  cases h <;> simp [naiveFind]

theorem outerLoop_eq (h : List Nat) (n0 : Nat) (nt : List Nat) : ∀ k i, i + k = h.length →
    outerLoop h (n0 :: nt) n0 k i = .ok ((naiveFind (n0 :: nt) (h.drop i)).map (· + i))
  | 0, i, hk => by
    have : h.drop i = [] := List.drop_eq_nil_of_le (by omega)
    simp [outerLoop, this, naiveFind]
  | k + 1, i, hk => by
    have hi : i < h.length := by omega
    have ih := outerLoop_eq h n0 nt k (i + 1) (by omega)
    have hrec : (Option.map (· + 1) (naiveFind (n0 :: nt) (h.drop (i + 1)))).map (· + i)
        = (naiveFind (n0 :: nt) (h.drop (i + 1))).map (· + (i + 1)) := by
      cases naiveFind (n0 :: nt) (h.drop (i + 1)) with
      | none => rfl
      | some v => simp; omega
    rw [outerLoop, idx_lt hi, bind_ok, List.drop_eq_getElem_cons hi]
    by_cases hf : h[i] = n0
    · have hin := innerLoop_eq h (n0 :: nt) i (nt.length) 1 (by simp; omega)
      simp only [hf, if_true, List.length_cons, Nat.add_sub_cancel, hin, bind_ok, List.drop_succ_cons, List.drop_zero]
      cases hc : cmpRest (h.drop (i + 1)) nt with
      | matched =>
        have := (cmpRest_matched _ _).1 hc
        simp [naiveFind, this]
      | retNone =>
        have hl := cmpRest_retNone _ _ hc
        have hp := isPrefixOf_of_length_lt hl
        have hs := naiveFind_short (n0 :: nt) (h.drop (i + 1)) (by simp only [List.length_cons]; omega)
        simp [naiveFind, hp, hs]
      | noMatch =>
        have hp : nt.isPrefixOf (h.drop (i + 1)) = false := by
          cases hq : nt.isPrefixOf (h.drop (i + 1)) with
          | false => rfl
          | true => rw [(cmpRest_matched _ _).2 hq] at hc; cases hc
        simp only [ih, naiveFind, List.isPrefixOf, hp, Bool.and_false, Bool.false_eq_true, if_false, hrec]
    · have hf' : (n0 == h[i]) = false := by
        simp; exact fun h' => hf h'.symm
      simp only [hf, if_false, ih, naiveFind, List.isPrefixOf, hf', Bool.false_and, Bool.false_eq_true, hrec]

theorem bufFind_eq (h n : List Nat) : bufFind h n = .ok (naiveFind n h) := by
  cases n with
  | nil => simp [bufFind, naiveFind_nil_needle]
  | cons n0 nt =>
    simp only [bufFind, List.head?_cons]
    rw [outerLoop_eq h n0 nt h.length 0 (by omega)]
    simp only [List.drop_zero, Nat.add_zero]
    cases naiveFind (n0 :: nt) h <;> rfl

/-! ## searching the raw bytes = searching the content, for NUL-free needles -/

theorem isPrefixOf_snoc_zero : ∀ (n l : List Nat), 0 ∉ n → n.isPrefixOf (l ++ [0]) = n.isPrefixOf l
  | [], l, _ => by simp
  | a :: t, [], h => by
    have : ¬ (a = 0) := fun e => h (by simp [e])
    simp [List.isPrefixOf, this]
  | a :: t, b :: l, h => by
    have ht : 0 ∉ t := fun e => h (by simp [e])
    simp [List.isPrefixOf, isPrefixOf_snoc_zero t l ht]

theorem naiveFind_content (n : List Nat) (hn : 0 ∉ n) : ∀ (c : List Nat), naiveFind n (c ++ [0]) = naiveFind n c
  | [] => by
    cases n with
    | nil => simp [naiveFind]
    | cons a t =>
      have : ¬ (a = 0) := fun e => hn (by simp [e])
      simp [naiveFind, List.isPrefixOf, this]
  | x :: c => by
    have h1 := isPrefixOf_snoc_zero n (x :: c) hn
    simp only [List.cons_append] at h1 ⊢
    simp only [naiveFind, h1, naiveFind_content n hn c]

theorem drop_eq_cons {l : List Nat} {i a : Nat} {r : List Nat} (h : l.drop i = a :: r) :
    ∃ hi : i < l.length, l[i] = a ∧ l.drop (i + 1) = r := by
  have hi : i < l.length := by
    rcases Nat.lt_or_ge i l.length with h' | h'
    · exact h'
    · rw [List.drop_eq_nil_of_le h'] at h; cases h
  refine ⟨hi, ?_⟩
  have h2 : l[i] :: l.drop (i + 1) = a :: r := (List.drop_eq_getElem_cons hi).symm.trans h
  exact ⟨(List.cons.inj h2).1, (List.cons.inj h2).2⟩

/-! ## match_up_to / match_up_to_str = length of the longest common prefix -/

theorem matchLoop_eq : ∀ (cs co : List Nat) (s o : List Nat) (f it : Nat), 0 ∉ cs →
    s.drop it = cs ++ [0] → (∃ t, o.drop it = co ++ 0 :: t) → cs.length < f →
    matchLoop s o f it = .ok (it + (lcp cs co).length)
  | cs, co, s, o, 0, it, _, _, _, hf => by omega
  | [], co, s, o, f + 1, it, hs0, hs, ⟨t, ho⟩, hf => by
    obtain ⟨hit, ha, _⟩ := drop_eq_cons (show s.drop it = 0 :: [] from hs)
    have hio : it < o.length := by
      rcases Nat.lt_or_ge it o.length with h | h
      · exact h
      · rw [List.drop_eq_nil_of_le h] at ho; cases co <;> simp at ho
    rw [matchLoop, rd_lt hit, bind_ok, rd_lt hio, bind_ok, ha]
    cases co <;> simp [lcp]
  | a :: cs, co, s, o, f + 1, it, hs0, hs, ⟨t, ho⟩, hf => by
    obtain ⟨hit, ha, hs'⟩ := drop_eq_cons (show s.drop it = a :: (cs ++ [0]) from hs)
    have ha0 : ¬ (a = 0) := fun e => hs0 (by simp [e])
    have hcs0 : 0 ∉ cs := fun e => hs0 (by simp [e])
    cases co with
    | nil =>
      obtain ⟨hio, hb, _⟩ := drop_eq_cons (show o.drop it = 0 :: t from ho)
      rw [matchLoop, rd_lt hit, bind_ok, rd_lt hio, bind_ok, ha, hb]
      simp [ha0, lcp]
    | cons b co =>
      obtain ⟨hio, hb, ho'⟩ := drop_eq_cons (show o.drop it = b :: (co ++ 0 :: t) from ho)
      rw [matchLoop, rd_lt hit, bind_ok, rd_lt hio, bind_ok, ha, hb]
      by_cases hab : a = b
      · subst hab
        simp only [ne_eq, not_true_eq_false, ha0, or_self, if_false, lcp, if_true, List.length_cons]
        rw [matchLoop_eq cs co s o f (it + 1) hcs0 hs' ⟨t, ho'⟩ (by simp at hf; omega)]
        congr 1; omega
      · simp [hab, lcp]

theorem matchStrLoop_eq : ∀ (cs co : List Nat) (s o : List Nat) (f it : Nat), 0 ∉ cs →
    s.drop it = cs ++ [0] → o.drop it = co → it ≤ o.length → cs.length < f →
    matchStrLoop s o f it = .ok (it + (lcp cs co).length)
  | cs, co, s, o, 0, it, _, _, _, _, hf => by omega
  | cs, [], s, o, f + 1, it, hs0, hs, ho, hle, hf => by
    have : it = o.length := by
      have := congrArg List.length ho
      simp at this; omega
    cases cs <;> simp [matchStrLoop, this, lcp]
  | cs, b :: co, s, o, f + 1, it, hs0, hs, ho, hle, hf => by
    obtain ⟨hio, hb, ho'⟩ := drop_eq_cons ho
    have hne : ¬ (it = o.length) := by omega
    rw [matchStrLoop]
    cases cs with
    | nil =>
      obtain ⟨hit, ha, _⟩ := drop_eq_cons (show s.drop it = 0 :: [] from hs)
      simp only [hne, if_false, rd_lt hit, bind_ok, rd_lt hio, hb, ha]
      simp [lcp]
    | cons a cs =>
      obtain ⟨hit, ha, hs'⟩ := drop_eq_cons (show s.drop it = a :: (cs ++ [0]) from hs)
      have ha0 : ¬ (a = 0) := fun e => hs0 (by simp [e])
      have hcs0 : 0 ∉ cs := fun e => hs0 (by simp [e])
      simp only [hne, if_false, rd_lt hit, bind_ok, rd_lt hio, hb, ha]
      by_cases hab : a = b
      · subst hab
        simp only [ne_eq, not_true_eq_false, ha0, or_self, if_false, lcp, if_true, List.length_cons]
        rw [matchStrLoop_eq cs co s o f (it + 1) hcs0 hs' ho' (by omega) (by simp at hf; omega)]
        congr 1; omega
      · simp [hab, lcp]

/-! ## ends_with = suffix test -/

theorem endsLoop_eq (s o : List Nat) (ho : 1 ≤ o.length) (hso : o.length ≤ s.length) :
    ∀ f ind, ind < o.length → o.length - ind ≤ f →
    endsLoop s o f ind = .ok ((o.reverse.drop ind).isPrefixOf (s.reverse.drop ind))
  | 0, ind, h1, h2 => by omega
  | f + 1, ind, hi, hf => by
    have hsr : ind < s.reverse.length := by simp; omega
    have hor : ind < o.reverse.length := by simp; omega
    have hsi : s[s.length - 1 - ind]? = some (s.reverse[ind]) := by
      rw [← List.getElem?_reverse (by omega)]; exact List.getElem?_eq_getElem hsr
    have hoi : o[o.length - 1 - ind]? = some (o.reverse[ind]) := by
      rw [← List.getElem?_reverse (by omega)]; exact List.getElem?_eq_getElem hor
    rw [endsLoop, sub_le (by omega), bind_ok, sub_le (by omega), bind_ok, sub_le (by omega), bind_ok,
      sub_le (by omega), bind_ok]
    simp only [hsi, hoi]
    rw [List.drop_eq_getElem_cons hsr, List.drop_eq_getElem_cons hor]
    generalize s.reverse[ind] = a
    generalize o.reverse[ind] = b
    by_cases heq : a = b
    · simp only [heq, ne_eq, not_true_eq_false, if_false, List.isPrefixOf, beq_self_eq_true, Bool.true_and]
      by_cases hz : o.length - 1 - ind = 0
      · have : o.reverse.drop (ind + 1) = [] := List.drop_eq_nil_of_le (by simp; omega)
        simp [hz, this]
      · simp only [hz, if_false]
        exact endsLoop_eq s o ho hso f (ind + 1) (by omega) (by omega)
    · have : (b == a) = false := by
        simp; exact fun h => heq h.symm
      simp [heq, List.isPrefixOf, this]

theorem endsWith_eq (s o : List Nat) (ho : 1 ≤ o.length) : endsWith s o = .ok (isSuffix o s) := by
  unfold endsWith isSuffix
  split
  · rename_i hlen
    rw [isPrefixOf_of_length_lt (by rw [List.length_reverse, List.length_reverse]; exact hlen)]
  · rw [endsLoop_eq s o ho (by omega) _ 0 (by omega) (by omega)]
    simp

theorem isSuffix_iff (o s : List Nat) : isSuffix o s = true ↔ o <:+ s := by
  unfold isSuffix
  rw [List.isPrefixOf_iff_prefix, List.reverse_prefix]


theorem lastSlash_none : ∀ (c : List Nat), 47 ∉ c → beforeLastSlash c = none ∧ afterLastSlash c = none
  | [], _ => ⟨rfl, rfl⟩
  | b :: rest, h => by
    have hb : b ≠ 47 := fun e => h (by simp [e])
    obtain ⟨h1, h2⟩ := lastSlash_none rest fun e => h (by simp [e])
    simp [beforeLastSlash, afterLastSlash, h1, h2, hb]

theorem lastSlash_append (comp : List Nat) (hc : 47 ∉ comp) : ∀ (pre : List Nat),
    beforeLastSlash (pre ++ 47 :: comp) = some pre ∧ afterLastSlash (pre ++ 47 :: comp) = some comp
  | [] => by simp [beforeLastSlash, afterLastSlash, lastSlash_none comp hc]
  | b :: pre => by simp [beforeLastSlash, afterLastSlash, lastSlash_append comp hc pre]

/-- a list has no `'/'`, or splits at its last one -/
theorem last_slash_split : ∀ (l : List Nat), 47 ∉ l ∨ ∃ p c, l = p ++ 47 :: c ∧ 47 ∉ c
  | [] => Or.inl (List.not_mem_nil)
  | a :: l => by
    rcases last_slash_split l with h | ⟨p, c, rfl, hc⟩
    · by_cases ha : a = 47
      · exact Or.inr ⟨[], l, by rw [ha]; rfl, h⟩
      · exact Or.inl (fun hm => (List.mem_cons.1 hm).elim (fun e => ha e.symm) h)
    · exact Or.inr ⟨a :: p, c, rfl, hc⟩

theorem lastSlash_snoc (l : List Nat) (b : Nat) :
    beforeLastSlash (l ++ [b]) = (if b = 47 then some l else beforeLastSlash l) ∧
    afterLastSlash (l ++ [b]) = if b = 47 then some [] else (afterLastSlash l).map (· ++ [b]) := by
  by_cases hb : b = 47
  · subst hb; simpa using lastSlash_append [] (by simp) l
  · simp only [hb, if_false]
    rcases last_slash_split l with hn | ⟨p, c, rfl, hc⟩
    · rw [(lastSlash_none l hn).1, (lastSlash_none l hn).2]
      exact lastSlash_none _ (by simp [hn, Ne.symm hb])
    · rw [(lastSlash_append c hc p).1, (lastSlash_append c hc p).2, List.append_assoc, List.cons_append]
      exact lastSlash_append (c ++ [b]) (by simp [hc, Ne.symm hb]) p

/-- what the split functions return really is a split at the LAST separator -/
theorem lastSlash_some (c p r : List Nat) :
    (beforeLastSlash c = some p → ∃ t, c = p ++ 47 :: t ∧ 47 ∉ t) ∧
    (afterLastSlash c = some r → ∃ q, c = q ++ 47 :: r) := by
  rcases last_slash_split c with hn | ⟨p', r', rfl, hr⟩
  · rw [(lastSlash_none c hn).1, (lastSlash_none c hn).2]
    exact ⟨nofun, nofun⟩
  · rw [(lastSlash_append r' hr p').1, (lastSlash_append r' hr p').2]
    exact ⟨fun h => by cases h; exact ⟨r', rfl, hr⟩, fun h => by cases h; exact ⟨p', rfl⟩⟩

/-- post-processing of the split in `path_file_name` -/
def fnPost : Option (List Nat) → Option (List Nat)
  | some r => if 1 < r.length then some r else none
  | none => none

theorem fileNameLoop_eq (s : List Nat) : ∀ k, k ≤ s.length →
    fileNameLoop s k = .ok (fnPost ((afterLastSlash (s.take k)).map (· ++ s.drop k)))
  | 0, _ => by simp [fileNameLoop, afterLastSlash, fnPost]
  | k + 1, hk => by
    have hlt : k < s.length := by omega
    rw [fileNameLoop, idx_lt hlt, bind_ok, ← List.take_append_getElem hlt, (lastSlash_snoc _ _).2]
    by_cases hb : s[k] = 47
    · have hl : (s.drop (k + 1)).length = s.length - (k + 1) := List.length_drop
      simp only [hb, SLASH, if_true, hk, Option.map_some, List.nil_append, fnPost, hl]
      by_cases h2 : k + 2 < s.length
      · have : 1 < s.length - (k + 1) := by omega
        simp [h2, this]
      · have : ¬ (1 < s.length - (k + 1)) := by omega
        simp [h2, this]
    · simp only [hb, SLASH, if_false]
      rw [fileNameLoop_eq s k (by omega)]
      congr 2
      rw [List.drop_eq_getElem_cons hlt]
      cases afterLastSlash (s.take k) with
      | none => rfl
      | some r => simp

theorem pathFileName_eq (c : List Nat) :
    pathFileName (c ++ [0]) = .ok ((fileNameSpec c).map (· ++ [0])) := by
  unfold pathFileName
  rw [fileNameLoop_eq _ _ (Nat.le_refl _)]
  simp only [List.take_length, List.drop_length, (lastSlash_snoc _ _).2, fileNameSpec]
  cases afterLastSlash c with
  | none => simp [fnPost]
  | some r =>
    cases r with
    | nil => simp [fnPost]
    | cons x xs => simp [fnPost]

/-- post-processing of the split in `parent_path`'s loop -/
def pPost : Option (List Nat) → PLoop
  | none => .retNone
  | some p => if p.getLast? = some 47 then .retNone else .exit p.length

theorem parentLoop_eq (s : List Nat) : ∀ n, n < s.length →
    parentLoop s n = pPost (beforeLastSlash (s.take (n + 1)))
  | 0, h => by
    have h0 : s[0]? = some s[0] := List.getElem?_eq_getElem h
    have ht : s.take 1 = [s[0]] := by
      cases s with
      | nil => simp at h
      | cons a t => simp
    rw [parentLoop, h0, ht]
    by_cases hb : s[0] = 47 <;> simp [hb, beforeLastSlash, pPost, SLASH]
  | n + 1, h => by
    have hn : n < s.length := by omega
    have h1 : s[n + 1]? = some s[n + 1] := List.getElem?_eq_getElem h
    rw [parentLoop, h1, ← List.take_append_getElem h, (lastSlash_snoc _ _).1]
    by_cases hb : s[n + 1] = 47
    · have hlast : (s.take (n + 1)).getLast? = s[n]? := by
        rw [List.getLast?_take]
        simp [List.getElem?_eq_getElem hn]
      have hlen : (s.take (n + 1)).length = n + 1 := by simp; omega
      simp only [hb, SLASH, if_true, pPost, hlast, hlen]
    · simp only [hb, SLASH, if_false]
      exact parentLoop_eq s n hn

theorem parentPath_eq (c : List Nat) :
    parentPath (c ++ [0]) = .ok ((parentSpec c).map (· ++ [0])) := by
  unfold parentPath parentSpec
  have hlen : (c ++ [0]).length = c.length + 1 := by simp
  rw [hlen]
  by_cases hc : c.length < 2
  · have : c.length + 1 < 3 := by omega
    simp [this, hc]
  · have h3 : ¬ (c.length + 1 < 3) := by omega
    simp only [h3, hc, if_false]
    rw [sub_le (by omega), bind_ok]
    have hl : c.length + 1 - 2 = c.length - 1 := by omega
    rw [hl, parentLoop_eq _ _ (by simp; omega)]
    have ht : (c ++ [0]).take (c.length - 1 + 1) = c := by
      have : c.length - 1 + 1 = c.length := by omega
      rw [this, List.take_append, List.take_of_length_le (Nat.le_refl _)]; simp
    rw [ht]
    cases hb : beforeLastSlash c with
    | none => simp [pPost]
    | some p =>
      obtain ⟨r, rfl, _⟩ := (lastSlash_some c p []).1 hb
      simp only [pPost]
      by_cases hd : p.getLast? = some 47
      · simp [hd]
      · cases p with
        | nil => simp
        | cons x xs => simp [hd, List.take_left' rfl]; omega

theorem pathJoin_eq (ca cb : List Nat) :
    pathJoin (ca ++ [0]) (cb ++ [0]) = .ok (joinSpec ca cb ++ [0]) := by
  unfold pathJoin joinSpec
  rcases List.eq_nil_or_concat ca with rfl | ⟨a', x, rfl⟩
  · cases cb <;> simp
  · simp only [List.dropLast_concat]
    cases cb with
    | nil => simp
    | cons y cb' =>
      have hl : ¬ ((y :: cb' ++ [0]).length = 1) := by simp
      have hrd : rd (y :: cb' ++ [0]) 0 = .ok y := by simp [rd]
      simp only [hl, if_false, hrd, bind_ok, stripTrailingSlash, stripLeadingSlash, List.head?_cons, SLASH]
      by_cases hx : x = 47 <;> by_cases hy : y = 47 <;> simp [hx, hy]

theorem pathJoinFmt_eq (ca p : List Nat) (hca : 0 ∉ ca) (hp : 0 ∉ p) :
    pathJoinFmt (ca ++ [0]) p = .ok (joinSpec ca p ++ [0]) := by
  unfold pathJoinFmt joinSpec
  simp only [List.dropLast_concat]
  cases p with
  | nil => simp
  | cons y p' =>
    have hy0 : ¬ (0 = y) := fun e => hp (by simp [e])
    have hp'0 : 0 ∉ p' := fun e => hp (by simp [e])
    rcases List.eq_nil_or_concat ca with rfl | ⟨a', x, rfl⟩
    · simp [ensureNul_nulfree hp]
    · have ha'0 : 0 ∉ a' := fun e => hca (by simp [e])
      have hx0 : ¬ (0 = x) := fun e => hca (by simp [e])
      simp only [List.isEmpty_cons, Bool.false_eq_true, if_false, List.head?_cons, stripTrailingSlash,
        stripLeadingSlash, SLASH]
      by_cases hx : x = 47 <;> by_cases hy : y = 47 <;> simp [hx, hy, ensureNul_nulfree, ha'0, hp'0, hx0, hy0]

theorem joinSpec_nulfree (a b : List Nat) (ha : 0 ∉ a) (hb : 0 ∉ b) : 0 ∉ joinSpec a b := by
  have h1 : 0 ∉ stripTrailingSlash a := by
    unfold stripTrailingSlash; split
    · exact fun e => ha ((List.dropLast_sublist a).subset e)
    · exact ha
  have h2 : 0 ∉ stripLeadingSlash b := by
    unfold stripLeadingSlash; split
    · exact fun e => hb (List.mem_of_mem_drop e)
    · exact hb
  unfold joinSpec
  split
  · exact ha
  · split
    · exact hb
    · simp [h1, h2]

theorem isSuffix_terminated (co cs : List Nat) : isSuffix (co ++ [0]) (cs ++ [0]) = isSuffix co cs := by
  simp [isSuffix]

/-- the rendering of every `Arguments` shape is NUL-free when its pieces are -/
theorem nulfree_render (sh : FmtShape) {l x y : List Nat} (hl : 0 ∉ l) (hx : 0 ∉ x) (hy : 0 ∉ y) :
    0 ∉ render sh l x y := by
  cases sh <;> simp [render, hl, hx, hy]

theorem not_mem_replicate {a b : Nat} (n : Nat) (h : a ≠ b) : a ∉ List.replicate n b :=
  fun m => h (List.eq_of_mem_replicate m)

theorem replicate_ne_nil {n : Nat} (a : Nat) (h : 0 < n) : List.replicate n a ≠ [] := by
  intro e
  have := congrArg List.length e
  simp only [List.length_replicate, List.length_nil] at this
  omega

theorem snoc_ne_nil (l : List Nat) (a : Nat) : l ++ [a] ≠ [] := by simp

end TinyVerif.UnixStr
