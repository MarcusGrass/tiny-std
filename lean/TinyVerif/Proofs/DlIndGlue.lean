import TinyVerif.Proofs.DlIndSpec
import TinyVerif.Proofs.DlIndDvTop
import TinyVerif.Proofs.DlIndSmall
/-!
# Glue between the `WFS` / `AllocFacts` branch theorems and the `SInv` / `User` interface

Everything here keeps the segment list fixed: `s' = { s with h := H }`.  Tag `gl_` (the few `fr_` lemmas here are shared with
`Proofs/DlIndFree.lean`, which keeps their names).

## 1. `FenceOk` / `RecsOk` / `TailOk` under a change of the header table
  * `FenceTab es segs` — membership form of `FenceOk` (`gl_fenceOk_iff_tab`, needs `entsOk` only).
  * `gl_fenceOk_of_old` — workhorse: if every fencepost of the new table sits at the address of an old
    fencepost, and every header of the new table that ends at a fencepost is a fencepost / record / has the
    address and size of an old header, then `FenceOk` carries over.  No window needed.
  * `gl_fenceOk_window` (no fencepost in the new window, last header keeps address and end),
    `gl_fenceOk_window_last` (windows ending in a header that may be a fencepost: `add_segment`).
  * `gl_recsOk_of_kept`, `gl_recsOk_window`, `gl_recsOk_of_inusePreserved`, `gl_recsOk_except`.
  * `gl_tailOk_of_old`, `gl_tailOk_window`; `gl_record_cin`, `gl_not_record_of_free`.

## 2. table-level deltas (definitions first) and the bridges to `User`
  * `NonUserKept s es'`  — every in-use header of `s` that is a fencepost or a record is still there
                           (address, size, CINUSE)
  * `FencesOld es es'`   — every size-8 header of `es'` sits at the address of a size-8 header of `es`
  * `FreeAtTab es es' p`, `ResizeAtTab es es' p sz`  (+ `gl_freeAtTab_of_iff` for the `↔` form of `unuse_table`)
  * `gl_user_def`, `gl_user_iff_mem`, `gl_user_at`, `gl_user_frame` (pointwise frame: use it directly for
    `split_inuse` / `memalign_fix`, whose deltas are not one of the three below), `gl_user_not_record`
  * bridges `gl_alloc_of_allocFacts`, `gl_freed_of_freeAtTab`, `gl_resized_of_resizeAtTab`.

## 3. `SInv` from facts about the IN-USE headers only
  * `gl_sinv_of_kept : SInv s → WFS s' → NonUserKept s H.ents → FencesOld s.h.ents H.ents → SInv s'`
    — the general preservation theorem for every step that keeps the segment list.  Neither `FenceOk` nor
    `TailOk` of the new state needs information about the free headers of the new table
    (`gl_fenceOk_of_kept`, `gl_tailOk_of_kept`; tools: `gl_prev_entry`, `fr_ff_end`, `gl_tiles_cover`).
  * `gl_fencesOld_alloc / _free / _resize`, `gl_nonUserKept_of_inusePreserved / _except`
  * packaged: `gl_sinv_alloc`, `gl_sinv_freeAtTab`, `gl_sinv_resizeAtTab`
    (`WFS s'` + table delta ⟹ `SInv s'` + `Alloc` / `Freed` / `Resized`)
  * `malloc_dv_top` and the `small-bin` branch at this level: `gl_malloc_dv_top_sinv`,
    `gl_malloc_nosys_small_bin_sinv`.

## 4. `gl_liveOk_iff_user`
## 5. executable checkers `gl_recsOkB`, `gl_fenceOkB`, `gl_tailOkB`, … (`gl_inv_of_check`; all of them together:
      `fr_invB`, `fr_inv_of_check`) and a non-vacuity example on a two-segment state with fenceposts and a
      record chunk (`glState`).
-/
namespace TinyVerif.Dl

/-! ## 1. `FenceOk` and `RecsOk` when the table changes, the segment list fixed -/

/-- `isRecord` looks at the address only -/
theorem gl_isRecord_addr {segs : List Seg} {e e' : Ent} (h : e'.addr = e.addr) :
    isRecord segs e' = isRecord segs e := by
  unfold isRecord; rw [h]

theorem gl_isRecord_iff {segs : List Seg} {e : Ent} :
    isRecord segs e = true ↔ ∃ g ∈ segs, g.recAt = e.addr + 16 := by
  unfold isRecord; simp

/-- membership form of `FenceOk`: the header ending where a fencepost starts is a fencepost or a record -/
def FenceTab (es : List Ent) (segs : List Seg) : Prop :=
  ∀ x ∈ es, ∀ y ∈ es, y.size = 8 → y.addr = x.addr + x.size → x.size = 8 ∨ isRecord segs x = true

/-- in a sorted table, a header and the header starting at its end are neighbours in the list -/
theorem gl_adjacent_of_mem {es : List Ent} (hok : entsOk es = true) {x y : Ent} (hx : x ∈ es) (hy : y ∈ es)
    (ha : y.addr = x.addr + x.size) : ∃ pre post, es = pre ++ x :: y :: post := by
  obtain ⟨pre, rest, rfl⟩ := List.append_of_mem hx
  obtain ⟨h1, h2, h3⟩ := entsOk_append.1 hok
  have hxpos := entsOk_pos h2 x List.mem_cons_self
  rcases List.mem_append.1 hy with hy | hy
  · have := h3 y hy x List.mem_cons_self
    have := entsOk_pos h1 y hy
    omega
  · rcases List.mem_cons.1 hy with hy | hy
    · subst hy; omega
    · cases rest with
      | nil => cases hy
      | cons z post =>
        have hz := entsOk_head_le h2 z List.mem_cons_self
        have hzpos := entsOk_pos h2 z (by simp)
        rcases List.mem_cons.1 hy with hy | hy
        · subst hy; exact ⟨pre, post, rfl⟩
        · have := entsOk_head_le (entsOk_tail h2) y hy
          omega

theorem gl_fenceOk_iff_tab {s : St} (hok : entsOk s.h.ents = true) : FenceOk s ↔ FenceTab s.h.ents s.segs := by
  constructor
  · intro hf x hx y hy h8 ha
    obtain ⟨pre, post, hes⟩ := gl_adjacent_of_mem hok hx hy ha
    exact hf pre x y post hes h8 ha
  · intro hf pre x y post hes h8 ha
    exact hf x (by rw [hes]; simp) y (by rw [hes]; simp) h8 ha

/-- **the workhorse**: `FenceOk` carries over to a new table all of whose fenceposts sit at old fencepost
addresses and in which every header ending at a fencepost is a fencepost, a record, or has the address and
the size of an old header -/
theorem gl_fenceOk_of_old {s : St} {H : Heap} (hf : FenceOk s) (hok : entsOk s.h.ents = true)
    (hok' : entsOk H.ents = true)
    (h1 : ∀ y' ∈ H.ents, y'.size = 8 → ∃ y ∈ s.h.ents, y.addr = y'.addr ∧ y.size = 8)
    (h2 : ∀ x' ∈ H.ents, ∀ y' ∈ H.ents, y'.size = 8 → y'.addr = x'.addr + x'.size →
      x'.size = 8 ∨ isRecord s.segs x' = true ∨ ∃ x ∈ s.h.ents, x.addr = x'.addr ∧ x.size = x'.size) :
    FenceOk { s with h := H } := by
  have hf := (gl_fenceOk_iff_tab hok).1 hf
  refine (gl_fenceOk_iff_tab (s := { s with h := H }) hok').2 ?_
  intro x' hx' y' hy' h8 ha
  rcases h2 x' hx' y' hy' h8 ha with h | h | ⟨x, hx, hxa, hxs⟩
  · exact Or.inl h
  · exact Or.inr h
  · obtain ⟨y, hy, hya, hys⟩ := h1 y' hy' h8
    rcases hf x hx y hy hys (by rw [hya, ha, hxa, hxs]) with h | h
    · exact Or.inl (hxs ▸ h)
    · exact Or.inr (by rw [gl_isRecord_addr hxa.symm]; exact h)

/-- the variant for windows that END in a header which may be a fencepost (`add_segment`): new window
`ws' ++ [b']`, old window `ws ++ [b]`, `b'` has the address and size of `b`, no header of `ws'` is a
fencepost, and — if `b'` is a fencepost — the header of the new table ending at `b'` is a fencepost or
a record (a local obligation). -/
theorem gl_fenceOk_window_last {s : St} {H : Heap} (hf : FenceOk s) {pre post ws ws' : List Ent} {b b' : Ent}
    (hes : s.h.ents = pre ++ (ws ++ [b]) ++ post) (hH : H.ents = pre ++ (ws' ++ [b']) ++ post)
    (hok : entsOk s.h.ents = true) (hok' : entsOk H.ents = true)
    (h8 : ∀ y ∈ ws', y.size ≠ 8) (hba : b'.addr = b.addr) (hbs : b'.size = b.size)
    (hb : b'.size = 8 → ∀ x ∈ pre ++ ws', b'.addr = x.addr + x.size → x.size = 8 ∨ isRecord s.segs x = true) :
    FenceOk { s with h := H } := by
  have hbm : b ∈ s.h.ents := by rw [hes]; simp
  refine gl_fenceOk_of_old hf hok hok' ?_ ?_
  · intro y' hy' hy8
    rw [hH] at hy'
    simp only [List.mem_append, List.mem_singleton] at hy'
    rcases hy' with (h | h | h) | h
    · exact ⟨y', by rw [hes]; simp [h], rfl, hy8⟩
    · exact absurd hy8 (h8 y' h)
    · subst h; exact ⟨b, hbm, hba.symm, by omega⟩
    · exact ⟨y', by rw [hes]; simp [h], rfl, hy8⟩
  · intro x' hx' y' hy' hy8 ha
    rw [hH] at hx' hy' hok'
    obtain ⟨q1, q2, q3⟩ := entsOk_append.1 hok'
    obtain ⟨q4, q5, q6⟩ := entsOk_append.1 q1
    obtain ⟨q7, q8, q9⟩ := entsOk_append.1 q5
    have hx'pos : 0 < x'.size := entsOk_pos hok' x' hx'
    simp only [List.mem_append, List.mem_singleton] at hx' hy'
    -- where is the fencepost?
    rcases hy' with (hy | hy | hy) | hy
    · -- in `pre`: so is its predecessor
      rcases hx' with (h | h | h) | h
      · exact Or.inr (Or.inr ⟨x', by rw [hes]; simp [h], rfl, rfl⟩)
      · have := q6 y' hy x' (List.mem_append.2 (Or.inl h)); have := entsOk_pos q4 y' hy; omega
      · subst h; have := q6 y' hy x' (by simp); have := entsOk_pos q4 y' hy; omega
      · have := q3 y' (by simp [hy]) x' h; have := entsOk_pos q4 y' hy; omega
    · exact absurd hy8 (h8 y' hy)
    · -- the fencepost is `b'`
      subst hy
      rcases hx' with (h | h | h) | h
      · rcases hb hy8 x' (by simp [h]) ha with h | h
        · exact Or.inl h
        · exact Or.inr (Or.inl h)
      · rcases hb hy8 x' (by simp [h]) ha with h | h
        · exact Or.inl h
        · exact Or.inr (Or.inl h)
      · subst h; omega
      · have := q3 y' (by simp) x' h; have := entsOk_pos q1 y' (by simp); omega
    · -- in `post`
      rcases hx' with (h | h | h) | h
      · exact Or.inr (Or.inr ⟨x', by rw [hes]; simp [h], rfl, rfl⟩)
      · have h1 := q9 x' h b' (by simp)
        have h2 := q3 b' (by simp) y' hy
        have := entsOk_pos q8 b' (by simp)
        omega
      · subst h; exact Or.inr (Or.inr ⟨b, hbm, hba.symm, hbs.symm⟩)
      · exact Or.inr (Or.inr ⟨x', by rw [hes]; simp [h], rfl, rfl⟩)

theorem gl_eq_snoc_lastE (m : Ent) (ms : List Ent) : ∃ ws, m :: ms = ws ++ [lastE m ms] := by
  induction ms generalizing m with
  | nil => exact ⟨[], rfl⟩
  | cons z zs ih =>
    obtain ⟨ws, h⟩ := ih z
    exact ⟨m :: ws, by simp only [lastE, List.cons_append, ← h]⟩

/-- **`FenceOk` under window replacement.**  The new window contains no fencepost, its last header has
the address and the end of the old last header (so the "record" status of the header a following
fencepost looks at is unchanged). -/
theorem gl_fenceOk_window {s : St} {H : Heap} (hf : FenceOk s) {pre post : List Ent} {m m' : Ent} {ms ms' : List Ent}
    (hes : s.h.ents = pre ++ (m :: ms) ++ post) (hH : H.ents = pre ++ (m' :: ms') ++ post)
    (hok : entsOk s.h.ents = true) (hok' : entsOk H.ents = true)
    (h8 : ∀ y ∈ m' :: ms', y.size ≠ 8)
    (hla : (lastE m' ms').addr = (lastE m ms).addr) (hend : endE m' ms' = endE m ms) :
    FenceOk { s with h := H } := by
  obtain ⟨ws, hw⟩ := gl_eq_snoc_lastE m ms
  obtain ⟨ws', hw'⟩ := gl_eq_snoc_lastE m' ms'
  have hb8 : (lastE m' ms').size ≠ 8 := h8 _ (lastE_mem m' ms')
  refine gl_fenceOk_window_last hf (hw ▸ hes) (hw' ▸ hH) hok hok'
    (fun y hy => h8 y (hw' ▸ List.mem_append.2 (Or.inl hy))) hla ?_ (fun h => absurd h hb8)
  simp only [endE] at hend
  omega

/-! ### `RecsOk` -/

/-- `RecsOk` needs only that the in-use headers holding a segment record stay in-use headers -/
theorem gl_recsOk_of_kept {s : St} {H : Heap} (hr : RecsOk s)
    (hk : ∀ e ∈ s.h.ents, e.cin = true → isRecord s.segs e = true →
      ∃ e', findEnt H.ents e.addr = some e' ∧ e'.cin = true) :
    RecsOk { s with h := H } := by
  intro g hg hne
  obtain ⟨h16, e, he, hc⟩ := hr g hg hne
  obtain ⟨hm, ha⟩ := findEnt_some he
  have hrec : isRecord s.segs e = true := gl_isRecord_iff.2 ⟨g, hg, by omega⟩
  obtain ⟨e', he', hc'⟩ := hk e hm hc hrec
  exact ⟨h16, e', ha ▸ he', hc'⟩

theorem gl_recsOk_of_inusePreserved {s : St} {H : Heap} (hr : RecsOk s) (hk : InusePreserved s.h.ents H.ents) :
    RecsOk { s with h := H } := hr.preserved hk

/-- window form: record headers inside the window keep address and CINUSE -/
theorem gl_recsOk_window {s : St} {H : Heap} (hr : RecsOk s) {pre mid mid' post : List Ent}
    (hes : s.h.ents = pre ++ mid ++ post) (hH : H.ents = pre ++ mid' ++ post) (hok' : entsOk H.ents = true)
    (hmid : ∀ e ∈ mid, e.cin = true → isRecord s.segs e = true → ∃ e' ∈ mid', e'.addr = e.addr ∧ e'.cin = true) :
    RecsOk { s with h := H } := by
  refine gl_recsOk_of_kept hr ?_
  intro e he hc hrec
  rw [hes] at he
  simp only [List.mem_append] at he
  rcases he with (h | h) | h
  · exact ⟨e, entsOk_find e (by rw [hH]; simp [h]) hok', hc⟩
  · obtain ⟨e', he', h1, h2⟩ := hmid e h hc hrec
    exact ⟨e', h1 ▸ entsOk_find e' (by rw [hH]; simp [he']) hok', h2⟩
  · exact ⟨e, entsOk_find e (by rw [hH]; simp [h]) hok', hc⟩

/-- every in-use header other than the one at `p` is preserved, and `p` holds no record -/
theorem gl_recsOk_except {s : St} {H : Heap} (hr : RecsOk s) {p : Nat}
    (hp : ∀ e ∈ s.h.ents, e.addr = p → isRecord s.segs e = false)
    (hk : ∀ e ∈ s.h.ents, e.cin = true → e.addr ≠ p → ∃ e', findEnt H.ents e.addr = some e' ∧ e'.cin = true) :
    RecsOk { s with h := H } := by
  refine gl_recsOk_of_kept hr ?_
  intro e he hc hrec
  refine hk e he hc ?_
  intro hea
  rw [hp e he hea] at hrec
  cases hrec

/-! ### `TailOk` -/

/-- a segment record lives in an in-use header, so a header with CINUSE clear holds no record -/
theorem gl_record_cin {s : St} (hr : RecsOk s) (hok : entsOk s.h.ents = true) {x : Ent} (hx : x ∈ s.h.ents)
    (h : isRecord s.segs x = true) : x.cin = true := by
  obtain ⟨g, hg, hga⟩ := gl_isRecord_iff.1 h
  obtain ⟨_, e, he, hce⟩ := hr g hg (by omega)
  rw [hga, Nat.add_sub_cancel, entsOk_find x hx hok] at he
  injection he with he
  subst he
  exact hce

theorem gl_not_record_of_free {s : St} (hr : RecsOk s) (hok : entsOk s.h.ents = true) {x : Ent} (hx : x ∈ s.h.ents)
    (hc : x.cin = false) : isRecord s.segs x = false := by
  cases h : isRecord s.segs x with
  | false => rfl
  | true => rw [gl_record_cin hr hok hx h] at hc; cases hc

/-- workhorse: every header of the new table in a non-head segment is a fencepost, a record, or ends no
later than an old header of the same segment that is neither -/
theorem gl_tailOk_of_old {s : St} {H : Heap} (ht : TailOk s)
    (h : ∀ g ∈ s.segs, g.recAt ≠ 0 → ∀ e' ∈ H.ents, inSeg g e' = true →
      e'.size = 8 ∨ isRecord s.segs e' = true ∨
        ∃ e ∈ s.h.ents, inSeg g e = true ∧ e'.addr + e'.size ≤ e.addr + e.size ∧
          (e.size = 8 ∨ isRecord s.segs e = true → e'.addr = e.addr ∧ e'.size = e.size)) :
    TailOk { s with h := H } := by
  intro g hg hne e' he' hge'
  rcases h g hg hne e' he' hge' with h1 | h1 | ⟨e, he, hge, hle, himp⟩
  · exact Or.inl h1
  · exact Or.inr (Or.inl h1)
  · rcases ht g hg hne e he hge with h2 | h2 | h2
    · exact Or.inl (by rw [(himp (Or.inl h2)).2]; exact h2)
    · refine Or.inr (Or.inl ?_)
      have : isRecord s.segs e' = isRecord s.segs e := gl_isRecord_addr (himp (Or.inr h2)).1
      rw [this]; exact h2
    · exact Or.inr (Or.inr (by omega))

/-- **`TailOk` under window replacement.**  The old window `m :: ms` lies in the segment `g`; every new
header lies inside the address range of the old window (`ha`) and ends no later than some old header `e`
of the window; if that `e` is a fencepost or a record, the new header is `e` (same address and size).
(`exhaust`: `nx ⊆ x`, `ny = y`; `split`: `np, nr ⊆ x`, `ny = y`; `unuse`: `fx = x`, `ny = y`; `merge`:
`m` ends with the free `z` — `gl_not_record_of_free` —, `ny = y`.) -/
theorem gl_tailOk_window {s : St} {H : Heap} (ht : TailOk s) (w : WFS s) {pre post : List Ent} {m m' : Ent}
    {ms ms' : List Ent} (hes : s.h.ents = pre ++ (m :: ms) ++ post) (hH : H.ents = pre ++ (m' :: ms') ++ post)
    (hok' : entsOk H.ents = true) {g : Seg} (hg : g ∈ s.segs) (hgm : ∀ e ∈ m :: ms, inSeg g e = true)
    (ha : ∀ e' ∈ m' :: ms', m.addr ≤ e'.addr ∧ e'.addr + e'.size ≤ endE m ms)
    (hin : ∀ e' ∈ m' :: ms', e'.size = 8 ∨ isRecord s.segs e' = true ∨
      ∃ e ∈ m :: ms, e'.addr + e'.size ≤ e.addr + e.size ∧
        (e.size = 8 ∨ isRecord s.segs e = true → e'.addr = e.addr ∧ e'.size = e.size)) :
    TailOk { s with h := H } := by
  have hmid : ∀ e ∈ m :: ms, e ∈ s.h.ents := fun e he => by
    rw [hes]; exact List.mem_append.2 (Or.inl (List.mem_append.2 (Or.inr he)))
  refine gl_tailOk_of_old ht ?_
  intro g' hg' hne e' he' hge'
  have he'pos := entsOk_pos hok' e' he'
  rw [hH] at he'
  by_cases hw : e' ∈ m' :: ms'
  · -- a new header: it lies in `g`
    have hl := lastE_mem m ms
    have hgl := w.struct.in_seg hg (hmid _ hl) (hgm _ hl)
    have hgm0 := inSeg_iff.1 (hgm m List.mem_cons_self)
    obtain ⟨a1, a2⟩ := ha e' hw
    simp only [endE] at a2
    have i1 := inSeg_iff.1 hge'
    have hgg : g = g' := by
      rcases segsDisjoint_pair w.segsDisjoint g hg g' hg' with h | h | h
      · exact h
      · have := entsOk_pos (w.struct.ents) _ (hmid _ hl); omega
      · omega
    subst hgg
    rcases hin e' hw with h | h | ⟨e, he, hle, himp⟩
    · exact Or.inl h
    · exact Or.inr (Or.inl h)
    · exact Or.inr (Or.inr ⟨e, hmid e he, hgm e he, hle, himp⟩)
  · refine Or.inr (Or.inr ⟨e', ?_, hge', Nat.le_refl _, fun _ => ⟨rfl, rfl⟩⟩)
    rw [hes]
    simp only [List.mem_append] at he' ⊢
    rcases he' with (h | h) | h
    · exact Or.inl (Or.inl h)
    · exact absurd h hw
    · exact Or.inr h

/-! ## 2. table-level deltas and the bridges to `User` -/

/-- every in-use header of `s` that is no user chunk (a fencepost or the chunk holding a segment record)
is still an in-use header of the same size in `es'` -/
def NonUserKept (s : St) (es' : List Ent) : Prop :=
  ∀ x ∈ s.h.ents, x.cin = true → (x.size = 8 ∨ isRecord s.segs x = true) →
    ∃ x', findEnt es' x.addr = some x' ∧ x'.size = x.size ∧ x'.cin = true

/-- every fencepost (size-8 header) of `es'` sits at the address of a fencepost of `es` -/
def FencesOld (es es' : List Ent) : Prop :=
  ∀ y' ∈ es', y'.size = 8 → ∃ y ∈ es, y.addr = y'.addr ∧ y.size = 8

/-- the in-use header at `p` became free or was merged away: no new in-use address, `p` is no in-use
address any more, every other in-use header is preserved with its size.  (`cin` is the direction that
is needed; the converse for `a ≠ p` follows from `kept`.  `gl_freeAtTab_of_iff` builds it from the
`↔` form that `unuse_table` returns.) -/
structure FreeAtTab (es es' : List Ent) (p : Nat) : Prop where
  cin : ∀ a, a ∈ cinSet es' → a ∈ cinSet es ∧ a ≠ p
  kept : ∀ e ∈ es, e.cin = true → e.addr ≠ p →
    ∃ e', findEnt es' e.addr = some e' ∧ e'.size = e.size ∧ e'.cin = true

/-- the in-use header at `p` now has size `sz`; no new in-use address; every other in-use header is
preserved with its size -/
structure ResizeAtTab (es es' : List Ent) (p sz : Nat) : Prop where
  cin : ∀ a, a ∈ cinSet es' → a = p ∨ a ∈ cinSet es
  here : ∃ e', findEnt es' p = some e' ∧ e'.cin = true ∧ e'.size = sz
  kept : ∀ e ∈ es, e.cin = true → e.addr ≠ p →
    ∃ e', findEnt es' e.addr = some e' ∧ e'.size = e.size ∧ e'.cin = true

theorem gl_freeAtTab_of_iff {es es' : List Ent} {p : Nat}
    (h1 : ∀ a, a ∈ cinSet es' ↔ a ∈ cinSet es ∧ a ≠ p)
    (h2 : ∀ e ∈ es, e.cin = true → e.addr ≠ p →
      ∃ e', findEnt es' e.addr = some e' ∧ e'.size = e.size ∧ e'.cin = true) : FreeAtTab es es' p :=
  ⟨fun a => (h1 a).1, h2⟩

/-! ### `User` -/

theorem gl_user_def {s : St} {H : Heap} {a z : Nat} :
    User { s with h := H } a z ↔
      ∃ e, findEnt H.ents a = some e ∧ e.cin = true ∧ e.size = z ∧ z ≠ 8 ∧ isRecord s.segs e = false := Iff.rfl

theorem gl_user_iff_mem {s : St} (hok : entsOk s.h.ents = true) {a z : Nat} :
    User s a z ↔ ∃ e ∈ s.h.ents, e.addr = a ∧ e.cin = true ∧ e.size = z ∧ z ≠ 8 ∧ isRecord s.segs e = false := by
  constructor
  · rintro ⟨e, he, h⟩
    exact ⟨e, (findEnt_some he).1, (findEnt_some he).2, h⟩
  · rintro ⟨e, he, ha, h⟩
    exact ⟨e, ha ▸ entsOk_find e he hok, h⟩

theorem gl_user_cin {s : St} {a z : Nat} (h : User s a z) : a ∈ cinSet s.h.ents := by
  obtain ⟨e, he, hc, _⟩ := h
  exact mem_cinSet.2 ⟨e, (findEnt_some he).1, hc, (findEnt_some he).2⟩

theorem gl_user_size {s : St} {a z z' : Nat} (h : User s a z) (h' : User s a z') : z = z' := by
  obtain ⟨e, he, _, hz, _⟩ := h
  obtain ⟨e', he', _, hz', _⟩ := h'
  rw [he] at he'
  injection he' with he'
  subst he'
  omega

/-- whether the header at `a` is a record depends on `a` only -/
theorem gl_user_not_record {s : St} {a z : Nat} (h : User s a z) : ∀ e : Ent, e.addr = a → isRecord s.segs e = false := by
  obtain ⟨e0, he0, _, _, _, hr⟩ := h
  intro e hea
  rw [gl_isRecord_addr (e := e0) (by rw [hea, (findEnt_some he0).2])]
  exact hr

/-- the user chunk at `a` is described by the header found there -/
theorem gl_user_at {s : St} {a : Nat} {e : Ent} (he : findEnt s.h.ents a = some e) (hc : e.cin = true)
    (h8 : e.size ≠ 8) (hr : isRecord s.segs e = false) {z : Nat} : User s a z ↔ z = e.size := by
  constructor
  · rintro ⟨e', he', _, hz, _⟩
    rw [he] at he'
    injection he' with he'
    subst he'
    exact hz.symm
  · intro hz
    exact ⟨e, he, hc, hz.symm, by omega, hr⟩

/-- **frame**, pointwise in the address: if the in-use header at `a` (if any) is preserved with its size
and `a` is not a new in-use address, then "user chunk at `a`" means the same before and after -/
theorem gl_user_frame {s : St} {H : Heap} (hok : entsOk s.h.ents = true) {a : Nat}
    (h1 : a ∈ cinSet H.ents → a ∈ cinSet s.h.ents)
    (h2 : ∀ e ∈ s.h.ents, e.addr = a → e.cin = true →
      ∃ e', findEnt H.ents a = some e' ∧ e'.size = e.size ∧ e'.cin = true) {z : Nat} :
    User { s with h := H } a z ↔ User s a z := by
  constructor
  · intro hu
    have hca := h1 (gl_user_cin hu)
    obtain ⟨e2, he2, hc2, hz2, h8, hr2⟩ := hu
    obtain ⟨e, he, hc, hea⟩ := mem_cinSet.1 hca
    obtain ⟨e', he', hs', _⟩ := h2 e he hea hc
    change findEnt H.ents a = some e2 at he2
    rw [he2] at he'
    injection he' with he'
    subst he'
    refine ⟨e, hea ▸ entsOk_find e he hok, hc, by omega, h8, ?_⟩
    rw [gl_isRecord_addr (e := e2) (by rw [hea, (findEnt_some he2).2])]
    exact hr2
  · rintro ⟨e, he, hc, hz, h8, hr⟩
    obtain ⟨hm, hea⟩ := findEnt_some he
    obtain ⟨e', he', hs', hc'⟩ := h2 e hm hea hc
    refine ⟨e', he', hc', by omega, h8, ?_⟩
    rw [gl_isRecord_addr (e := e) (by rw [hea, (findEnt_some he').2])]
    exact hr

/-! ### the three bridges -/

theorem gl_user_away {s : St} {H : Heap} (hok : entsOk s.h.ents = true) {P : Nat → Prop}
    (hcin : ∀ a, a ∈ cinSet H.ents → P a ∨ a ∈ cinSet s.h.ents)
    (hkept : ∀ e ∈ s.h.ents, e.cin = true → ¬ P e.addr →
      ∃ e', findEnt H.ents e.addr = some e' ∧ e'.size = e.size ∧ e'.cin = true)
    {a z : Nat} (hap : ¬ P a) : User { s with h := H } a z ↔ User s a z := by
  refine gl_user_frame hok (fun h => (hcin a h).resolve_left hap) ?_
  intro e he hea hc
  obtain ⟨e2, he2, hs2, hc2⟩ := hkept e he hc (hea ▸ hap)
  exact ⟨e2, hea ▸ he2, hs2, hc2⟩

/-- `AllocFacts` ⟹ `Alloc` -/
theorem gl_alloc_of_allocFacts {s : St} (w : WFS s) (hr : RecsOk s) {H : Heap}
    {nb mem : Nat} (hf : AllocFacts s.h.ents H.ents nb mem) (hnb : 8 < nb) :
    Alloc s { s with h := H } nb mem := by
  obtain ⟨p, hmem, ⟨x, hxm, hxa, hxf, _, e', he', hc', hs1, _⟩, hcin, hkept⟩ := hf
  subst hmem
  have hfx : findEnt s.h.ents p = some x := hxa ▸ entsOk_find x hxm w.ents
  obtain ⟨hxc, _⟩ := isFree_iff.1 hxf
  obtain ⟨hx16, _, _⟩ := shapeOk_free w.shape hxm hxc
  have hnou : ∀ z, ¬ User s p z := by
    rintro z ⟨e, he, hc, _⟩
    obtain rfl := Option.some.inj (hfx.symm.trans he)
    rw [hxc] at hc; cases hc
  have hnorec : isRecord s.segs e' = false :=
    (gl_isRecord_addr ((findEnt_some he').2.trans hxa.symm)).trans (gl_not_record_of_free hr w.ents hxm hxc)
  unfold Alloc
  rw [Nat.add_sub_cancel]
  refine ⟨Nat.le_add_left _ _, mod16_add (hxa ▸ hx16) rfl, hnou, e'.size, hs1, ?_⟩
  intro a z
  by_cases hap : a = p
  · subst hap
    rw [gl_user_at (s := { s with h := H }) he' hc' (Nat.ne_of_gt (Nat.lt_of_lt_of_le hnb hs1)) hnorec]
    exact ⟨fun h => Or.inr ⟨rfl, h⟩, fun h => h.elim (fun hu => absurd hu (hnou z)) (·.2)⟩
  · rw [gl_user_away (P := (· = p)) w.ents (fun a h => (hcin a).1 h) (fun e he hc _ => hkept e he hc) hap]
    exact ⟨Or.inl, fun h => h.elim id (fun h => absurd h.1 hap)⟩

/-- `FreeAtTab` ⟹ `Freed` -/
theorem gl_freed_of_freeAtTab {s : St} {H : Heap} (hok : entsOk s.h.ents = true)
    {p : Nat} (hf : FreeAtTab s.h.ents H.ents p) : Freed s { s with h := H } (p + 16) := by
  intro a z
  rw [Nat.add_sub_cancel]
  by_cases hap : a = p
  · subst hap
    exact ⟨fun hu => absurd rfl ((hf.cin a (gl_user_cin hu)).2), fun h => absurd rfl h.2⟩
  · rw [gl_user_away (P := (· = p)) hok (fun a h => Or.inr (hf.cin a h).1) hf.kept hap]
    exact ⟨fun h => ⟨h, hap⟩, fun h => h.1⟩

/-- `ResizeAtTab` ⟹ `Resized`; `hrec` e.g. from `gl_user_not_record` -/
theorem gl_resized_of_resizeAtTab {s : St} {H : Heap} (hok : entsOk s.h.ents = true)
    {p sz nb : Nat} (hf : ResizeAtTab s.h.ents H.ents p sz) (hnb : nb ≤ sz) (h8 : sz ≠ 8)
    (hrec : ∀ e : Ent, e.addr = p → isRecord s.segs e = false) : Resized s { s with h := H } p nb := by
  obtain ⟨e', he', hc', hs'⟩ := hf.here
  refine ⟨sz, hnb, ?_⟩
  intro a z
  by_cases hap : a = p
  · subst hap
    rw [gl_user_at (s := { s with h := H }) he' hc' (hs' ▸ h8) (hrec e' (findEnt_some he').2), hs']
    exact ⟨fun h => Or.inr ⟨rfl, h⟩, fun h => h.elim (fun h => absurd rfl h.1) (·.2)⟩
  · rw [gl_user_away (P := (· = p)) hok hf.cin hf.kept hap]
    exact ⟨fun h => Or.inl ⟨hap, h⟩, fun h => h.elim (·.2) (fun h => absurd h.1 hap)⟩

/-! ### `NonUserKept` / `FencesOld` from the three table-level deltas -/

theorem gl_fence_cin {es : List Ent} (h : shapeOk es = true) {y : Ent} (hy : y ∈ es) (h8 : y.size = 8) :
    y.cin = true ∧ y.pin = true := by
  rcases shapeOk_mem h hy with h1 | h1
  · exact h1.2
  · omega

theorem gl_nonUserKept_of_inusePreserved {s : St} {es' : List Ent} (hk : InusePreserved s.h.ents es') :
    NonUserKept s es' := fun x hx hc _ => hk x hx hc

/-- all in-use headers but the (user) one at `p` are preserved -/
theorem gl_nonUserKept_except {s : St} {es' : List Ent} {p : Nat}
    (hp : ∀ e ∈ s.h.ents, e.addr = p → e.size ≠ 8 ∧ isRecord s.segs e = false)
    (hk : ∀ e ∈ s.h.ents, e.cin = true → e.addr ≠ p →
      ∃ e', findEnt es' e.addr = some e' ∧ e'.size = e.size ∧ e'.cin = true) : NonUserKept s es' := by
  intro x hx hc hnu
  refine hk x hx hc ?_
  intro hxa
  obtain ⟨h1, h2⟩ := hp x hx hxa
  rcases hnu with h | h
  · exact h1 h
  · rw [h2] at h; cases h

/-- what `User s p z` says about the header at `p`, in the form `gl_nonUserKept_except` wants -/
theorem gl_user_except {s : St} (hok : entsOk s.h.ents = true) {p z : Nat} (hu : User s p z) :
    ∀ e ∈ s.h.ents, e.addr = p → e.size ≠ 8 ∧ isRecord s.segs e = false := by
  intro e he hea
  refine ⟨?_, gl_user_not_record hu e hea⟩
  obtain ⟨e0, he0, _, hz, h8, _⟩ := hu
  have := entsOk_find e he hok
  rw [hea, he0] at this
  injection this with this
  subst this
  omega

/-! ## 3. `SInv` from table-level facts about the in-use headers only

`FenceOk` of the new state needs no information about the free headers of the new table: a header that
ends at a fencepost is in use (boundary tags), except across a segment boundary, where only the foot
word after `top` can end a segment without being a fencepost. -/

/-- **predecessor header**: a header that is not the first of its segment is preceded by the header
ending exactly where it starts, in the same segment, and the boundary-tag link between the two holds -/
theorem gl_prev_entry {es : List Ent} {segs : List Seg} {top : Nat} (h : StructOk es segs top)
    {y : Ent} (hy : y ∈ es) {g : Seg} (hg : g ∈ segs) (hgy : inSeg g y = true) (hnb : y.addr ≠ g.base) :
    ∃ x ∈ es, inSeg g x = true ∧ y.addr = x.addr + x.size ∧ linkOk top x y = true := by
  have hys : y ∈ segEnts es g := mem_segEnts.2 ⟨hy, hgy⟩
  obtain ⟨l1, r, hsp⟩ := List.append_of_mem hys
  have ht := h.tiles_of hg
  have htg := h.tags_of hg
  rw [hsp] at ht htg
  rcases List.eq_nil_or_concat l1 with h0 | ⟨L, x, h0⟩
  · subst h0
    exact absurd (tiles_head_addr ht) hnb
  · subst h0
    have hxs : x ∈ segEnts es g := by rw [hsp]; simp
    obtain ⟨hxm, hgx⟩ := mem_segEnts.1 hxs
    have e1 : L.concat x ++ y :: r = L ++ x :: y :: r := by simp
    rw [e1] at ht htg
    obtain ⟨a', ht'⟩ := tiles_drop_prefix L ht
    simp only [tiles, Bool.and_eq_true, decide_eq_true_eq] at ht'
    have hya := tiles_head_addr ht'.2
    have hl := ((tagsOk_split top true L x (y :: r)).1 htg).2
    simp only [tagsFrom, Bool.and_eq_true] at hl
    exact ⟨x, hxm, hgx, by omega, hl.1⟩

theorem gl_link_ff {top : Nat} {a c : Ent} (h : linkOk top a c = true) (hc : c.cin = false) (hp : c.pin = false) :
    (a.cin = false ∧ a.pin = false) ∨ (isFree a = true ∧ a.addr = top) := by
  unfold linkOk at h
  simp only [Bool.and_eq_true, beq_iff_eq] at h
  obtain ⟨h1, h2⟩ := h
  have hac : a.cin = false := by rw [← h1, hp]
  cases hap : a.pin with
  | false => exact Or.inl ⟨hac, rfl⟩
  | true =>
    have hf : isFree a = true := by simp [isFree, hac, hap]
    rw [hf] at h2
    simp only [if_true] at h2
    by_cases ht : a.addr = top
    · exact Or.inr ⟨hf, ht⟩
    · rw [if_neg ht, hc] at h2
      simp at h2

/-- two segments of a disjoint list that share an address are the same segment -/
theorem gl_seg_unique {segs : List Seg} (hd : segsDisjoint segs = true) {g g' : Seg} (hg : g ∈ segs) (hg' : g' ∈ segs)
    {e e' : Ent} (h1 : inSeg g e = true) (h2 : inSeg g' e' = true) (ha : e'.addr = e.addr) : g = g' := by
  rcases segsDisjoint_pair hd g hg g' hg' with h | h | h
  · exact h
  · have := inSeg_iff.1 h1; have := inSeg_iff.1 h2; omega
  · have := inSeg_iff.1 h1; have := inSeg_iff.1 h2; omega

theorem fr_entsOk_filter {es : List Ent} (h : entsOk es = true) (p : Ent → Bool) : entsOk (es.filter p) = true := by
  rw [entsOk_iff] at h ⊢
  exact ⟨fun e he => h.1 e (List.mem_filter.1 he).1, h.2.sublist List.filter_sublist⟩

/-- in a sorted boundary-tag chain a header with both flag bits clear comes right after another such header
or after `top`, which lies below it -/
theorem fr_tagsFrom_ff_lt {top : Nat} {r : List Ent} : ∀ {a : Ent}, tagsFrom top a r = true →
    entsOk (a :: r) = true → ∀ x ∈ r, x.cin = false → x.pin = false →
      (a.cin = false ∧ a.pin = false) ∨ ∃ t ∈ a :: r, isFree t = true ∧ t.addr = top ∧ t.addr < x.addr := by
  induction r with
  | nil => intro a _ _ x hx; cases hx
  | cons c r' ih =>
    intro a h hok x hx hxc hxp
    simp only [tagsFrom, Bool.and_eq_true] at h
    have hac : a.addr < c.addr := by
      have := entsOk_head_le hok c List.mem_cons_self
      have := entsOk_pos hok a List.mem_cons_self
      omega
    have key : c.cin = false → c.pin = false →
        (a.cin = false ∧ a.pin = false) ∨ (isFree a = true ∧ a.addr = top) := fun h1 h2 => gl_link_ff h.1 h1 h2
    rcases List.mem_cons.1 hx with hx | hx
    · subst hx
      rcases key hxc hxp with h3 | h3
      · exact Or.inl h3
      · exact Or.inr ⟨a, List.mem_cons_self, h3.1, h3.2, hac⟩
    · have hcx : c.addr < x.addr := by
        have := entsOk_head_le (entsOk_tail hok) x hx
        have := entsOk_pos (entsOk_tail hok) c List.mem_cons_self
        omega
      rcases ih h.2 (entsOk_tail hok) x hx hxc hxp with h3 | ⟨t, ht, h3⟩
      · rcases key h3.1 h3.2 with h4 | h4
        · exact Or.inl h4
        · exact Or.inr ⟨a, List.mem_cons_self, h4.1, h4.2, by omega⟩
      · exact Or.inr ⟨t, List.mem_cons_of_mem _ ht, h3⟩

/-- **a header with both flag bits clear is the last header of the head segment** (it is the foot word after
`top`) -/
theorem fr_ff_end {s : St} (w : WFS s) {x : Ent} (hx : x ∈ s.h.ents) (hxc : x.cin = false) (hxp : x.pin = false) :
    ∃ g rest, s.segs = g :: rest ∧ inSeg g x = true ∧ x.addr + x.size = g.base + g.size := by
  obtain ⟨g1, hg1, hgx⟩ := w.struct.seg_of hx
  have htg := w.struct.tags_of hg1
  have hxs : x ∈ segEnts s.h.ents g1 := mem_segEnts.2 ⟨hx, hgx⟩
  have hoks : entsOk (segEnts s.h.ents g1) = true := fr_entsOk_filter w.ents _
  -- `top` lies below `x`, in the same segment
  have htop : ∃ t ∈ segEnts s.h.ents g1, isFree t = true ∧ t.addr = s.h.top ∧ t.addr < x.addr := by
    cases hl : segEnts s.h.ents g1 with
    | nil => rw [hl] at hxs; cases hxs
    | cons a r =>
      rw [hl] at htg hxs hoks
      obtain ⟨h1, h2⟩ := (tagsOk_cons_iff _ true a r).1 htg
      rcases List.mem_cons.1 hxs with hxa | hxr
      · subst hxa; rw [hxp] at h1; cases h1
      · rcases fr_tagsFrom_ff_lt h2 hoks x hxr hxc hxp with h3 | h3
        · rw [h3.2] at h1; cases h1
        · exact h3
  obtain ⟨t, hts, htf, hta, htlt⟩ := htop
  obtain ⟨htm, hgt⟩ := mem_segEnts.1 hts
  obtain ⟨g, rest, pre, xt, f, post, hsegs, hes, hxta, _, hxts, hfa, _, _, hfs, _, hend, _, hgxt, hgf⟩ :=
    w.top_parts (w.topsize_ne hg1)
  have hg : g ∈ s.segs := by rw [hsegs]; exact List.mem_cons_self
  have hgg : g = g1 := gl_seg_unique w.segsDisjoint hg hg1 hgxt hgt (by rw [hta, hxta])
  subst hgg
  have hxtm : xt ∈ s.h.ents := by rw [hes]; simp
  have hfm : f ∈ s.h.ents := by rw [hes]; simp
  have hsep := entsOk_sep w.ents
  have h1 := hsep xt hxtm x hx (by omega)
  have hin := w.struct.in_seg hg hx hgx
  have hxpos := entsOk_pos w.ents x hx
  refine ⟨g, rest, hsegs, hgx, ?_⟩
  rcases Nat.lt_trichotomy x.addr f.addr with h | h | h
  · omega
  · have := entsOk_addr_inj w.ents hx hfm h
    subst this
    omega
  · have := hsep f hfm x hx h
    omega

theorem gl_overlap_eq {es : List Ent} (hok : entsOk es = true) {u v : Ent} (hu : u ∈ es) (hv : v ∈ es)
    (h1 : u.addr < v.addr + v.size) (h2 : v.addr < u.addr + u.size) : u = v := by
  have hsep := entsOk_sep hok
  rcases Nat.lt_trichotomy u.addr v.addr with h | h | h
  · have := hsep u hu v hv h; omega
  · exact entsOk_addr_inj hok hu hv h
  · have := hsep v hv u hu h; omega

/-- **`FenceOk` from facts about in-use headers only** -/
theorem gl_fenceOk_of_kept {s : St} (hi : SInv s) {H : Heap} (w' : WFS { s with h := H })
    (hk : NonUserKept s H.ents) (hfo : FencesOld s.h.ents H.ents) : FenceOk { s with h := H } := by
  have w := hi.wfs
  have hft := (gl_fenceOk_iff_tab w.ents).1 hi.fence
  have hok' : entsOk H.ents = true := w'.ents
  refine gl_fenceOk_of_old hi.fence w.ents hok' hfo ?_
  intro x' hx' y' hy' hy8 ha
  obtain ⟨y, hy, hya, hys⟩ := hfo y' hy' hy8
  obtain ⟨hyc, hyp⟩ := gl_fence_cin w.shape hy hys
  obtain ⟨g2, hg2, hgy⟩ := w.struct.seg_of hy
  have hx'pos : 0 < x'.size := entsOk_pos hok' x' hx'
  by_cases hb : y.addr = g2.base
  · -- the fencepost is the first header of its segment: `x'` is the last header of another segment
    obtain ⟨g1, hg1, hgx'⟩ := w'.struct.seg_of hx'
    have hg1' : g1 ∈ s.segs := hg1
    have i1 := inSeg_iff.1 hgx'
    have i2 := inSeg_iff.1 hgy
    have hdis : g1.base + g1.size ≤ g2.base := by
      rcases segsDisjoint_pair w.segsDisjoint g1 hg1' g2 hg2 with h | h | h
      · subst h; omega
      · exact h
      · omega
    cases hte : isTrailerEnd x' with
    | false =>
      exfalso
      obtain ⟨pre, post, hsp⟩ := List.append_of_mem hx'
      obtain ⟨y2, _, _, hy2a, hgy2, _⟩ := next_entry w'.struct hsp hg1 hgx' hte
      have := inSeg_iff.1 hgy2
      omega
    | true =>
      simp only [isTrailerEnd, Bool.or_eq_true, Bool.and_eq_true, Bool.not_eq_true', decide_eq_true_eq] at hte
      rcases hte with ⟨hxc, hxp⟩ | h8
      · exfalso
        obtain ⟨g, rest, hsegs, hgx2, _⟩ := fr_ff_end w' hx' hxc hxp
        have hsegs' : s.segs = g :: rest := hsegs
        have hg : g ∈ s.segs := by rw [hsegs']; exact List.mem_cons_self
        have : g = g1 := gl_seg_unique w.segsDisjoint hg hg1' hgx2 hgx' rfl
        subst this
        have hend := (w'.struct.in_seg hg1 hx' hgx').2
        obtain ⟨g', rest', pre, xt, f, post, hsegs2, hes, _, _, _, hfa, hfc, _, hfs, _, htop, _, _, _⟩ :=
          w.top_parts (w.topsize_ne hg)
        rw [hsegs'] at hsegs2
        injection hsegs2 with hgg _
        subst hgg
        have hfm : f ∈ s.h.ents := by rw [hes]; simp
        rcases hft f hfm y hy hys (by omega) with h | h
        · omega
        · obtain ⟨g3, hg3, hga⟩ := gl_isRecord_iff.1 h
          obtain ⟨_, e, he, hce⟩ := hi.recs g3 hg3 (by omega)
          rw [hga, Nat.add_sub_cancel, entsOk_find f hfm w.ents] at he
          injection he with he
          subst he
          rw [hfc] at hce; cases hce
      · exact Or.inl h8
  · -- the fencepost has a predecessor in its segment, already in the old table; it is in use …
    obtain ⟨x, hx, _, hxa, hl⟩ := gl_prev_entry w.struct hy hg2 hgy hb
    have hxc : x.cin = true := by
      unfold linkOk at hl
      simp only [Bool.and_eq_true, beq_iff_eq] at hl
      rw [← hl.1, hyp]
    -- … no user chunk, hence kept
    obtain ⟨x2, hx2, hx2s, _⟩ := hk x hx hxc (hft x hx y hy hys hxa)
    obtain ⟨hx2m, hx2a⟩ := findEnt_some hx2
    -- `x2` and `x'` end at the fencepost: they are the same header
    have hend : x2.addr + x2.size = x'.addr + x'.size := by rw [hx2a, hx2s, ← hxa, hya, ha]
    have := gl_overlap_eq hok' hx2m hx' (hend ▸ Nat.lt_add_of_pos_right (entsOk_pos hok' x2 hx2m))
      (hend ▸ Nat.lt_add_of_pos_right hx'pos)
    subst this
    exact Or.inr (Or.inr ⟨x, hx, hx2a.symm, hx2s.symm⟩)

/-- the headers of a tiled segment cover every address up to 8 bytes before its end -/
theorem gl_tiles_cover {l : List Ent} : ∀ {a e : Nat}, tiles l a e = true → ∀ c, a ≤ c → c + 8 < e →
    ∃ x ∈ l, x.addr ≤ c ∧ c < x.addr + x.size := by
  induction l with
  | nil => intro a e h; simp [tiles] at h
  | cons x r ih =>
    intro a e h c hac hce
    cases r with
    | nil =>
      simp only [tiles, Bool.and_eq_true, Bool.or_eq_true, decide_eq_true_eq] at h
      exact ⟨x, List.mem_cons_self, by omega, by omega⟩
    | cons y r' =>
      simp only [tiles, Bool.and_eq_true, decide_eq_true_eq] at h
      by_cases hc : c < a + x.size
      · exact ⟨x, List.mem_cons_self, by omega, by omega⟩
      · obtain ⟨z, hz, h1, h2⟩ := ih h.2 c (by omega) hce
        exact ⟨z, List.mem_cons_of_mem _ hz, h1, h2⟩

/-- the head segment (the one holding `top`) has no record -/
theorem gl_head_recAt {s : St} (w : WFS s) {g : Seg} {rest : List Seg} (hsegs : s.segs = g :: rest) : g.recAt = 0 :=
  ((topOk_cons_iff hsegs).1 w.top).2.2.2.2.1

/-- **`TailOk` from facts about in-use headers only**: a header of the new table reaching into the last
80 bytes of a non-head segment overlaps an old fencepost / record there, which was kept — so it IS that
header — or it is the last header of the segment, i.e. the foot word of the head segment. -/
theorem gl_tailOk_of_kept {s : St} (hi : SInv s) {H : Heap} (w' : WFS { s with h := H })
    (hk : NonUserKept s H.ents) : TailOk { s with h := H } := by
  have w := hi.wfs
  have hok' : entsOk H.ents = true := w'.ents
  intro g hg hne e' he' hge'
  have hg0 : g ∈ s.segs := hg
  by_cases h8 : e'.size = 8
  · exact Or.inl h8
  cases hrec : isRecord s.segs e' with
  | true => exact Or.inr (Or.inl rfl)
  | false =>
  refine Or.inr (Or.inr ?_)
  refine Decidable.byContradiction fun hnot => ?_
  have hpos : 0 < e'.size := entsOk_pos hok' e' he'
  have i1 := inSeg_iff.1 hge'
  have hend := (w'.struct.in_seg hg he' hge').2
  by_cases hc : e'.addr + e'.size - 1 + 8 < g.base + g.size
  · -- covered by an old header, which is a fencepost or a record
    obtain ⟨x, hxs, hx1, hx2⟩ := gl_tiles_cover (w.struct.tiles_of hg0) (e'.addr + e'.size - 1) (by omega) hc
    obtain ⟨hx, hgx⟩ := mem_segEnts.1 hxs
    have hnu : x.size = 8 ∨ isRecord s.segs x = true := by
      rcases hi.tail g hg0 hne x hx hgx with h | h | h
      · exact Or.inl h
      · exact Or.inr h
      · omega
    have hxc : x.cin = true := by
      rcases hnu with h | h
      · exact (gl_fence_cin w.shape hx h).1
      · exact gl_record_cin hi.recs w.ents hx h
    obtain ⟨x2, hx2f, hx2s, _⟩ := hk x hx hxc hnu
    obtain ⟨hx2m, hx2a⟩ := findEnt_some hx2f
    have := gl_overlap_eq hok' hx2m he' (by omega) (by omega)
    subst this
    rcases hnu with h | h
    · omega
    · rw [gl_isRecord_addr (e := x) hx2a, h] at hrec; cases hrec
  · -- `e'` ends in the last 8 bytes of the segment: it is its last header
    cases hte : isTrailerEnd e' with
    | false =>
      obtain ⟨pre, post, hsp⟩ := List.append_of_mem he'
      obtain ⟨y2, post', hpost, hy2a, hgy2, _⟩ := next_entry w'.struct hsp hg hge' hte
      have hy2m : y2 ∈ H.ents := by rw [hsp, hpost]; simp
      have := shapeOk_size w'.shape hy2m
      have := (w'.struct.in_seg hg hy2m hgy2).2
      omega
    | true =>
      simp only [isTrailerEnd, Bool.or_eq_true, Bool.and_eq_true, Bool.not_eq_true', decide_eq_true_eq] at hte
      rcases hte with ⟨hxc, hxp⟩ | h
      · obtain ⟨g1, rest, hsegs, hg1, _⟩ := fr_ff_end w' he' hxc hxp
        have hsegs' : s.segs = g1 :: rest := hsegs
        have hg1m : g1 ∈ s.segs := by rw [hsegs']; exact List.mem_cons_self
        have : g1 = g := gl_seg_unique w.segsDisjoint hg1m hg0 hg1 hge' rfl
        subst this
        exact hne (gl_head_recAt w hsegs')
      · exact h8 h

theorem gl_recsOk_of_nonUserKept {s : St} {H : Heap} (hr : RecsOk s) (hk : NonUserKept s H.ents) :
    RecsOk { s with h := H } := by
  refine gl_recsOk_of_kept hr ?_
  intro e he hc hrec
  obtain ⟨e', he', _, hc'⟩ := hk e he hc (Or.inr hrec)
  exact ⟨e', he', hc'⟩

/-- **the general preservation theorem** for steps that keep the segment list: `WFS` of the new state
(from the branch theorem), the fenceposts / record chunks are kept, no new fencepost -/
theorem gl_sinv_of_kept {s : St} (hi : SInv s) {H : Heap} (w' : WFS { s with h := H })
    (hk : NonUserKept s H.ents) (hfo : FencesOld s.h.ents H.ents) : SInv { s with h := H } :=
  ⟨w', gl_recsOk_of_nonUserKept hi.recs hk, gl_fenceOk_of_kept hi w' hk hfo, gl_tailOk_of_kept hi w' hk,
    fun g hg e he hb h8 => by
      obtain ⟨y, hy, hya, hy8⟩ := hfo e he h8
      exact hi.head g hg y hy (by omega) hy8,
    hi.recin⟩

/-! ### `FencesOld` from the three deltas -/

theorem gl_fencesOld_of_cin {es es' : List Ent} (hok' : entsOk es' = true) (hsh' : shapeOk es' = true)
    (h : ∀ y' ∈ es', y'.cin = true → y'.size = 8 →
      ∃ e ∈ es, e.addr = y'.addr ∧ ∃ e', findEnt es' e.addr = some e' ∧ e'.size = e.size) : FencesOld es es' := by
  intro y' hy' h8
  obtain ⟨e, he, hea, e', he', hs'⟩ := h y' hy' (gl_fence_cin hsh' hy' h8).1 h8
  have := entsOk_find y' hy' hok'
  rw [← hea, he'] at this
  injection this with this
  subst this
  exact ⟨e, he, hea, by omega⟩

theorem gl_fencesOld_alloc {es es' : List Ent} {nb p : Nat} (ha : AllocAt es es' nb p) (hnb : 8 < nb)
    (hok' : entsOk es' = true) (hsh' : shapeOk es' = true) : FencesOld es es' := by
  refine gl_fencesOld_of_cin hok' hsh' ?_
  intro y' hy' hc h8
  obtain ⟨_, _, _, _, _, e', he', _, hs1, _⟩ := ha.victim
  rcases (ha.cin y'.addr).1 (mem_cinSet.2 ⟨y', hy', hc, rfl⟩) with h | h
  · exfalso
    have := entsOk_find y' hy' hok'
    rw [h, he'] at this
    injection this with this
    subst this
    omega
  · obtain ⟨e, he, hce, hea⟩ := mem_cinSet.1 h
    obtain ⟨e2, he2, hs2, _⟩ := ha.kept e he hce
    exact ⟨e, he, hea, e2, he2, hs2⟩

theorem gl_fencesOld_free {es es' : List Ent} {p : Nat} (hf : FreeAtTab es es' p)
    (hok' : entsOk es' = true) (hsh' : shapeOk es' = true) : FencesOld es es' := by
  refine gl_fencesOld_of_cin hok' hsh' ?_
  intro y' hy' hc h8
  obtain ⟨h1, h2⟩ := hf.cin y'.addr (mem_cinSet.2 ⟨y', hy', hc, rfl⟩)
  obtain ⟨e, he, hce, hea⟩ := mem_cinSet.1 h1
  obtain ⟨e2, he2, hs2, _⟩ := hf.kept e he hce (by omega)
  exact ⟨e, he, hea, e2, he2, hs2⟩

theorem gl_fencesOld_resize {es es' : List Ent} {p sz : Nat} (hf : ResizeAtTab es es' p sz) (hsz : sz ≠ 8)
    (hok' : entsOk es' = true) (hsh' : shapeOk es' = true) : FencesOld es es' := by
  refine gl_fencesOld_of_cin hok' hsh' ?_
  intro y' hy' hc h8
  obtain ⟨e', he', _, hs'⟩ := hf.here
  by_cases hyp : y'.addr = p
  · exfalso
    have := entsOk_find y' hy' hok'
    rw [hyp, he'] at this
    injection this with this
    subst this
    omega
  · rcases hf.cin y'.addr (mem_cinSet.2 ⟨y', hy', hc, rfl⟩) with h | h
    · exact absurd h hyp
    · obtain ⟨e, he, hce, hea⟩ := mem_cinSet.1 h
      obtain ⟨e2, he2, hs2, _⟩ := hf.kept e he hce (by omega)
      exact ⟨e, he, hea, e2, he2, hs2⟩

/-! ### the three packaged lifts: `WFS` + table delta ⟹ `SInv` + `User` delta -/

theorem gl_sinv_alloc {s : St} (hi : SInv s) {H : Heap} (w' : WFS { s with h := H }) {nb mem : Nat}
    (hf : AllocFacts s.h.ents H.ents nb mem) (hnb : 8 < nb) :
    SInv { s with h := H } ∧ Alloc s { s with h := H } nb mem := by
  refine ⟨?_, gl_alloc_of_allocFacts hi.wfs hi.recs hf hnb⟩
  obtain ⟨p, _, ha⟩ := hf
  exact gl_sinv_of_kept hi w' (gl_nonUserKept_of_inusePreserved ha.kept) (gl_fencesOld_alloc ha hnb w'.ents w'.shape)

theorem gl_sinv_freeAtTab {s : St} (hi : SInv s) {H : Heap} (w' : WFS { s with h := H }) {p z : Nat}
    (hu : User s p z) (hf : FreeAtTab s.h.ents H.ents p) :
    SInv { s with h := H } ∧ Freed s { s with h := H } (p + 16) :=
  ⟨gl_sinv_of_kept hi w' (gl_nonUserKept_except (gl_user_except hi.wfs.ents hu) hf.kept)
      (gl_fencesOld_free hf w'.ents w'.shape),
    gl_freed_of_freeAtTab hi.wfs.ents hf⟩

theorem gl_sinv_resizeAtTab {s : St} (hi : SInv s) {H : Heap} (w' : WFS { s with h := H }) {p z sz nb : Nat}
    (hu : User s p z) (hf : ResizeAtTab s.h.ents H.ents p sz) (hnb : nb ≤ sz) (hsz : sz ≠ 8) :
    SInv { s with h := H } ∧ Resized s { s with h := H } p nb :=
  ⟨gl_sinv_of_kept hi w' (gl_nonUserKept_except (gl_user_except hi.wfs.ents hu) hf.kept)
      (gl_fencesOld_resize hf hsz w'.ents w'.shape),
    gl_resized_of_resizeAtTab hi.wfs.ents hf hnb hsz (gl_user_not_record hu)⟩

/-! ## 3b. `malloc_dv_top` and the `small-bin` branch at the `SInv` / `User` level -/

theorem gl_alloc_mono {s s' : St} {nb nb' mem : Nat} (h : Alloc s s' nb' mem) (hle : nb ≤ nb') : Alloc s s' nb mem := by
  obtain ⟨h1, h2, h3, sz, h4, h5⟩ := h
  exact ⟨h1, h2, h3, sz, by omega, h5⟩

/-- `malloc_dv_top` (branches `dv-split`, `dv-exhaust`, `top-split`) at the `SInv` / `User` level -/
theorem gl_malloc_dv_top_sinv {s : St} (hi : SInv s) {nb : Nat} (hnb16 : nb % 16 = 0) (hnb32 : 32 ≤ nb)
    {h' : Heap} {mem : Nat} (hh : malloc_dv_top s.h nb = .ok (.done h' mem)) :
    SInv { s with h := h' } ∧ Alloc s { s with h := h' } nb mem := by
  obtain ⟨w', hf⟩ := malloc_dv_top_wfs hi.wfs hnb16 hnb32 hh
  exact gl_sinv_alloc hi w' hf (by omega)

theorem gl_malloc_dv_top_sinv' {s : St} (hi : SInv s) {nb : Nat} (hnb : NbOk nb)
    {h' : Heap} {mem : Nat} (hh : malloc_dv_top s.h nb = .ok (.done h' mem)) :
    SInv { s with h := h' } ∧ Alloc s { s with h := h' } nb mem :=
  gl_malloc_dv_top_sinv hi hnb.1 hnb.2.1 hh

/-- the `small-bin` branch of `malloc_nosys` at the `SInv` / `User` level (from `small_bin_wfs`: `Alloc` needs
the size of the bin the chunk came from, which `malloc_nosys_small_bin_wfs` quantifies away) -/
theorem gl_malloc_nosys_small_bin_sinv {s : St} (hi : SInv s) {size : Nat} (hs : size ≤ MAX_SMALL_REQUEST)
    (hbits : (smallmap s.h >>> small_index (request2size size)) &&& 3 ≠ 0) {h' : Heap} {mem : Nat}
    (hh : malloc_nosys s.h size = .ok (.done h' mem)) :
    SInv { s with h := h' } ∧ Alloc s { s with h := h' } (nbOf size) mem := by
  have hs' := hs
  rw [MAX_SMALL_REQUEST_eq] at hs'
  have hnb32 := request2size_ge_min size (by omega)
  have hnb16 := request2size_aligned size (by omega)
  have hnb240 : request2size size ≤ 240 := by
    rw [request2size_eq size (by omega)]; split <;> omega
  unfold malloc_nosys at hh
  dsimp only at hh
  rw [if_pos hs, if_pos hbits] at hh
  msimp at hh
  obtain ⟨⟨h1, p⟩, e1, h2, e2, hh⟩ := hh
  injection hh with hh1 hh2
  subst hh1; subst hh2
  obtain ⟨w', r2⟩ := small_bin_wfs hi.wfs e1 e2 "small-bin"
  have hb1 : (U32 - 1 - smallmap s.h >>> small_index (request2size size)) &&& 1 ≤ 1 := Nat.and_le_right
  have hidx : small_index (request2size size) = request2size size / 8 := small_index_eq _ (by omega)
  have hge : request2size size ≤
      small_index2size (small_index (request2size size) +
        ((U32 - 1 - smallmap s.h >>> small_index (request2size size)) &&& 1)) := by
    rw [small_index2size_eq _ (by omega), hidx]
    omega
  have hnbof : nbOf size = request2size size := by unfold nbOf; rw [if_pos hs]
  rw [hnbof]
  have hf : AllocFacts s.h.ents (h2.tag "small-bin").ents _ (p + MEM_OFFSET) := ⟨p, by rw [MEM_OFFSET_eq], r2⟩
  obtain ⟨r3, r4⟩ := gl_sinv_alloc hi w' hf (by omega)
  exact ⟨r3, gl_alloc_mono r4 hge⟩

/-! ## 4. `liveOk` says: the live blocks are the user chunks -/

theorem gl_liveChunk_iff {s : St} {b : Block} :
    (liveChunkOk s.h.ents b &&
        !(isRecord s.segs { addr := b.ptr - 16, size := 0, cin := true, pin := true, pfoot := 0 })) = true ↔
      16 ≤ b.ptr ∧ 0 < b.align ∧ b.ptr % b.align = 0 ∧
        ∃ z, User s (b.ptr - 16) z ∧ b.size + 8 ≤ z ∧ 32 ≤ z := by
  unfold liveChunkOk
  simp only [Bool.and_eq_true, decide_eq_true_eq, Bool.not_eq_true']
  constructor
  · rintro ⟨⟨⟨⟨h1, h2⟩, h3⟩, h4⟩, h5⟩
    split at h4
    · rename_i e he
      simp only [Bool.and_eq_true, decide_eq_true_eq] at h4
      refine ⟨h1, h2, h3, e.size, ⟨e, he, h4.1.1, rfl, by omega, ?_⟩, h4.1.2, h4.2⟩
      rw [← h5]
      exact gl_isRecord_addr (findEnt_some he).2
    · cases h4
  · rintro ⟨h1, h2, h3, z, ⟨e, he, hc, hz, h8, hr⟩, h6, h7⟩
    refine ⟨⟨⟨⟨h1, h2⟩, h3⟩, ?_⟩, ?_⟩
    · rw [he]
      simp only [Bool.and_eq_true, decide_eq_true_eq]
      exact ⟨⟨hc, by omega⟩, by omega⟩
    · rw [← hr]
      exact gl_isRecord_addr (findEnt_some he).2.symm

/-- **`liveOk` ↔ the live blocks are exactly the user chunks** -/
theorem gl_liveOk_iff_user {hs : Hist} (hok : entsOk hs.st.h.ents = true) :
    liveOk hs = true ↔
      (hs.live.map (·.ptr)).Nodup ∧
      (∀ b ∈ hs.live, 16 ≤ b.ptr ∧ 0 < b.align ∧ b.ptr % b.align = 0 ∧
        ∃ z, User hs.st (b.ptr - 16) z ∧ b.size + 8 ≤ z ∧ 32 ≤ z) ∧
      (∀ a z, User hs.st a z → ∃ b ∈ hs.live, b.ptr = a + 16) := by
  unfold liveOk
  rw [Bool.and_eq_true, Bool.and_eq_true, nodupB_iff_nodup, List.all_eq_true, List.all_eq_true, and_assoc]
  refine and_congr Iff.rfl (and_congr ?_ ?_)
  · exact forall_congr' fun b => forall_congr' fun _ => gl_liveChunk_iff
  · constructor
    · rintro h a z ⟨e, he, hc, hz, h8, hr⟩
      obtain ⟨hm, hea⟩ := findEnt_some he
      have := h e hm
      simp only [Bool.or_eq_true, Bool.not_eq_true', decide_eq_true_eq, List.any_eq_true] at this
      rcases this with ((h1 | h1) | h1) | ⟨b, hb, hbp⟩
      · rw [hc] at h1; cases h1
      · omega
      · rw [hr] at h1; cases h1
      · exact ⟨b, hb, by omega⟩
    · intro h e he
      simp only [Bool.or_eq_true, Bool.not_eq_true', decide_eq_true_eq, List.any_eq_true]
      cases hc : e.cin with
      | false => exact Or.inl (Or.inl (Or.inl rfl))
      | true =>
        by_cases h8 : e.size = 8
        · exact Or.inl (Or.inl (Or.inr h8))
        · cases hr : isRecord hs.st.segs e with
          | true => exact Or.inl (Or.inr rfl)
          | false =>
            obtain ⟨b, hb, hbp⟩ := h e.addr e.size ⟨e, entsOk_find e he hok, hc, rfl, h8, hr⟩
            exact Or.inr ⟨b, hb, hbp⟩

theorem gl_liveOk_iff_user' {hs : Hist} (w : WFS hs.st) :
    liveOk hs = true ↔
      (hs.live.map (·.ptr)).Nodup ∧
      (∀ b ∈ hs.live, 16 ≤ b.ptr ∧ 0 < b.align ∧ b.ptr % b.align = 0 ∧
        ∃ z, User hs.st (b.ptr - 16) z ∧ b.size + 8 ≤ z ∧ 32 ≤ z) ∧
      (∀ a z, User hs.st a z → ∃ b ∈ hs.live, b.ptr = a + 16) := gl_liveOk_iff_user w.ents

/-! ## 5. executable checkers for the five extra conjuncts, and non-vacuity -/

def gl_recsOkB (s : St) : Bool :=
  s.segs.all fun g => decide (g.recAt = 0) ||
    (decide (16 ≤ g.recAt) && match findEnt s.h.ents (g.recAt - 16) with
      | some e => e.cin
      | none => false)

def gl_fenceOkB (s : St) : Bool :=
  s.h.ents.all fun x => s.h.ents.all fun y =>
    !(decide (y.size = 8) && decide (y.addr = x.addr + x.size)) || decide (x.size = 8) || isRecord s.segs x

def gl_tailOkB (s : St) : Bool :=
  s.segs.all fun g => decide (g.recAt = 0) || s.h.ents.all fun e =>
    !inSeg g e || decide (e.size = 8) || isRecord s.segs e || decide (e.addr + e.size + 80 ≤ g.base + g.size)

theorem gl_tailOk_of_check {s : St} (h : gl_tailOkB s = true) : TailOk s := by
  intro g hg hne e he hge
  unfold gl_tailOkB at h
  simp only [List.all_eq_true, Bool.or_eq_true, decide_eq_true_eq, Bool.not_eq_true'] at h
  rcases h g hg with h | h
  · exact absurd h hne
  · rcases h e he with ((h | h) | h) | h
    · rw [hge] at h; cases h
    · exact Or.inl h
    · exact Or.inr (Or.inl h)
    · exact Or.inr (Or.inr h)

theorem gl_recsOk_of_check {s : St} (h : gl_recsOkB s = true) : RecsOk s := by
  intro g hg hne
  unfold gl_recsOkB at h
  simp only [List.all_eq_true, Bool.or_eq_true, Bool.and_eq_true, decide_eq_true_eq] at h
  rcases h g hg with h | ⟨h1, h2⟩
  · exact absurd h hne
  · split at h2
    · rename_i e he; exact ⟨h1, e, he, h2⟩
    · cases h2

theorem gl_fenceOk_of_check {s : St} (h : gl_fenceOkB s = true) : FenceOk s := by
  intro pre x y post hes h8 ha
  unfold gl_fenceOkB at h
  simp only [List.all_eq_true, Bool.or_eq_true, decide_eq_true_eq, Bool.not_eq_true',
    Bool.and_eq_false_iff, decide_eq_false_iff_not] at h
  rcases h x (by rw [hes]; simp) y (by rw [hes]; simp) with (h | h) | h
  · rcases h with h | h
    · exact absurd h8 h
    · exact absurd ha h
  · exact Or.inl h
  · exact Or.inr h

def gl_headOkB (s : St) : Bool :=
  s.segs.all fun g => s.h.ents.all fun e => !(decide (e.addr = g.base)) || !(decide (e.size = 8))

theorem gl_headOk_of_check {s : St} (h : gl_headOkB s = true) : HeadOk s := by
  intro g hg e he hb h8
  unfold gl_headOkB at h
  simp only [List.all_eq_true, Bool.or_eq_true, Bool.not_eq_true', decide_eq_false_iff_not] at h
  rcases h g hg e he with h | h
  · exact h hb
  · exact h h8

def gl_recInB (s : St) : Bool :=
  s.segs.all fun g => decide (g.recAt = 0) || (decide (g.base + 16 ≤ g.recAt) && decide (g.recAt < g.base + g.size))

theorem gl_recIn_of_check {s : St} (h : gl_recInB s = true) : RecIn s := by
  intro g hg hne
  unfold gl_recInB at h
  simp only [List.all_eq_true, Bool.or_eq_true, Bool.and_eq_true, decide_eq_true_eq] at h
  rcases h g hg with h | h
  · exact absurd h hne
  · exact h

theorem gl_inv_of_check {hs : Hist} (h1 : wfb hs = true) (h2 : gl_recsOkB hs.st = true)
    (h3 : gl_fenceOkB hs.st = true) (h4 : gl_tailOkB hs.st = true) (h5 : gl_headOkB hs.st = true)
    (h6 : gl_recInB hs.st = true) : Inv hs :=
  ⟨⟨((wf_iff_wfs hs).1 h1).1, gl_recsOk_of_check h2, gl_fenceOk_of_check h3, gl_tailOk_of_check h4,
    gl_headOk_of_check h5, gl_recIn_of_check h6⟩, ((wf_iff_wfs hs).1 h1).2⟩

def fr_invB (hs : Hist) : Bool :=
  wfb hs && gl_recsOkB hs.st && gl_fenceOkB hs.st && gl_tailOkB hs.st && gl_headOkB hs.st && gl_recInB hs.st

theorem fr_inv_of_check {hs : Hist} (h : fr_invB hs = true) : Inv hs := by
  unfold fr_invB at h
  simp only [Bool.and_eq_true] at h
  exact gl_inv_of_check h.1.1.1.1.1 h.1.1.1.1.2 h.1.1.1.2 h.1.1.2 h.1.2 h.2

/-- two segments (the second `mmap` answer is not adjacent to the first segment, so `add_segment` pushed a
segment record and three fenceposts into the old segment), two live blocks, one freed chunk -/
def glOps : List (Op × List OsDir) :=
  [(.malloc 1 100 8, [.m (some 1048576)]), (.malloc 2 100000 8, [.m (some 4194304)]), (.malloc 3 100 8, []),
   (.free 1, [])]

def glState : Hist := match Hist.init.run glOps with
  | .ok (hs, _) => hs
  | .error _ => Hist.init

set_option maxRecDepth 40000 in
/-- the hypotheses of `gl_malloc_dv_top_sinv` are satisfiable on a state that HAS fenceposts and a record
chunk: `Inv glState`, two segments, three size-8 headers, and `malloc_dv_top` takes `dv-split` -/
example : Inv glState ∧ glState.st.segs.length = 2 ∧
    (glState.st.h.ents.filter fun e => e.size = 8).length = 3 ∧
    (glState.st.h.ents.filter fun e => e.cin && isRecord glState.st.segs e).length = 1 ∧
    branchIs glState.st.h 48 "dv-split" = true :=
  ⟨fr_inv_of_check (by decide +kernel), by decide +kernel⟩

end TinyVerif.Dl
