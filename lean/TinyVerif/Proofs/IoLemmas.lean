import TinyVerif.Model.Io
/-! Lemmas for C15: the loop invariant of `default_read_to_end`, the reader-script specification, `write_all`. -/
namespace TinyVerif.Io

/-- a main read with a sound carried-over count (`carry ≤ g ≤ n`) offers the whole spare capacity, initialised -/
theorem rb_main (n carry g : Nat) (h : carry ≤ g) (hg : g ≤ n) :
    ((ReadBuf.uninit n g).assumeInit carry).initializeUnfilled = .ok (n, ⟨n, 0, n, n, false⟩) := by
  by_cases hn : n > carry
  · simp [ReadBuf.uninit, ReadBuf.assumeInit, ReadBuf.initializeUnfilled, ReadBuf.remaining,
      ReadBuf.initializeUnfilledTo, hn]
    have h1 : ¬ (n < carry) := by omega
    have h2 : ¬ (g < carry) := by omega
    have e1 : max carry n = n := by omega
    have e2 : max g (carry + (n - carry)) = n := by omega
    simp [h1, h2, h, e1, e2]
  · have : carry = n := by omega
    subst this
    have : g = carry := by omega
    subst this
    simp [ReadBuf.uninit, ReadBuf.assumeInit, ReadBuf.initializeUnfilled, ReadBuf.remaining,
      ReadBuf.initializeUnfilledTo]

/-- loop invariant of `default_read_to_end` (between reader calls) -/
structure Inv (startLen : Nat) (probe : Bool) (s : St) : Prop where
  lenCap : s.buf.length ≤ s.cap
  start : startLen ≤ s.buf.length
  carry : s.carry ≤ s.ginit
  ginit : s.ginit ≤ s.cap - s.buf.length
  pr : probe = true → s.buf.length = s.cap

theorem pick_ge (caps : List Nat) (need : Nat) : need ≤ (pick caps need).1 := by
  cases caps <;> simp [pick] <;> omega

theorem grow_inv {L : Nat} {p : Bool} {s : St} (h : Inv L p s) :
    Inv L false (growIfFull s) ∧ (growIfFull s).buf = s.buf ∧ (growIfFull s).buf.length < (growIfFull s).cap := by
  obtain ⟨h1, h2, h3, h4, h5⟩ := h
  unfold growIfFull
  by_cases hc : s.buf.length = s.cap
  · -- a full buffer has no spare capacity, so `ginit = 0` and with it `carry = 0`: resetting `ginit` loses nothing
    have hp := pick_ge s.caps (s.buf.length + GROW)
    simp only [hc, beq_self_eq_true, if_true]
    simp only [hc, GROW] at hp
    refine ⟨⟨?_, ?_, ?_, ?_, ?_⟩, ?_, ?_⟩ <;> simp only [GROW] <;> first | omega | simp
  · have hc' : (s.buf.length == s.cap) = false := by simp [hc]
    simp only [hc', Bool.false_eq_true, if_false]
    exact ⟨⟨h1, h2, h3, h4, by simp⟩, trivial, by omega⟩


/-- the `ReadBuf` and `Call` in the statement are those of `rb_main` -/
theorem mainData_spec {L : Nat} {s1 : St} (C : Nat) (h : Inv L false s1) (bs : List Nat) :
    mainData L C s1 ⟨s1.cap - s1.buf.length, 0, s1.cap - s1.buf.length, s1.cap - s1.buf.length, false⟩
        ⟨false, s1.cap - s1.buf.length, s1.carry⟩ bs =
      if bs.length = 0 then
        .stop (.ok (s1.buf.length - L)) { s1 with ginit := s1.cap - s1.buf.length } (some ⟨false, s1.cap - s1.buf.length, s1.carry⟩) false
      else if s1.cap - s1.buf.length < bs.length then
        .stop (.panic .setFilledAssert) { s1 with ginit := s1.cap - s1.buf.length } (some ⟨false, s1.cap - s1.buf.length, s1.carry⟩) false
      else
        .next (bs.length + s1.buf.length == s1.cap && s1.cap == C)
          { s1 with buf := s1.buf ++ bs, carry := s1.cap - s1.buf.length - bs.length, ginit := s1.cap - s1.buf.length - bs.length }
          ⟨false, s1.cap - s1.buf.length, s1.carry⟩ false := by
  obtain ⟨h1, h2, h3, h4, _⟩ := h
  by_cases hz : bs.length = 0
  · have hL : ¬ (s1.buf.length < L) := by omega
    simp [mainData, ReadBuf.addFilled, ReadBuf.setFilled, retOk, hz, hL]
  · by_cases hb : s1.cap - s1.buf.length < bs.length
    · have : ¬ (bs.length ≤ s1.cap - s1.buf.length) := by omega
      simp [mainData, ReadBuf.addFilled, ReadBuf.setFilled, hz, hb, this]
    · have h5 : bs.length ≤ s1.cap - s1.buf.length := by omega
      have h6 : ¬ (s1.cap < bs.length + s1.buf.length) := by omega
      simp [mainData, ReadBuf.addFilled, ReadBuf.setFilled, hz, hb, h5, h6]

def RResp.retry : RResp → Bool
  | .eintr => true
  | .err e => e == EINTR
  | _ => false

def RResp.hard : RResp → Option IoErr
  | .err e => if e == EINTR then none else some (.os e)
  | .uerr => some .user
  | _ => none

def RResp.isEof : RResp → Bool
  | .eof => true
  | .data bs => bs.length == 0
  | _ => false

/-- one step answering `r` from `s`: it goes on (retry, or the delivered bytes appended) keeping the invariant, or stops
with `Ok(count)` at end of file, the reader's error, or a panic only if the reader claimed more than it was offered -/
def StepOK (L : Nat) (s : St) (r : RResp) : Step → Prop
  | .next p' s' c u => u = false ∧ Inv L p' s' ∧
      ((r.retry = true ∧ s'.buf = s.buf) ∨
       (∃ bs, r = .data bs ∧ bs.length ≠ 0 ∧ bs.length ≤ c.offered ∧ s'.buf = s.buf ++ bs))
  | .stop res s' c u => u = false ∧ s'.buf = s.buf ∧
      ((r.isEof = true ∧ res = .ok (s.buf.length - L)) ∨
       (∃ e, r.hard = some e ∧ res = .err e) ∨
       (∃ bs site co, r = .data bs ∧ res = .panic site ∧ c = some co ∧ co.offered < bs.length))

theorem mainStep_ok {L : Nat} {p : Bool} {s : St} (C : Nat) (h : Inv L p s) (r : RResp) :
    StepOK L s r (mainStep L C s r) := by
  obtain ⟨hi, hb, hlt⟩ := grow_inv h
  have hi' := hi
  obtain ⟨h1, h2, h3, h4, _⟩ := hi'
  have hc : ¬ ((growIfFull s).cap < (growIfFull s).buf.length) := by omega
  unfold mainStep mainRead
  simp only [hc, if_false]
  rw [rb_main _ _ _ h3 h4]
  cases r with
  | data bs =>
    simp only []
    rw [mainData_spec C hi bs]
    by_cases hz : bs.length = 0
    · simp [hz, StepOK, RResp.isEof, hb]
    · by_cases hlen : (growIfFull s).cap - (growIfFull s).buf.length < bs.length
      · simp only [hz, hlen, if_true, if_false]; unfold StepOK
        refine ⟨rfl, hb, Or.inr (Or.inr ⟨bs, _, _, rfl, rfl, rfl, hlen⟩)⟩
      · simp only [hz, hlen, if_false]; unfold StepOK
        refine ⟨rfl, ⟨?_, ?_, ?_, ?_, ?_⟩, Or.inr ⟨bs, rfl, hz, by simp only []; omega, by simp [hb]⟩⟩
        · simp; omega
        · simp; omega
        · simp
        · simp; omega
        · intro hp; simp at hp; simp; omega
  | eof =>
    simp only []
    rw [mainData_spec C hi []]
    simp [StepOK, RResp.isEof, hb]
  | eintr =>
    unfold StepOK
    exact ⟨rfl, ⟨h1, h2, by simp; omega, by simp, by simp⟩, Or.inl ⟨rfl, hb⟩⟩
  | err e =>
    simp only []
    by_cases he : (e == EINTR) = true
    · simp only [he, if_true]; unfold StepOK
      exact ⟨rfl, ⟨h1, h2, by simp; omega, by simp, by simp⟩, Or.inl ⟨by simp [RResp.retry, he], hb⟩⟩
    · simp only [he]; unfold StepOK
      exact ⟨rfl, hb, Or.inr (Or.inl ⟨_, by simp [RResp.hard, he], rfl⟩)⟩
  | uerr =>
    unfold StepOK
    exact ⟨rfl, hb, Or.inr (Or.inl ⟨_, rfl, rfl⟩)⟩


theorem probeStep_ok {L : Nat} {s : St} (h : Inv L true s) (r : RResp) :
    StepOK L s r (probeStep L s r) := by
  have hh := h
  obtain ⟨h1, h2, h3, h4, h5⟩ := hh
  have h5 := h5 rfl
  have key : ∀ bs : List Nat, StepOK L s (.data bs) (probeData L s ⟨true, PROBE, 0⟩ bs) := by
    intro bs
    unfold probeData
    by_cases hz : bs.length = 0
    · have hL : ¬ (s.buf.length < L) := by omega
      simp only [hz, beq_self_eq_true, if_true, retOk, hL, if_false]
      unfold StepOK
      exact ⟨rfl, rfl, Or.inl ⟨by simp [RResp.isEof, hz], rfl⟩⟩
    · have hz' : (bs.length == 0) = false := by simp [hz]
      by_cases hp : PROBE < bs.length
      · simp only [hz', hp, if_true, Bool.false_eq_true, if_false]
        unfold StepOK
        exact ⟨rfl, rfl, Or.inr (Or.inr ⟨bs, _, _, rfl, rfl, rfl, hp⟩)⟩
      · have hc : ¬ (s.cap < s.buf.length) := by omega
        have hg : s.cap - s.buf.length < bs.length := by omega
        have hpk := pick_ge s.caps (s.buf.length + bs.length)
        simp only [hz', hp, hc, hg, if_true, Bool.false_eq_true, if_false]
        unfold StepOK
        refine ⟨rfl, ⟨?_, ?_, ?_, ?_, ?_⟩, Or.inr ⟨bs, rfl, hz, by simp only []; omega, rfl⟩⟩
        · simp; omega
        · simp; omega
        · simp; omega
        · simp
        · intro hf; cases hf
  unfold probeStep
  cases r with
  | data bs => exact key bs
  | eof =>
    have := key []
    unfold StepOK at this ⊢
    simp only [] at this ⊢
    revert this
    cases probeData L s ⟨true, PROBE, 0⟩ [] <;> simp [RResp.isEof, RResp.retry, RResp.hard]
  | eintr =>
    unfold StepOK
    exact ⟨rfl, h, Or.inl ⟨rfl, rfl⟩⟩
  | err e =>
    simp only []
    by_cases he : (e == EINTR) = true
    · simp only [he, if_true]; unfold StepOK
      exact ⟨rfl, h, Or.inl ⟨by simp [RResp.retry, he], rfl⟩⟩
    · simp only [he]; unfold StepOK
      exact ⟨rfl, rfl, Or.inr (Or.inl ⟨_, by simp [RResp.hard, he], rfl⟩)⟩
  | uerr =>
    unfold StepOK
    exact ⟨rfl, rfl, Or.inr (Or.inl ⟨_, rfl, rfl⟩)⟩


theorem step_ok {L : Nat} {p : Bool} {s : St} (C : Nat) (h : Inv L p s) (r : RResp) :
    StepOK L s r (step L C p s r) := by
  unfold step
  cases p with
  | true => simp only [if_true]; exact probeStep_ok h r
  | false => simp only [Bool.false_eq_true, if_false]; exact mainStep_ok C h r

/-! ## specification of a reader script (independent of the loop) -/

/-- the bytes a script hands over before its first end-of-file / non-EINTR error -/
def delivered : List RResp → List Nat
  | [] => []
  | .data bs :: rest => if bs.length = 0 then [] else bs ++ delivered rest
  | .eintr :: rest => delivered rest
  | .err e :: rest => if e = EINTR then delivered rest else []
  | .eof :: _ => []
  | .uerr :: _ => []

/-- how the script ends: `none` = end of file, `some e` = the first non-EINTR error -/
def ending : List RResp → Option IoErr
  | [] => none
  | .data bs :: rest => if bs.length = 0 then none else ending rest
  | .eintr :: rest => ending rest
  | .err e :: rest => if e = EINTR then ending rest else some (.os e)
  | .eof :: _ => none
  | .uerr :: _ => some .user

/-- number of responses up to and including the one that ends the transfer -/
def consumed : List RResp → Nat
  | [] => 0
  | .data bs :: rest => if bs.length = 0 then 1 else 1 + consumed rest
  | .eintr :: rest => 1 + consumed rest
  | .err e :: rest => if e = EINTR then 1 + consumed rest else 1
  | .eof :: _ => 1
  | .uerr :: _ => 1

/-- the reader never claimed more bytes than the buffer it was offered (call log against script) -/
def Conforming : List Call → List RResp → Prop
  | c :: cs, r :: rs => (∀ bs, r = .data bs → bs.length ≤ c.offered) ∧ Conforming cs rs
  | _, _ => True

theorem spec_retry {r : RResp} (rest : List RResp) (h : r.retry = true) :
    delivered (r :: rest) = delivered rest ∧ ending (r :: rest) = ending rest ∧ consumed (r :: rest) = 1 + consumed rest := by
  cases r <;> simp_all [RResp.retry, delivered, ending, consumed]

theorem spec_eof {r : RResp} (rest : List RResp) (h : r.isEof = true) :
    delivered (r :: rest) = [] ∧ ending (r :: rest) = none ∧ consumed (r :: rest) = 1 := by
  cases r <;> simp_all [RResp.isEof, delivered, ending, consumed]

theorem spec_hard {r : RResp} {e : IoErr} (rest : List RResp) (h : r.hard = some e) :
    delivered (r :: rest) = [] ∧ ending (r :: rest) = some e ∧ consumed (r :: rest) = 1 := by
  cases r <;> simp_all [RResp.hard, delivered, ending, consumed]
  all_goals (split at h <;> simp_all)

theorem spec_data (bs : List Nat) (rest : List RResp) (h : bs.length ≠ 0) :
    delivered (.data bs :: rest) = bs ++ delivered rest ∧ ending (.data bs :: rest) = ending rest ∧
      consumed (.data bs :: rest) = 1 + consumed rest := by
  simp [delivered, ending, consumed, h]


/-- expected result of `default_read_to_end` on a script, from a buffer of length `len` -/
def expectRes (L len : Nat) (script : List RResp) : Res Nat :=
  match ending script with
  | none => .ok (len + (delivered script).length - L)
  | some e => .err e

theorem rte_spec (L C : Nat) : ∀ (script : List RResp) (p : Bool) (s : St), Inv L p s →
    (rte L C p s script).unsound = false ∧
    (∀ site, (rte L C p s script).res = .panic site → ¬ Conforming (rte L C p s script).log script) ∧
    ((∀ site, (rte L C p s script).res ≠ .panic site) →
      (rte L C p s script).buf = s.buf ++ delivered script ∧
      (rte L C p s script).res = expectRes L s.buf.length script ∧
      (rte L C p s script).used = consumed script) := by
  intro script
  induction script with
  | nil =>
    intro p s h
    have hs := step_ok C h .eof
    unfold rte
    cases hstep : step L C p s .eof with
    | stop res s' c u =>
      rw [hstep] at hs
      unfold StepOK at hs
      obtain ⟨hu, hb, hc⟩ := hs
      simp only []
      rcases hc with ⟨_, hr⟩ | ⟨e, he, _⟩ | ⟨bs, _, _, hd, _⟩
      · subst hr
        refine ⟨hu, (fun site hx => by cases hx), fun _ => ⟨by simp [delivered, hb], by simp [expectRes, ending, delivered], rfl⟩⟩
      · simp [RResp.hard] at he
      · cases hd
    | next p' s' c u =>
      rw [hstep] at hs
      unfold StepOK at hs
      obtain ⟨_, _, hc⟩ := hs
      rcases hc with ⟨hr, _⟩ | ⟨bs, hd, _⟩
      · simp [RResp.retry] at hr
      · cases hd
  | cons r rest ih =>
    intro p s h
    have hs := step_ok C h r
    unfold rte
    cases hstep : step L C p s r with
    | stop res s' c u =>
      rw [hstep] at hs
      unfold StepOK at hs
      obtain ⟨hu, hb, hc⟩ := hs
      simp only []
      rcases hc with ⟨he, hr⟩ | ⟨e, he, hr⟩ | ⟨bs, site, co, hd, hr, hco, hlt⟩
      · obtain ⟨d1, d2, d3⟩ := spec_eof rest he
        subst hr
        refine ⟨hu, (fun site hx => by cases hx), fun _ => ⟨by simp [d1, hb], by simp [expectRes, d1, d2], by simp [d3]⟩⟩
      · obtain ⟨d1, d2, d3⟩ := spec_hard rest he
        subst hr
        refine ⟨hu, (fun site hx => by cases hx), fun _ => ⟨by simp [d1, hb], by simp [expectRes, d2], by simp [d3]⟩⟩
      · subst hr hco hd
        refine ⟨hu, ?_, fun hn => absurd rfl (hn site)⟩
        intro _ _ hconf
        simp only [optList, Conforming] at hconf
        have := hconf.1 bs rfl
        omega
    | next p' s' c u =>
      rw [hstep] at hs
      unfold StepOK at hs
      obtain ⟨hu, hinv, hc⟩ := hs
      obtain ⟨i1, i2, i3⟩ := ih p' s' hinv
      simp only [Out.push]
      subst hu
      refine ⟨by simp [i1], ?_, ?_⟩
      · intro site hx hconf
        simp only [Conforming] at hconf
        exact i2 site hx hconf.2
      · intro hn
        obtain ⟨j1, j2, j3⟩ := i3 hn
        rcases hc with ⟨hr, hb⟩ | ⟨bs, hd, hz, _, hb⟩
        · obtain ⟨d1, d2, d3⟩ := spec_retry rest hr
          refine ⟨by simp [j1, hb, d1], ?_, by simp [j3, d3]; omega⟩
          rw [j2]; simp [expectRes, d1, d2, hb]
        · subst hd
          obtain ⟨d1, d2, d3⟩ := spec_data bs rest hz
          refine ⟨by simp [j1, hb, d1], ?_, by simp [j3, d3]; omega⟩
          rw [j2]; simp only [expectRes, d1, d2, hb, List.length_append]
          cases ending rest <;> simp <;> omega


/-- a writer answer that ends `write_all` with an error -/
def WResp.hard : WResp → Option IoErr
  | .accept k => if k = 0 then some .writeZero else none
  | .err e => if e = EINTR then none else some (.os e)
  | .uerr => some .user
  | .eintr => none

/-- bytes taken by the answers of a script prefix -/
def acceptedSum : List WResp → Nat
  | [] => 0
  | .accept k :: r => k + acceptedSum r
  | _ :: r => acceptedSum r

/-- what "every byte exactly once and in order, or the writer's error" means for one `write_all` -/
def WSpec (data : List Nat) (script : List WResp) (o : WOut) : Prop :=
    o.sink = data.take o.sink.length ∧
    o.rest = script.drop o.used ∧
    (o.res = .ok () → o.sink = data) ∧
    (∀ e, o.res = .err e →
      o.sink.length < data.length ∧
      o.sink.length = acceptedSum (script.take o.used) ∧
      ∃ pre r, script.take o.used = pre ++ [r] ∧ r.hard = some e ∧ ∀ x ∈ pre, x.hard = none)

theorem writeAll_go (data : List Nat) (r : WResp) (rest : List WResp) (hd : data ≠ []) (hh : r.hard = none)
    (hk : acceptedSum [r] ≤ data.length) :
    writeAll data (r :: rest) =
      (writeAll (data.drop (acceptedSum [r])) rest).push (data.take (acceptedSum [r])) data.length := by
  obtain ⟨b, bs, rfl⟩ := List.exists_cons_of_ne_nil hd
  cases r with
  | accept k =>
    have hz : k ≠ 0 := by intro h; simp [WResp.hard, h] at hh
    have hk' : ¬ (bs.length + 1 < k) := by simpa [acceptedSum] using hk
    simp [writeAll, hz, hk', acceptedSum]
  | eintr => simp [writeAll, acceptedSum]
  | err e =>
    have he : e = EINTR := by simpa [WResp.hard] using hh
    simp [writeAll, he, acceptedSum]
  | uerr => simp [WResp.hard] at hh

theorem writeAll_stop (data : List Nat) (r : WResp) (rest : List WResp) (e : IoErr) (hd : data ≠ []) (hh : r.hard = some e) :
    writeAll data (r :: rest) = ⟨.err e, [], rest, [data.length], 1⟩ := by
  obtain ⟨b, bs, rfl⟩ := List.exists_cons_of_ne_nil hd
  cases r with
  | accept k => by_cases h : k = 0 <;> simp_all [WResp.hard, writeAll]
  | eintr => simp [WResp.hard] at hh
  | err e' => by_cases h : e' = EINTR <;> simp_all [WResp.hard, writeAll]
  | uerr => simp_all [WResp.hard, writeAll]

theorem writeAll_spec : ∀ (script : List WResp) (data : List Nat),
    (∀ site, (writeAll data script).res ≠ .panic site) → WSpec data script (writeAll data script) := by
  intro script
  induction script with
  | nil => intro data _; cases data <;> simp [writeAll, WSpec]
  | cons r rest ih =>
    intro data hp
    by_cases hd : data = []
    · subst hd; simp [writeAll, WSpec]
    · cases hh : r.hard with
      | some e =>
        rw [writeAll_stop data r rest e hd hh]
        refine ⟨by simp, by simp, by simp, ?_⟩
        rintro e' ⟨⟩
        have hacc : acceptedSum [r] = 0 := by cases r <;> simp_all [WResp.hard, acceptedSum]
        exact ⟨by simpa using List.length_pos_iff.2 hd, by simpa using hacc.symm, [], r, by simp, hh, by simp⟩
      | none =>
        by_cases hk : acceptedSum [r] ≤ data.length
        · have heq := writeAll_go data r rest hd hh hk
          rw [heq] at hp ⊢
          obtain ⟨i1, i2, i3, i4⟩ := ih (data.drop (acceptedSum [r])) (fun site hx => hp site (by simpa [WOut.push] using hx))
          refine ⟨?_, i2, fun h => ?_, fun e h => ?_⟩
          · simp only [WOut.push, List.length_append, List.length_take, Nat.min_eq_left hk]
            rw [List.take_add, ← i1]
          · simp only [WOut.push] at h ⊢
            rw [i3 h, List.take_append_drop]
          · obtain ⟨j1, j2, pre', r', j3, j4, j5⟩ := i4 e h
            simp only [WOut.push, List.length_append, List.length_take, Nat.min_eq_left hk, List.take_succ_cons,
              List.length_drop] at j1 ⊢
            have hacc : acceptedSum (r :: rest.take (writeAll (data.drop (acceptedSum [r])) rest).used) =
                acceptedSum [r] + acceptedSum (rest.take (writeAll (data.drop (acceptedSum [r])) rest).used) := by
              cases r <;> simp [acceptedSum]
            refine ⟨by omega, by omega, r :: pre', r', by simp [j3], j4, ?_⟩
            intro x hx
            rcases List.mem_cons.1 hx with rfl | hx
            · exact hh
            · exact j5 x hx
        · exfalso
          obtain ⟨b, bs, rfl⟩ := List.exists_cons_of_ne_nil hd
          cases r with
          | accept k =>
            have hz : k ≠ 0 := by intro h; simp [WResp.hard, h] at hh
            have hk' : bs.length + 1 < k := by simpa [acceptedSum] using hk
            exact hp .writeAllSlice (by simp [writeAll, hz, hk'])
          | _ => simp [acceptedSum] at hk


end TinyVerif.Io
