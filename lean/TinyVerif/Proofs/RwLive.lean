import TinyVerif.Proofs.RwWakeW
namespace TinyVerif.RwLock

/-!
Liveness of the rwlock (C02, liveness clause).  A waiting bit on an unlocked word is always somebody's job (`LInv`); so
an *honest* schedule (`runH`: loads observe current values, no spurious weak-CAS failure) can let the holders release
(`release_all_holders`), clear the waiting bits through the wake path (`clear_bits`, induction on the number of threads
inside `write()`) and then drive a thread anywhere inside `read()` / `write()` to its guard (`can_acquire_read`,
`can_acquire_write`).  For the restricted relation `stepW` a parked thread always leaves an enabled one
(`parked_implies_enabled`, from `RInv`, `RQ2`, `WQ`, `LInv true`), and an enabled thread has a step (`enabled_can_step`).
-/

/-- inside a blocking `read()` call (parked in the kernel included) -/
def inRead : Pc → Bool
  | .rLoad | .rFastCas _ | .rSpin _ | .rCas _ | .rSetWait _ | .rWaitLoad _ | .rWaitSys _ | .rParked _ => true
  | _ => false

/-- inside a blocking `write()` call (parked in the kernel included) -/
def inWrite : Pc → Bool
  | .wFastCas | .wSpin _ _ | .wCas _ _ | .wSetWait _ _ | .wSeqLoad | .wStateLoad _ | .wWaitLoad _ | .wWaitSys _
  | .wParked _ => true
  | _ => false

/-- pcs at which the current transaction is still the head of the thread's program -/
def needsProg : Pc → Bool
  | .idle | .kCasA _ | .kCasB _ | .kNotify _ | .kWakeW _ | .kCasC | .kWakeR | .panicked => false
  | _ => true

/-- thread at `pc` covers the waiting bits of the unlocked word `x` -/
def cov (strict : Bool) (x : Nat) : Pc → Bool
  | .kCasA _ => x == WW || x == RW + WW
  | .kCasB _ => x == RW + WW
  | .kNotify true | .kWakeW true | .kCasC => x == RW
  | .wFastCas | .wSpin _ _ | .wCas _ _ | .wSetWait _ _ | .wSeqLoad | .wStateLoad _ => true
  | .wWaitLoad _ | .wWaitSys _ | .wParked _ => !strict
  | _ => false

/-- `read_contended` only tries to set READERS_WAITING on a word that is not read-lockable, not at the reader maximum
and does not carry the bit; `write_contended` only tries to set WRITERS_WAITING on a locked word -/
def PWf : Pc → Prop
  | .wSetWait st _ => isUnlocked st = false
  | .rSetWait st => isReadLockable st = false ∧ reachedMax st = false ∧ hasRW st = false
  | _ => True

/-- `read_unlock`'s debug assertion as a property of the word -/
def RA (x : Nat) : Prop := cnt x ≠ 0 → cnt x ≠ WRITE_LOCKED → hasRW x = true → hasWW x = true

/-- "a waiting bit on an unlocked word is always somebody's job" (`bc`): whenever the count field is 0 and a waiting
bit is set, some thread covers the bit: it is inside `wake_writer_or_readers` at a point whose pending CAS / wake
matches the word, or it is a writer inside `write()` (which takes the lock whatever the waiting bits are and runs the
wake path when it unlocks).  With `b = true` (strict) only writers that cannot go to sleep any more count (everything
before the final `writer_notify` re-check); that version is inductive for `stepW` (the re-read of `state` in the
hand-shake observes the current value) and excludes deadlock.  `pg`: a thread between its `call` and its unlocking
`fetch_sub` / `tryfail` has its transaction at the head of its program (so `acquired → hold` can always run). -/
structure LInv (b : Bool) (s : St) : Prop where
  wf : ∀ i, PWf (s.ths i).pc
  pg : ∀ i, needsProg (s.ths i).pc = true → (s.ths i).prog ≠ []
  ra : RA s.state
  bc : cnt s.state = 0 → s.state ≠ 0 → ∃ j, cov b s.state (s.ths j).pc = true

theorem init_linv (b : Bool) (progs : List (List Txn)) : LInv b (init progs) := by
  refine ⟨?_, ?_, ?_, ?_⟩
  · intro i; simp [init, PWf]
  · intro i h; simp [init, needsProg] at h
  · intro h; simp [init, cnt] at h
  · intro _ h; simp [init] at h

theorem pwf_callPc (k : Kind) : PWf (callPc k) := by cases k <;> trivial

theorem pwf_rNext (v : Nat) : PWf (rNext v) := by
  unfold rNext
  exact ite_pred PWf (fun _ => trivial) fun h1 => ite_pred PWf (fun _ => trivial) fun h2 =>
    ite_pred PWf (fun h3 => ⟨by simpa using h1, by simpa using h2, by simpa using h3⟩) fun _ => trivial

theorem pwf_wNext (v : Nat) (o : Bool) : PWf (wNext v o) := by
  unfold wNext
  exact ite_pred PWf (fun _ => trivial) fun h1 => ite_pred PWf (fun _ => by simpa [PWf] using h1) fun _ => trivial

theorem pwf_tNext (w : Bool) (v : Nat) : PWf (tNext w v) := ite_pred PWf (fun _ => trivial) fun _ => trivial

theorem pwf_wakeEntry (v : Nat) : PWf (wakeEntry v) := by
  unfold wakeEntry
  exact ite_pred PWf (fun _ => trivial) fun _ => ite_pred PWf (fun _ => trivial) fun _ =>
    ite_pred PWf (fun _ => trivial) fun _ => ite_pred PWf (fun _ => trivial) fun _ => trivial

theorem pwf_wakeAfterA (v : Nat) : PWf (wakeAfterA v) := by
  unfold wakeAfterA
  exact ite_pred PWf (fun _ => trivial) fun _ => ite_pred PWf (fun _ => trivial) fun _ => trivial

theorem np_wakeEntry (v : Nat) : needsProg (wakeEntry v) = false := by
  unfold wakeEntry
  exact ite_pred (needsProg · = false) (fun _ => rfl) fun _ => ite_pred (needsProg · = false) (fun _ => rfl) fun _ =>
    ite_pred (needsProg · = false) (fun _ => rfl) fun _ => ite_pred (needsProg · = false) (fun _ => rfl) fun _ => rfl

theorem np_wakeAfterA (v : Nat) : needsProg (wakeAfterA v) = false := by
  unfold wakeAfterA
  exact ite_pred (needsProg · = false) (fun _ => rfl) fun _ => ite_pred (needsProg · = false) (fun _ => rfl) fun _ => rfl

theorem pwf_unlockPc (w : Bool) (x : Nat) : PWf (unlockPc w x) := ite_pred PWf (fun _ => pwf_wakeEntry x) fun _ => trivial

theorem np_unlockPc (w : Bool) (x : Nat) : needsProg (unlockPc w x) = false :=
  ite_pred (needsProg · = false) (fun _ => np_wakeEntry x) fun _ => rfl

theorem cov_wNext (b : Bool) (x v : Nat) (o : Bool) : cov b x (wNext v o) = true := by
  unfold wNext
  exact ite_pred (cov b x · = true) (fun _ => rfl) fun _ => ite_pred (cov b x · = true) (fun _ => rfl) fun _ => rfl

theorem cov_rNext (b : Bool) (x v : Nat) : cov b x (rNext v) = false := by
  unfold rNext; repeat' split
  all_goals simp [cov]

theorem cov_woken (b : Bool) (c : Cfg) (x : Nat) (p : Pc) (h : cov b x p = true) : cov b x (wokenPc c p) = true := by
  cases p <;> first | exact h | (cases b <;> first | rfl | cases h)

theorem pwf_woken (c : Cfg) (p : Pc) (h : PWf p) : PWf (wokenPc c p) := by
  cases p <;> first | exact h | trivial

theorem np_woken (c : Cfg) (p : Pc) : needsProg (wokenPc c p) = needsProg p := by
  cases p <;> rfl

theorem inRead_woken (c : Cfg) (p : Pc) : inRead (wokenPc c p) = inRead p := by
  cases p <;> rfl

theorem inWrite_woken (c : Cfg) (p : Pc) : inWrite (wokenPc c p) = inWrite p := by
  cases p <;> rfl

theorem word_cases (x : Nat) (hlt : x < TWO32) (h0 : cnt x = 0) (hne : x ≠ 0) :
    x = RW ∨ x = WW ∨ x = RW + WW := by
  simp only [cnt, RW, WW, TWO32] at *; omega

theorem cov_wakeEntry (b : Bool) (x : Nat) (hlt : x < TWO32) (h0 : cnt x = 0) (hne : x ≠ 0) :
    cov b x (wakeEntry x) = true := by
  have e1 : wakeEntry RW = .kCasC := by decide
  have e2 : wakeEntry WW = .kCasA WW := by decide
  have e3 : wakeEntry (RW + WW) = .kCasB (RW + WW) := by decide
  rcases word_cases x hlt h0 hne with h | h | h <;> subst h
  · rw [e1]; simp [cov]
  · rw [e2]; simp [cov]
  · rw [e3]; simp [cov]

theorem ra_of_wl (x : Nat) (h : cnt x = WRITE_LOCKED) : RA x := fun _ h2 _ => absurd h h2
theorem ra_of_zero (x : Nat) (h : cnt x = 0) : RA x := fun h1 _ _ => absurd h h1

theorem ra_add_one (x : Nat) (h : isReadLockable x = true) : RA (x + 1) := by
  obtain ⟨h1, h2, h3⟩ := (readLockable_iff x).mp h
  intro _ _ hrw
  rw [hasRW_add_one x h1] at hrw
  simp only [hasRW, RW, beq_iff_eq] at hrw
  exact absurd hrw h2

theorem ra_orWW (x : Nat) : RA (orWW x) := fun _ _ _ => hasWW_orWW x

theorem ra_orRW (x : Nat) (hlt : x < TWO32) (h1 : isReadLockable x = false) (h2 : reachedMax x = false)
    (h3 : hasRW x = false) : RA (orRW x) := by
  intro c0 cw _
  rw [cnt_orRW] at c0 cw
  rw [hasWW_orRW x (by simpa [TWO32] using hlt)]
  cases hw : hasWW x with
  | true => rfl
  | false =>
    exfalso
    have : isReadLockable x = true := by
      unfold isReadLockable
      simp only [h3, hw, Bool.not_false, Bool.and_true, decide_eq_true_eq]
      simp only [reachedMax, cnt, RW, MAX_READERS, WRITE_LOCKED, beq_eq_false_iff_ne, ne_eq] at *
      omega
    rw [this] at h1; cases h1

theorem ra_sub_one (x : Nat) (hlt : x < TWO32) (h : RA x) (h1 : 1 ≤ cnt x) (hw : cnt x ≠ WRITE_LOCKED) :
    RA (wsub x 1) := by
  intro c0 cw hrw
  rw [hasRW_sub_one x h1 hlt] at hrw
  rw [hasWW_sub_one x h1 hlt]
  exact h (by omega) hw hrw

theorem linv_upd (b : Bool) (c : Cfg) (s s' : St) (i : Nat) (h : LInv b s)
    (hoth : ∀ j, j ≠ i → (s'.ths j).prog = (s.ths j).prog ∧
      ((s'.ths j).pc = (s.ths j).pc ∨ (s'.ths j).pc = wokenPc c (s.ths j).pc))
    (hwf : PWf (s'.ths i).pc) (hpg : needsProg (s'.ths i).pc = true → (s'.ths i).prog ≠ [])
    (hra : RA s'.state)
    (hbc : cnt s'.state = 0 → s'.state ≠ 0 →
        cov b s'.state (s'.ths i).pc = true ∨
        (cnt s.state = 0 ∧ s.state ≠ 0 ∧ (∀ pc, cov b s.state pc = true → cov b s'.state pc = true) ∧
          (cov b s.state (s.ths i).pc = true → ∃ k, cov b s'.state (s'.ths k).pc = true))) : LInv b s' := by
  refine ⟨?_, ?_, hra, ?_⟩
  · intro j
    by_cases hj : j = i
    · subst hj; exact hwf
    · rcases (hoth j hj).2 with e | e <;> rw [e]
      · exact h.wf j
      · exact pwf_woken c _ (h.wf j)
  · intro j
    by_cases hj : j = i
    · subst hj; exact hpg
    · rw [(hoth j hj).1]
      rcases (hoth j hj).2 with e | e <;> rw [e]
      · exact h.pg j
      · rw [np_woken]; exact h.pg j
  · intro h0 hne
    rcases hbc h0 hne with h1 | ⟨c0, cne, hmono, hself⟩
    · exact ⟨i, h1⟩
    · obtain ⟨j, hj⟩ := h.bc c0 cne
      by_cases hji : j = i
      · subst hji; exact hself hj
      · refine ⟨j, ?_⟩
        rcases (hoth j hji).2 with e | e <;> rw [e]
        · exact hmono _ hj
        · exact cov_woken b c _ _ (hmono _ hj)

/-- thread `i` (at pc `p`) gets a new record; word unchanged -/
theorem linv_setth (b : Bool) (c : Cfg) {s : St} {i : Nat} {p : Pc} (t' : Th) (h : LInv b s) (hpc : (s.ths i).pc = p)
    (hwf : PWf t'.pc) (hpg : needsProg t'.pc = true → t'.prog ≠ [])
    (hcov : cnt s.state = 0 → s.state ≠ 0 → cov b s.state p = true → cov b s.state t'.pc = true) :
    LInv b (setTh s i t') := by
  refine linv_upd b c s _ i h (fun j hj => by simp [setTh_ths, hj]) (by simpa using hwf) (by simpa using hpg) h.ra ?_
  intro h0 hne
  exact Or.inr ⟨h0, hne, fun _ hp => hp, fun hc => ⟨i, by simpa using hcov h0 hne (hpc ▸ hc)⟩⟩

theorem linv_move (b : Bool) (c : Cfg) {s : St} {i : Nat} {p p' : Pc} (h : LInv b s) (hpc : (s.ths i).pc = p)
    (hwf : PWf p') (hpg : needsProg p' = true → needsProg p = true)
    (hcov : cnt s.state = 0 → s.state ≠ 0 → cov b s.state p = true → cov b s.state p' = true) :
    LInv b (setPc s i p') :=
  linv_setth b c _ h hpc hwf (fun hh => h.pg i (hpc ▸ hpg hh)) hcov

/-- pc-only move of thread `i` (word unchanged) -/
theorem linv_setpc (b : Bool) (c : Cfg) (s : St) (i : Nat) (pc' : Pc) (h : LInv b s)
    (hwf : PWf pc') (hpg : needsProg pc' = true → needsProg (s.ths i).pc = true)
    (hcov : cnt s.state = 0 → s.state ≠ 0 → cov b s.state (s.ths i).pc = true → cov b s.state pc' = true) :
    LInv b (setPc s i pc') :=
  linv_move b c h rfl hwf hpg hcov

/-- pc-only step from a pc that needs its program and covers nothing -/
theorem linv_quiet (b : Bool) (c : Cfg) {s : St} {i : Nat} {p p' : Pc} (hl : LInv b s) (hpc : (s.ths i).pc = p)
    (hnp : needsProg p = true) (hnc : ∀ x, cov b x p = false) (hwf : PWf p') : LInv b (setPc s i p') :=
  linv_move b c hl hpc hwf (fun _ => hnp) (fun _ _ hh => by rw [hnc] at hh; cases hh)

/-- pc-only step of a writer inside `write()` to an early (covering) writer pc -/
theorem linv_wmove (b : Bool) (c : Cfg) {s : St} {i : Nat} {p p' : Pc} (hl : LInv b s) (hpc : (s.ths i).pc = p)
    (hnp : needsProg p = true) (hcv : ∀ x, cov b x p' = true) (hwf : PWf p') : LInv b (setPc s i p') :=
  linv_move b c hl hpc hwf (fun _ => hnp) (fun _ _ _ => hcv _)

/-- RMW on the word by thread `i`, program unchanged -/
theorem linv_rmw (b : Bool) (c : Cfg) {s : St} {i : Nat} {p p' : Pc} (acq rel : Bool) (new : Nat) (h : LInv b s)
    (hpc : (s.ths i).pc = p) (hwf : PWf p') (hpg : needsProg p' = true → needsProg p = true) (hra : RA new)
    (hbc : cnt new = 0 → new ≠ 0 → cov b new p' = true ∨
        (cnt s.state = 0 ∧ s.state ≠ 0 ∧ (∀ pc, cov b s.state pc = true → cov b new pc = true) ∧
          cov b s.state p = false)) :
    LInv b (rmwState s i acq rel new p') := by
  refine linv_upd b c s _ i h (fun j hj => by simp [rmwState, setTh_ths, hj]) (by simpa [rmwState] using hwf)
    (fun hh => ?_) hra ?_
  · simp only [rmwState, setTh_ths_same] at hh ⊢; exact h.pg i (hpc ▸ hpg hh)
  · intro h0 hne
    rcases hbc h0 hne with h1 | ⟨c0, cne, hmono, hself⟩
    · exact Or.inl (by simpa [rmwState] using h1)
    · exact Or.inr ⟨c0, cne, hmono, fun hc => by rw [hpc, hself] at hc; cases hc⟩

theorem cnt_add_one_ne (x : Nat) (h : isReadLockable x = true) : cnt (x + 1) ≠ 0 := by
  obtain ⟨h1, _, _⟩ := (readLockable_iff x).mp h
  simp only [cnt, RW]; omega

theorem cov_WW_mono (b : Bool) (pc : Pc) (h : cov b WW pc = true) : cov b (RW + WW) pc = true := by
  cases pc with
  | kNotify fb => cases fb <;> simp_all [cov, WW, RW]
  | kWakeW fb => cases fb <;> simp_all [cov, WW, RW]
  | _ => simp_all [cov, WW, RW]

theorem wl_ne_zero : WRITE_LOCKED ≠ 0 := by decide

theorem unlockR_facts (x0 : Nat) (hlt : x0 < TWO32) (hra : RA x0) (h1 : 1 ≤ cnt x0) (hw : cnt x0 ≠ WRITE_LOCKED) :
    RA (wsub x0 1) ∧ (cnt (wsub x0 1) = 0 → wsub x0 1 ≠ 0 → (isUnlocked (wsub x0 1) && hasWW (wsub x0 1)) = true) := by
  refine ⟨ra_sub_one x0 hlt hra h1 hw, ?_⟩
  intro h0 hne
  have hu : isUnlocked (wsub x0 1) = true := by simp [isUnlocked, h0]
  rw [hu, Bool.true_and]
  have hs : x0 = wsub x0 1 + 1 := by
    unfold wsub; simp only [cnt, RW, TWO32] at *; omega
  rcases word_cases _ (wsub_lt _ _) h0 hne with hh | hh | hh
  · exfalso
    rw [hh] at hs
    rw [hs] at hra
    exact absurd (hra (by decide) (by decide) (by decide)) (by decide)
  · rw [hh]; decide
  · rw [hh]; decide

theorem unlockW_facts (x0 : Nat) (hlt : x0 < TWO32) (hw : cnt x0 = WRITE_LOCKED) :
    RA (wsub x0 WRITE_LOCKED) ∧ cnt (wsub x0 WRITE_LOCKED) = 0 ∧
    (wsub x0 WRITE_LOCKED ≠ 0 → (hasWW (wsub x0 WRITE_LOCKED) || hasRW (wsub x0 WRITE_LOCKED)) = true) := by
  have h0 := cnt_sub_WL x0 hlt hw
  refine ⟨ra_of_zero _ h0, h0, ?_⟩
  intro hne
  rcases word_cases _ (wsub_lt _ _) h0 hne with hh | hh | hh <;> rw [hh] <;> decide

theorem wakeAfterA_RWWW : wakeAfterA (RW + WW) = .kCasB (RW + WW) := by decide

theorem wakeAll_prog (c : Cfg) (s : St) (l : List Nat) (k : Nat) : ((wakeAll c s l).ths k).prog = (s.ths k).prog := by
  rw [wakeAll_ths]; split <;> rfl

theorem Step.frame {c : Cfg} {s s' : St} {i : Nat} {p : Pc} {e : Ev} (h : Step c s i p e s') :
    s'.n = s.n ∧ ∀ k, k ≠ i → (s'.ths k).prog = (s.ths k).prog ∧
      ((s'.ths k).pc = (s.ths k).pc ∨ (s'.ths k).pc = wokenPc c (s.ths k).pc) := by
  cases h
  case kWakeOne | kWakeR =>
    refine ⟨by simp [setPc, wakeAll_n], fun k hk => ?_⟩
    simp only [setPc, setTh_ths, hk, if_false]
    exact ⟨wakeAll_prog c s _ k, wakeAll_pc c s _ k⟩
  case unlock w => exact ⟨rfl, fun k hk => by rw [unlockSt_other c s w hk]; exact ⟨rfl, Or.inl rfl⟩⟩
  all_goals exact ⟨rfl, fun k hk => by simp only [setPc, rmwState, setTh_ths, if_neg hk, true_or, and_self]⟩

/-- if the unlocking `fetch_sub` leaves a waiting bit on an unlocked word, the unlocking thread enters the wake path at
the matching point -/
theorem unlock_word (b : Bool) (c : Cfg) {s : St} {i : Nat} {w : Bool} (hinv : RInv s) (hra : RA s.state)
    (hpc : (s.ths i).pc = .unlock w) :
    RA (unlockSt c s i w).state ∧ (cnt (unlockSt c s i w).state = 0 → (unlockSt c s i w).state ≠ 0 →
      cov b (unlockSt c s i w).state (unlockPc w (unlockSt c s i w).state) = true) := by
  have hlt := wsub_lt s.state (if w then WRITE_LOCKED else 1)
  rw [unlockSt_state]
  unfold unlockPc
  cases w <;> simp only [Bool.false_eq_true, if_false, if_true] at hlt ⊢
  · obtain ⟨hnwl, hge1⟩ := reader_word hinv (by rw [hpc]; rfl)
    obtain ⟨f1, f2⟩ := unlockR_facts s.state hinv.lt32 hra hge1 hnwl
    exact ⟨f1, fun h0 hne => by rw [if_pos (f2 h0 hne)]; exact cov_wakeEntry b _ hlt h0 hne⟩
  · obtain ⟨f1, _, f2⟩ := unlockW_facts s.state hinv.lt32 (writer_word hinv (by rw [hpc]; rfl))
    exact ⟨f1, fun h0 hne => by rw [if_pos (f2 hne)]; exact cov_wakeEntry b _ hlt h0 hne⟩

/-- **every step preserves `LInv`**; in strict mode the re-read of `state` in the writer hand-shake must observe the
current value (which `stepW` guarantees) -/
theorem step_linv (b : Bool) (c : Cfg) (s s' : St) (i : Nat) (e : Ev) (h : step c s i e = some s') (hinv : RInv s)
    (hl : LInv b s)
    (hcur : b = true → ∀ q v, (s.ths i).pc = .wStateLoad q → e = .load 0 v → v = s.state) : LInv b s' := by
  obtain ⟨hi, hs⟩ := step_sound h
  have hlt := hinv.lt32
  have hfr := hs.frame.2
  generalize hpc : (s.ths i).pc = p at hs
  cases hs with
  | call hpr => exact linv_setth b c _ hl hpc (pwf_callPc _) (fun _ => by simp [hpr]) (fun _ _ => nofun)
  | rLoad _ | rWaitLoad _ | rParked _ =>
    exact linv_quiet b c hl hpc rfl (fun _ => rfl) (ite_pred PWf (fun _ => trivial) fun _ => trivial)
  | rFastOk hst | rCasOk hst =>
    subst hst
    exact linv_rmw b c _ _ _ hl hpc trivial (fun _ => rfl) (ra_add_one _ (hinv.wf_at hpc))
      fun h0 => absurd h0 (cnt_add_one_ne _ (hinv.wf_at hpc))
  | rFastFail | rPark | rNoPark | acquired | rel => exact linv_quiet b c hl hpc rfl (fun _ => rfl) trivial
  | rSpin v =>
    exact linv_quiet b c hl hpc rfl (fun _ => rfl) (ite_pred PWf (fun _ => pwf_rNext v) fun _ => trivial)
  | rCasFail | rSetWaitFail => exact linv_quiet b c hl hpc rfl (fun _ => rfl) (pwf_rNext _)
  | rSetWaitOk hst =>
    subst hst
    obtain ⟨w1, w2, w3⟩ : PWf (.rSetWait s.state) := hpc ▸ hl.wf i
    refine linv_rmw b c _ _ _ hl hpc trivial (fun _ => rfl) (ra_orRW _ hlt w1 w2 w3) fun h0 hne => Or.inr ?_
    rw [cnt_orRW] at h0
    -- the word is unlocked, carries no RW and is not lockable: it is exactly WW
    have hx : s.state = WW := by
      have hne0 : s.state ≠ 0 := by
        intro hz; rw [hz] at w1; revert w1; decide
      rcases word_cases _ hlt h0 hne0 with hh | hh | hh
      · rw [hh] at w3; exact absurd w3 (by decide)
      · exact hh
      · rw [hh] at w3; exact absurd w3 (by decide)
    refine ⟨h0, by rw [hx]; decide, fun pc hp => ?_, rfl⟩
    rw [hx] at hp ⊢
    rw [show orRW WW = RW + WW by decide]; exact cov_WW_mono b pc hp
  | tLoad _ | tCasFail => exact linv_quiet b c hl hpc rfl (fun _ => rfl) (pwf_tNext _ _)
  | @tCasOk w st hst =>
    subst hst
    have hwf := hinv.wf_at hpc
    cases w
    · exact linv_rmw b c _ _ _ hl hpc trivial (fun _ => rfl) (ra_add_one _ hwf) fun h0 => absurd h0 (cnt_add_one_ne _ hwf)
    · have hcw := (add_WL_word hlt hwf).2
      exact linv_rmw b c _ _ _ hl hpc trivial (fun _ => rfl) (ra_of_wl _ hcw) fun h0 => absurd (hcw ▸ h0) wl_ne_zero
  | tryFailed => exact linv_setth b c _ hl hpc trivial nofun (fun _ _ => nofun)
  | wFastOk =>
    exact linv_rmw b c _ _ _ hl hpc trivial (fun _ => rfl) (ra_of_wl _ rfl) fun h0 => absurd h0 wl_ne_zero
  | wFastFail | wSeqLoad _ | wNoPark => exact linv_wmove b c hl hpc rfl (fun _ => rfl) trivial
  | wSpin v =>
    exact linv_wmove b c hl hpc rfl (fun x => ite_pred (cov b x · = true) (fun _ => cov_wNext b x v _) fun _ => rfl)
      (ite_pred PWf (fun _ => pwf_wNext v _) fun _ => trivial)
  | @wCasOk st oww hst =>
    subst hst
    have hcw := (orWL_word oww hlt (hinv.wf_at hpc)).2
    exact linv_rmw b c _ _ _ hl hpc trivial (fun _ => rfl) (ra_of_wl _ hcw) fun h0 => absurd (hcw ▸ h0) wl_ne_zero
  | wCasFail | wSetWaitFail => exact linv_wmove b c hl hpc rfl (fun x => cov_wNext b x _ _) (pwf_wNext _ _)
  | wSetWaitOk => exact linv_rmw b c _ _ _ hl hpc trivial (fun _ => rfl) (ra_orWW _) fun _ _ => Or.inl rfl
  | @wStateLoad seq v =>
    refine linv_move b c hl hpc (ite_pred PWf (fun _ => pwf_wNext v true) fun _ => trivial) (fun _ => rfl) fun h0 _ _ =>
      ite_pred (cov b s.state · = true) (fun _ => cov_wNext b _ v true) fun hc => ?_
    -- strict mode: the re-read saw the current, unlocked word, so the writer does not go on to sleep
    cases b
    · rfl
    · exact absurd (Or.inl (by rw [hcur rfl seq v hpc rfl]; simp [isUnlocked, h0])) hc
  | wWaitLoad _ =>
    exact linv_move b c hl hpc (ite_pred PWf (fun _ => trivial) fun _ => trivial) (fun _ => rfl) fun _ _ hh =>
      ite_pred (cov b s.state · = true) (fun _ => rfl) fun _ => hh
  | wPark => exact linv_move b c hl hpc trivial (fun _ => rfl) fun _ _ hh => hh
  | wParked _ =>
    exact linv_move b c hl hpc (ite_pred PWf (fun _ => trivial) fun _ => trivial) (fun _ => rfl) fun _ _ hh =>
      ite_pred (cov b s.state · = true) (fun _ => hh) fun _ => rfl
  | data =>
    exact linv_quiet b c (s := { s with raced := _ }) ⟨hl.wf, hl.pg, hl.ra, hl.bc⟩ hpc rfl (fun _ => rfl) trivial
  | @unlock w =>
    obtain ⟨hra, hcv⟩ := unlock_word b c hinv hl.ra hpc
    refine linv_upd b c s _ i hl hfr ?_ ?_ hra fun h0 hne => Or.inl ?_
    · rw [unlockSt_self]; exact pwf_unlockPc _ _
    · rw [unlockSt_self]; intro hh; rw [np_unlockPc] at hh; cases hh
    · rw [unlockSt_self]; exact hcv h0 hne
  | kCasAOk | kCasCOk =>
    exact linv_rmw b c _ _ _ hl hpc trivial nofun (ra_of_zero _ rfl) fun _ hne => absurd rfl hne
  | kCasAFail hne =>
    refine linv_move b c hl hpc (pwf_wakeAfterA _) (fun hh => by rw [np_wakeAfterA] at hh; cases hh) fun _ _ hh => ?_
    -- the failed CAS expected WW, so the covered word is RW + WW and the second `if` of the wake path takes over
    obtain rfl : _ = WW := hinv.wf_at hpc
    simp only [cov, Bool.or_eq_true, beq_iff_eq] at hh
    rcases hh with hh | hh
    · exact absurd hh hne
    · rw [hh, wakeAfterA_RWWW]; simp [cov]
  | kCasBOk => exact linv_rmw b c _ _ _ hl hpc trivial nofun (ra_of_zero _ rfl) fun _ _ => Or.inl rfl
  | kCasBFail hne =>
    refine linv_move b c hl hpc trivial nofun fun _ _ hh => absurd ?_ hne
    obtain rfl : _ = RW + WW := hinv.wf_at hpc
    simpa [cov] using hh
  | kCasCFail hne => exact linv_move b c hl hpc trivial nofun fun _ _ hh => absurd (by simpa [cov] using hh) hne
  | @kNotify fb =>
    exact linv_move b c (s := { s with notify := _ }) ⟨hl.wf, hl.pg, hl.ra, hl.bc⟩ hpc trivial nofun fun _ _ hh => by
      cases fb <;> exact hh
  | @kWakeNone fb =>
    exact linv_move b c hl hpc (ite_pred PWf (fun _ => trivial) fun _ => trivial)
      (ite_pred (needsProg · = true → _) nofun nofun) fun _ _ hh => by cases fb <;> exact hh
  | @kWakeOne fb j hmem =>
    -- the woken writer covers the bits from its spin loop
    obtain ⟨hjn, hjp⟩ := (parkedList_mem s 1 j).mp hmem
    rw [parkedOn1_eq] at hjp
    have hji : j ≠ i := fun hh => by subst hh; rw [hpc] at hjp; cases hjp
    refine linv_upd b c s _ i hl hfr (by simp [setPc, PWf])
      (by simp [setPc, needsProg]) (by simpa [setPc, wakeAll_state] using hl.ra) fun h0 hne => Or.inr ?_
    simp only [setPc, setTh_state, wakeAll_state] at h0 hne
    refine ⟨h0, hne, fun pc hp => by simpa [setPc, wakeAll_state] using hp, fun _ => ⟨j, ?_⟩⟩
    simp only [setPc, setTh_ths, hji, if_false, wakeAll, wakeOne]
    cases hq : (s.ths j).pc <;> simp [hq, wparked] at hjp
    simp [wokenPc, cov]
  | @kWakeR woken =>
    refine linv_upd b c s _ i hl hfr (by simp [setPc, PWf])
      (by simp [setPc, needsProg]) (by simpa [setPc, wakeAll_state] using hl.ra) fun h0 hne => Or.inr ?_
    simp only [setPc, setTh_state, wakeAll_state] at h0 hne
    exact ⟨h0, hne, fun pc hp => by simpa [setPc, wakeAll_state] using hp, fun hh => by rw [hpc] at hh; cases hh⟩

theorem stepW_linv (c : Cfg) (s s' : St) (i : Nat) (e : Ev) (h : stepW c s i e = some s') (hinv : RInv s)
    (hl : LInv true s) : LInv true s' :=
  step_linv true c s s' i e (stepW_step c s s' i e h) hinv hl fun _ => (stepW_cond h).2.1


/-! ## possibility-form liveness by honest schedules -/

/-- the event is *honest*: a load observes the current value of its location and a weak CAS does not fail
spuriously (sequentially consistent reading of the step); futex returns without a wake (`spur`) are allowed -/
def honest (s : St) : Ev → Bool
  | .load 0 v => v == s.state
  | .load 1 v => v == s.notify
  | .load _ _ => false
  | .cas _ _ _ _ (.spur _) => false
  | _ => true

def stepH (c : Cfg) (s : St) (i : Nat) (e : Ev) : Option St := if honest s e then step c s i e else none

def runH (c : Cfg) : St → List (Nat × Ev) → Option St
  | s, [] => some s
  | s, (i, e) :: rest =>
      match stepH c s i e with
      | some s' => runH c s' rest
      | none => none

theorem stepH_step (c : Cfg) (s s' : St) (i : Nat) (e : Ev) (h : stepH c s i e = some s') : step c s i e = some s' := by
  unfold stepH at h; split at h
  · exact h
  · simp at h

theorem runH_eq (c : Cfg) : runH c = runBy (stepH c) := by
  funext s evs
  induction evs generalizing s with
  | nil => rfl
  | cons x rest ih => simp only [runH, runBy, ih]; rfl

theorem runH_run (c : Cfg) (s s' : St) (evs : List (Nat × Ev)) (h : runH c s evs = some s') : run c s evs = some s' := by
  rw [run_eq]; rw [runH_eq] at h; exact runBy_mono (stepH_step c) h

theorem runH_append (c : Cfg) (s : St) (a b : List (Nat × Ev)) :
    runH c s (a ++ b) = (runH c s a).bind (fun s' => runH c s' b) := by
  induction a generalizing s with
  | nil => rfl
  | cons x rest ih =>
    obtain ⟨i, e⟩ := x
    simp only [List.cons_append, runH]
    cases h : stepH c s i e with
    | none => rfl
    | some s1 => simp [ih]

/-- safety and the cover invariant: what the honest schedules are built from -/
structure AllInv (s : St) : Prop where
  r : RInv s
  l : LInv false s

theorem step_allinv (c : Cfg) (hc : c.Good) (s s' : St) (i : Nat) (e : Ev) (h : step c s i e = some s')
    (hi : AllInv s) : AllInv s' :=
  ⟨step_inv c hc s s' i e h hi.r, step_linv false c s s' i e h hi.r hi.l nofun⟩

theorem runH_allinv (c : Cfg) (hc : c.Good) (s s' : St) (evs : List (Nat × Ev)) (h : runH c s evs = some s')
    (hi : AllInv s) : AllInv s' := by
  rw [runH_eq] at h
  exact runBy_preserves (fun s s' i e hs => step_allinv c hc s s' i e (stepH_step c s s' i e hs)) h hi

/-- frame: the thread is inside `read()` / `write()` exactly as before (a wake may have moved it from the kernel
back to its spin loop) -/
def Fr (a b : Th) : Prop := inRead b.pc = inRead a.pc ∧ inWrite b.pc = inWrite a.pc

theorem Fr.refl (a : Th) : Fr a a := ⟨rfl, rfl⟩
theorem Fr.trans {a b d : Th} (h1 : Fr a b) (h2 : Fr b d) : Fr a d := ⟨h2.1.trans h1.1, h2.2.trans h1.2⟩

/-- `s'` is reached from `s` by honest steps of thread `u` alone; every other thread keeps its place (up to wakes) -/
def Drv (c : Cfg) (s s' : St) (u : Nat) : Prop :=
  ∃ evs : List (Nat × Ev), runH c s evs = some s' ∧ s'.n = s.n ∧ ∀ k, k ≠ u → Fr (s.ths k) (s'.ths k)

theorem Drv.refl (c : Cfg) (s : St) (u : Nat) : Drv c s s u := ⟨[], rfl, rfl, fun _ _ => Fr.refl _⟩

theorem Drv.trans {c : Cfg} {s s1 s2 : St} {u : Nat} (h1 : Drv c s s1 u) (h2 : Drv c s1 s2 u) : Drv c s s2 u := by
  obtain ⟨e1, r1, n1, o1⟩ := h1
  obtain ⟨e2, r2, n2, o2⟩ := h2
  refine ⟨e1 ++ e2, ?_, by rw [n2, n1], fun k hk => (o1 k hk).trans (o2 k hk)⟩
  rw [runH_append, r1]; exact r2

theorem Step.fr {c : Cfg} {s s' : St} {i : Nat} {p : Pc} {e : Ev} (h : Step c s i p e s') :
    s'.n = s.n ∧ ∀ k, k ≠ i → Fr (s.ths k) (s'.ths k) :=
  ⟨h.frame.1, fun k hk => by
    rcases (h.frame.2 k hk).2 with e | e <;> simp only [Fr, e, inRead_woken, inWrite_woken, and_self]⟩

theorem Drv.step {c : Cfg} {s s' : St} {u : Nat} {p : Pc} {e : Ev} (hu : u < s.n) (hpc : (s.ths u).pc = p)
    (h : Step c s u p e s') (hh : honest s e = true) : Drv c s s' u :=
  ⟨[(u, e)], by simp [runH, stepH, hh, h.accepted hu hpc], h.fr.1, h.fr.2⟩

theorem Drv.inv {c : Cfg} (hc : c.Good) {s s' : St} {u : Nat} (h : Drv c s s' u) (hi : AllInv s) : AllInv s' := by
  obtain ⟨evs, r, _, _⟩ := h
  exact runH_allinv c hc s s' evs r hi

/-- continue after one honest step of `t` -/
theorem drv_then {c : Cfg} {s s1 : St} {t : Nat} {p : Pc} {e : Ev} {P : St → Prop} (ht : t < s.n)
    (hpc : (s.ths t).pc = p) (h : Step c s t p e s1) (hh : honest s e = true) (hnext : ∃ s', Drv c s1 s' t ∧ P s') :
    ∃ s', Drv c s s' t ∧ P s' :=
  let ⟨s', d, hp⟩ := hnext
  ⟨s', (Drv.step ht hpc h hh).trans d, hp⟩

theorem casConsistent_fail {cur exp : Nat} {w : Bool} (h : cur ≠ exp) : casConsistent cur exp w (.fail cur) = true := by
  simp [casConsistent, h]

theorem rNext_zero : rNext 0 = .rCas 0 := by decide

section readers
variable (c : Cfg)

theorem acqR_cas0 (s : St) (t : Nat) (ht : t < s.n) (h0 : s.state = 0) (hpc : (s.ths t).pc = .rCas 0) :
    ∃ s', Drv c s s' t ∧ holdsR (s'.ths t) = true :=
  ⟨_, .step ht hpc (.rCasOk h0) rfl, by simp [rmwState, holdsR]⟩

theorem acqR_cas (s : St) (t : Nat) (ht : t < s.n) (h0 : s.state = 0) (st : Nat) (hpc : (s.ths t).pc = .rCas st) :
    ∃ s', Drv c s s' t ∧ holdsR (s'.ths t) = true := by
  by_cases hst : s.state = st
  · exact ⟨_, .step ht hpc (.rCasOk hst) rfl, by simp [rmwState, holdsR]⟩
  · exact drv_then ht hpc (.rCasFail (casConsistent_fail hst) nofun) rfl
      (acqR_cas0 c _ t ht h0 (by simp [setPc, h0, rNext_zero]))

theorem acqR_spin (s : St) (t : Nat) (ht : t < s.n) (h0 : s.state = 0) (n : Nat) (hpc : (s.ths t).pc = .rSpin n) :
    ∃ s', Drv c s s' t ∧ holdsR (s'.ths t) = true :=
  drv_then ht hpc (.rSpin s.state) (by simp [honest])
    (acqR_cas0 c _ t ht h0 (by simp [setPc, h0, rNext_zero, show spinStopR 0 = true by decide]))

theorem acqR_fast (s : St) (t : Nat) (ht : t < s.n) (h0 : s.state = 0) (st : Nat) (hpc : (s.ths t).pc = .rFastCas st) :
    ∃ s', Drv c s s' t ∧ holdsR (s'.ths t) = true := by
  by_cases hst : s.state = st
  · exact ⟨_, .step ht hpc (.rFastOk hst) rfl, by simp [rmwState, holdsR]⟩
  · exact drv_then ht hpc (.rFastFail (casConsistent_fail hst) nofun) rfl (acqR_spin c _ t ht h0 c.spinMax (by simp [setPc]))

theorem acqR_load (s : St) (t : Nat) (ht : t < s.n) (h0 : s.state = 0) (hpc : (s.ths t).pc = .rLoad) :
    ∃ s', Drv c s s' t ∧ holdsR (s'.ths t) = true :=
  drv_then ht hpc (.rLoad s.state) (by simp [honest])
    (acqR_fast c _ t ht h0 0 (by simp [setPc, h0, show isReadLockable 0 = true by decide]))

theorem acqR_setWait (s : St) (t : Nat) (ht : t < s.n) (h0 : s.state = 0) (st : Nat) (hpc : (s.ths t).pc = .rSetWait st)
    (hwf : PWf (s.ths t).pc) : ∃ s', Drv c s s' t ∧ holdsR (s'.ths t) = true := by
  have hst : s.state ≠ st := by
    rintro rfl; rw [hpc, h0] at hwf; exact absurd hwf.1 (by decide)
  exact drv_then ht hpc (.rSetWaitFail hst) rfl (acqR_cas0 c _ t ht h0 (by simp [setPc, h0, rNext_zero]))

theorem acqR_parked (s : St) (t : Nat) (ht : t < s.n) (h0 : s.state = 0) (ex : Nat) (hpc : (s.ths t).pc = .rParked ex) :
    ∃ s', Drv c s s' t ∧ holdsR (s'.ths t) = true :=
  drv_then ht hpc (.rParked false) rfl (acqR_spin c _ t ht h0 c.spinMax (by simp [setPc]))

theorem acqR_waitSys (s : St) (t : Nat) (ht : t < s.n) (h0 : s.state = 0) (ex : Nat) (hpc : (s.ths t).pc = .rWaitSys ex) :
    ∃ s', Drv c s s' t ∧ holdsR (s'.ths t) = true := by
  by_cases hex : s.state = ex
  · exact drv_then ht hpc (.rPark hex) rfl (acqR_parked c _ t ht h0 ex (by simp [setPc]))
  · exact drv_then ht hpc (.rNoPark hex) rfl (acqR_spin c _ t ht h0 c.spinMax (by simp [setPc]))

theorem acqR_waitLoad (s : St) (t : Nat) (ht : t < s.n) (h0 : s.state = 0) (ex : Nat) (hpc : (s.ths t).pc = .rWaitLoad ex) :
    ∃ s', Drv c s s' t ∧ holdsR (s'.ths t) = true := by
  refine drv_then ht hpc (.rWaitLoad s.state) (by simp [honest]) ?_
  by_cases hex : s.state = ex
  · exact acqR_waitSys c _ t ht h0 ex (by simp [setPc, hex])
  · exact acqR_spin c _ t ht h0 c.spinMax (by simp [setPc, hex])

/-- **with the word 0, a thread anywhere inside `read()` can be driven (alone) to hold a read guard** -/
theorem acquireR_when_clear (s : St) (t : Nat) (ht : t < s.n) (h0 : s.state = 0) (hwf : PWf (s.ths t).pc)
    (hin : inRead (s.ths t).pc = true) : ∃ s', Drv c s s' t ∧ holdsR (s'.ths t) = true := by
  cases hpc : (s.ths t).pc <;> simp [inRead, hpc] at hin
  case rLoad => exact acqR_load c s t ht h0 hpc
  case rFastCas st => exact acqR_fast c s t ht h0 st hpc
  case rSpin n => exact acqR_spin c s t ht h0 n hpc
  case rCas st => exact acqR_cas c s t ht h0 st hpc
  case rSetWait st => exact acqR_setWait c s t ht h0 st hpc hwf
  case rWaitLoad ex => exact acqR_waitLoad c s t ht h0 ex hpc
  case rWaitSys ex => exact acqR_waitSys c s t ht h0 ex hpc
  case rParked ex => exact acqR_parked c s t ht h0 ex hpc

end readers

section writers
variable (c : Cfg)

theorem wNext_unlocked (x : Nat) (o : Bool) (h : cnt x = 0) : wNext x o = .wCas x o := by
  unfold wNext; simp [isUnlocked, h]

theorem acqW_casx (s : St) (t : Nat) (ht : t < s.n) (oww : Bool) (hpc : (s.ths t).pc = .wCas s.state oww) :
    ∃ s', Drv c s s' t ∧ holdsW (s'.ths t) = true :=
  ⟨_, .step ht hpc (.wCasOk rfl) rfl, by simp [rmwState, holdsW]⟩

theorem acqW_cas (s : St) (t : Nat) (ht : t < s.n) (h0 : cnt s.state = 0) (st : Nat) (oww : Bool)
    (hpc : (s.ths t).pc = .wCas st oww) : ∃ s', Drv c s s' t ∧ holdsW (s'.ths t) = true := by
  by_cases hst : s.state = st
  · subst hst; exact acqW_casx c s t ht oww hpc
  · exact drv_then ht hpc (.wCasFail (casConsistent_fail hst) nofun) rfl
      (acqW_casx c _ t ht oww (by simp [setPc, wNext_unlocked _ _ h0]))

theorem acqW_spin (s : St) (t : Nat) (ht : t < s.n) (h0 : cnt s.state = 0) (n : Nat) (oww : Bool)
    (hpc : (s.ths t).pc = .wSpin n oww) : ∃ s', Drv c s s' t ∧ holdsW (s'.ths t) = true :=
  drv_then ht hpc (.wSpin s.state) (by simp [honest])
    (acqW_casx c _ t ht oww (by simp [setPc, spinStopW, isUnlocked, h0, wNext_unlocked _ _ h0]))

theorem acqW_fast (s : St) (t : Nat) (ht : t < s.n) (h0 : cnt s.state = 0) (hpc : (s.ths t).pc = .wFastCas) :
    ∃ s', Drv c s s' t ∧ holdsW (s'.ths t) = true := by
  by_cases hst : s.state = 0
  · exact ⟨_, .step ht hpc (.wFastOk hst) rfl, by simp [rmwState, holdsW]⟩
  · exact drv_then ht hpc (.wFastFail (casConsistent_fail hst) nofun) rfl (acqW_spin c _ t ht h0 c.spinMax false (by simp [setPc]))

theorem acqW_setWait (s : St) (t : Nat) (ht : t < s.n) (h0 : cnt s.state = 0) (st : Nat) (oww : Bool)
    (hpc : (s.ths t).pc = .wSetWait st oww) (hwf : PWf (s.ths t).pc) :
    ∃ s', Drv c s s' t ∧ holdsW (s'.ths t) = true := by
  have hst : s.state ≠ st := by
    rintro rfl; rw [hpc] at hwf; simp [PWf, isUnlocked, h0] at hwf
  exact drv_then ht hpc (.wSetWaitFail hst) rfl (acqW_casx c _ t ht oww (by simp [setPc, wNext_unlocked _ _ h0]))

theorem acqW_stateLoad (s : St) (t : Nat) (ht : t < s.n) (h0 : cnt s.state = 0) (q : Nat)
    (hpc : (s.ths t).pc = .wStateLoad q) : ∃ s', Drv c s s' t ∧ holdsW (s'.ths t) = true :=
  drv_then ht hpc (.wStateLoad s.state) (by simp [honest])
    (acqW_casx c _ t ht true (by simp [setPc, isUnlocked, h0, wNext_unlocked _ _ h0]))

theorem acqW_seqLoad (s : St) (t : Nat) (ht : t < s.n) (h0 : cnt s.state = 0)
    (hpc : (s.ths t).pc = .wSeqLoad) : ∃ s', Drv c s s' t ∧ holdsW (s'.ths t) = true :=
  drv_then ht hpc (.wSeqLoad s.notify) (by simp [honest]) (acqW_stateLoad c _ t ht h0 s.notify (by simp [setPc]))

theorem acqW_parked (s : St) (t : Nat) (ht : t < s.n) (h0 : cnt s.state = 0) (q : Nat)
    (hpc : (s.ths t).pc = .wParked q) : ∃ s', Drv c s s' t ∧ holdsW (s'.ths t) = true :=
  drv_then ht hpc (.wParked false) rfl (acqW_spin c _ t ht h0 c.spinMax true (by simp [setPc]))

theorem acqW_waitSys (s : St) (t : Nat) (ht : t < s.n) (h0 : cnt s.state = 0) (q : Nat)
    (hpc : (s.ths t).pc = .wWaitSys q) : ∃ s', Drv c s s' t ∧ holdsW (s'.ths t) = true := by
  by_cases hq : s.notify = q
  · exact drv_then ht hpc (.wPark hq) rfl (acqW_parked c _ t ht h0 q (by simp [setPc]))
  · exact drv_then ht hpc (.wNoPark hq) rfl (acqW_spin c _ t ht h0 c.spinMax true (by simp [setPc]))

theorem acqW_waitLoad (s : St) (t : Nat) (ht : t < s.n) (h0 : cnt s.state = 0) (q : Nat)
    (hpc : (s.ths t).pc = .wWaitLoad q) : ∃ s', Drv c s s' t ∧ holdsW (s'.ths t) = true := by
  refine drv_then ht hpc (.wWaitLoad s.notify) (by simp [honest]) ?_
  by_cases hq : s.notify = q
  · exact acqW_waitSys c _ t ht h0 q (by simp [setPc, hq])
  · exact acqW_spin c _ t ht h0 c.spinMax true (by simp [setPc, hq])

/-- **with the count field 0 (whatever the waiting bits), a thread anywhere inside `write()` can be driven (alone)
to hold the write guard** -/
theorem acquireW_when_unlocked (s : St) (t : Nat) (ht : t < s.n) (h0 : cnt s.state = 0) (hwf : PWf (s.ths t).pc)
    (hin : inWrite (s.ths t).pc = true) : ∃ s', Drv c s s' t ∧ holdsW (s'.ths t) = true := by
  cases hpc : (s.ths t).pc <;> simp [inWrite, hpc] at hin
  case wFastCas => exact acqW_fast c s t ht h0 hpc
  case wSpin n oww => exact acqW_spin c s t ht h0 n oww hpc
  case wCas st oww => exact acqW_cas c s t ht h0 st oww hpc
  case wSetWait st oww => exact acqW_setWait c s t ht h0 st oww hpc hwf
  case wSeqLoad => exact acqW_seqLoad c s t ht h0 hpc
  case wStateLoad q => exact acqW_stateLoad c s t ht h0 q hpc
  case wWaitLoad q => exact acqW_waitLoad c s t ht h0 q hpc
  case wWaitSys q => exact acqW_waitSys c s t ht h0 q hpc
  case wParked q => exact acqW_parked c s t ht h0 q hpc

end writers

section release
variable (c : Cfg)

theorem out_wakeEntry (x : Nat) : inRead (wakeEntry x) = false ∧ inWrite (wakeEntry x) = false := by
  unfold wakeEntry
  exact ite_pred (fun p => inRead p = false ∧ inWrite p = false) (fun _ => ⟨rfl, rfl⟩) fun _ =>
    ite_pred (fun p => inRead p = false ∧ inWrite p = false) (fun _ => ⟨rfl, rfl⟩) fun _ =>
    ite_pred (fun p => inRead p = false ∧ inWrite p = false) (fun _ => ⟨rfl, rfl⟩) fun _ =>
    ite_pred (fun p => inRead p = false ∧ inWrite p = false) (fun _ => ⟨rfl, rfl⟩) fun _ => ⟨rfl, rfl⟩

theorem out_unlockPc (w : Bool) (x : Nat) : inRead (unlockPc w x) = false ∧ inWrite (unlockPc w x) = false :=
  ite_pred (fun p => inRead p = false ∧ inWrite p = false) (fun _ => out_wakeEntry x) fun _ => ⟨rfl, rfl⟩

/-- what a completed release leaves behind -/
def Released (s s' : St) (u : Nat) (w : Bool) : Prop :=
  s'.state = wsub s.state (if w then WRITE_LOCKED else 1) ∧ inRead (s'.ths u).pc = false ∧ inWrite (s'.ths u).pc = false

theorem release_unlock (s : St) (u : Nat) (hu : u < s.n) (w : Bool) (hpc : (s.ths u).pc = .unlock w) :
    ∃ s', Drv c s s' u ∧ Released s s' u w :=
  ⟨_, .step hu hpc .unlock rfl, rfl, by rw [unlockSt_self]; exact (out_unlockPc _ _).1,
    by rw [unlockSt_self]; exact (out_unlockPc _ _).2⟩

theorem released_of_setpc (s s' : St) (u : Nat) (w : Bool) (pc' : Pc) (h : Released (setPc s u pc') s' u w) :
    Released s s' u w := h

theorem release_hold (s : St) (u : Nat) (hu : u < s.n) (w : Bool) (k : Nat) (hpc : (s.ths u).pc = .hold w k) :
    ∃ s', Drv c s s' u ∧ Released s s' u w := by
  induction k generalizing s with
  | zero => exact drv_then hu hpc .rel rfl (release_unlock c (setPc s u (.unlock w)) u hu w (by simp [setPc]))
  | succ k ih => exact drv_then hu hpc .data rfl (ih _ hu (by simp [setPc]))

theorem release_acquired (s : St) (u : Nat) (hu : u < s.n) (w : Bool) (hpc : (s.ths u).pc = .acquired w)
    (hpg : (s.ths u).prog ≠ []) : ∃ s', Drv c s s' u ∧ Released s s' u w := by
  cases hprog : (s.ths u).prog with
  | nil => exact absurd hprog hpg
  | cons tx rest => exact drv_then hu hpc (.acquired hprog) rfl (release_hold c (setPc s u (.hold w tx.acc)) u hu w tx.acc (by simp [setPc]))

/-- a guard holder can run its critical section and its unlocking `fetch_sub` -/
theorem release_holder (s : St) (u : Nat) (hu : u < s.n) (hl : LInv false s) (w : Bool)
    (hh : (if w then holdsW (s.ths u) else holdsR (s.ths u)) = true) : ∃ s', Drv c s s' u ∧ Released s s' u w := by
  rw [holdsW_eq, holdsR_eq] at hh
  cases hpc : (s.ths u).pc <;> rw [hpc] at hh
  case acquired w' =>
    obtain rfl : w' = w := by cases w <;> cases w' <;> first | rfl | cases hh
    exact release_acquired c s u hu _ hpc (hl.pg u (by rw [hpc]; rfl))
  case hold w' k =>
    obtain rfl : w' = w := by cases w <;> cases w' <;> first | rfl | cases hh
    exact release_hold c s u hu _ k hpc
  case unlock w' =>
    obtain rfl : w' = w := by cases w <;> cases w' <;> first | rfl | cases hh
    exact release_unlock c s u hu _ hpc
  all_goals cases w <;> cases hh

end release

/-! ### counting the threads inside `write()` -/

def Wc (s : St) : Nat := (List.range s.n).countP (fun j => inWrite (s.ths j).pc)

theorem wc_drv {c : Cfg} {s s' : St} {u : Nat} (h : Drv c s s' u) (hu : u < s.n) :
    Wc s' + (if inWrite (s.ths u).pc then 1 else 0) = Wc s + (if inWrite (s'.ths u).pc then 1 else 0) := by
  obtain ⟨_, _, hn, ho⟩ := h
  unfold Wc
  rw [hn]
  exact countP_range_update (fun j => inWrite (s.ths j).pc) (fun j => inWrite (s'.ths j).pc) s.n u hu
    (fun j hj => (ho j hj).2)

theorem wc_pos (s : St) (j : Nat) (hj : j < s.n) (h : inWrite (s.ths j).pc = true) : 1 ≤ Wc s := by
  unfold Wc
  apply List.countP_pos_iff.mpr
  exact ⟨j, by simpa using hj, h⟩

/-! ### the wake path clears the waiting bits -/

section wake
variable (c : Cfg)

/-- outcome of running `j`'s wake path: the word is clear, or it is unlocked and a writer (just woken) is inside
`write()`; `j` itself is not inside `write()` -/
def WakeDone (s' : St) (j : Nat) : Prop :=
  inWrite (s'.ths j).pc = false ∧
  (s'.state = 0 ∨ (cnt s'.state = 0 ∧ ∃ j', j' < s'.n ∧ inWrite (s'.ths j').pc = true))

theorem wp_kCasC (s : St) (j : Nat) (hj : j < s.n) (hst : s.state = RW) (hpc : (s.ths j).pc = .kCasC) :
    ∃ s', Drv c s s' j ∧ WakeDone s' j :=
  ⟨_, .step hj hpc (.kCasCOk hst) rfl, by simp [rmwState, inWrite], Or.inl rfl⟩

theorem fr_wakeAll (s : St) (l : List Nat) (k : Nat) : Fr (s.ths k) ((wakeAll c s l).ths k) := by
  rcases wakeAll_pc c s l k with h | h
  · exact ⟨by rw [h], by rw [h]⟩
  · exact ⟨by rw [h, inRead_woken], by rw [h, inWrite_woken]⟩

theorem wp_kWakeW (s : St) (j : Nat) (hj : j < s.n) (hst : s.state = RW) (hpc : (s.ths j).pc = .kWakeW true) :
    ∃ s', Drv c s s' j ∧ WakeDone s' j := by
  cases hpl : parkedList s 1 with
  | nil => exact drv_then hj hpc (.kWakeNone hpl) rfl (wp_kCasC c _ j hj hst (by simp [setPc]))
  | cons j' rest =>
    have hmem : j' ∈ parkedList s 1 := by rw [hpl]; simp
    obtain ⟨hjn, hjp⟩ := (parkedList_mem s 1 j').mp hmem
    rw [parkedOn1_eq] at hjp
    have hji : j' ≠ j := fun hh => by subst hh; rw [hpc] at hjp; cases hjp
    have hjw : inWrite (s.ths j').pc = true := by
      cases hq : (s.ths j').pc <;> simp [hq, wparked] at hjp
      rfl
    refine ⟨_, .step hj hpc (.kWakeOne hmem) rfl, by simp [setPc, inWrite], Or.inr ?_⟩
    refine ⟨by simp [setPc, wakeAll_state, hst, cnt], j', by simpa [setPc, wakeAll_n] using hjn, ?_⟩
    simp only [setPc, setTh_ths, hji, if_false]
    rw [(fr_wakeAll c s [j'] j').2]; exact hjw

theorem wp_kNotify (s : St) (j : Nat) (hj : j < s.n) (hst : s.state = RW) (hpc : (s.ths j).pc = .kNotify true) :
    ∃ s', Drv c s s' j ∧ WakeDone s' j :=
  drv_then hj hpc .kNotify rfl (wp_kWakeW c _ j hj hst (by simp [setPc]))

theorem wp_kCasB (s : St) (j : Nat) (hj : j < s.n) (hst : s.state = RW + WW) (hpc : (s.ths j).pc = .kCasB (RW + WW)) :
    ∃ s', Drv c s s' j ∧ WakeDone s' j :=
  drv_then hj hpc (.kCasBOk hst) rfl (wp_kNotify c _ j hj rfl (by simp [rmwState]))

theorem wp_kCasA (s : St) (j : Nat) (hj : j < s.n) (hst : s.state = WW ∨ s.state = RW + WW)
    (hpc : (s.ths j).pc = .kCasA WW) : ∃ s', Drv c s s' j ∧ WakeDone s' j := by
  rcases hst with hst | hst
  · exact ⟨_, .step hj hpc (.kCasAOk hst) rfl, by simp [rmwState, inWrite], Or.inl rfl⟩
  · exact drv_then hj hpc (.kCasAFail (by rw [hst]; decide)) rfl
      (wp_kCasB c _ j hj hst (by simp [setPc, hst, wakeAfterA_RWWW]))

/-- a thread on the wake path whose pending operation matches the (unlocked, bits set) word can complete it -/
theorem wake_progress (s : St) (j : Nat) (hj : j < s.n) (hr : RInv s)
    (hcov : cov false s.state (s.ths j).pc = true) (hnw : inWrite (s.ths j).pc = false) :
    ∃ s', Drv c s s' j ∧ WakeDone s' j := by
  cases hpc : (s.ths j).pc <;> rw [hpc] at hcov hnw
  case kCasA st =>
    obtain rfl : st = WW := hr.wf_at hpc
    exact wp_kCasA c s j hj (by simpa [cov] using hcov) hpc
  case kCasB st =>
    obtain rfl : st = RW + WW := hr.wf_at hpc
    exact wp_kCasB c s j hj (by simpa [cov] using hcov) hpc
  case kNotify fb =>
    cases fb
    · cases hcov
    · exact wp_kNotify c s j hj (by simpa [cov] using hcov) hpc
  case kWakeW fb =>
    cases fb
    · cases hcov
    · exact wp_kWakeW c s j hj (by simpa [cov] using hcov) hpc
  case kCasC => exact wp_kCasC c s j hj (by simpa [cov] using hcov) hpc
  all_goals first | (cases hnw; done) | cases hcov

end wake

section main
variable (c : Cfg) (hc : c.Good)

/-- `s'` is reached from `s` by honest steps and thread `t` is still inside the same call -/
def Go (c : Cfg) (s s' : St) (t : Nat) : Prop :=
  ∃ evs : List (Nat × Ev), runH c s evs = some s' ∧ s'.n = s.n ∧ Fr (s.ths t) (s'.ths t)

theorem Go.refl (c : Cfg) (s : St) (t : Nat) : Go c s s t := ⟨[], rfl, rfl, Fr.refl _⟩

theorem Go.trans {c : Cfg} {s s1 s2 : St} {t : Nat} (h1 : Go c s s1 t) (h2 : Go c s1 s2 t) : Go c s s2 t := by
  obtain ⟨e1, r1, n1, o1⟩ := h1
  obtain ⟨e2, r2, n2, o2⟩ := h2
  refine ⟨e1 ++ e2, ?_, by rw [n2, n1], o1.trans o2⟩
  rw [runH_append, r1]; exact r2

theorem Drv.go {c : Cfg} {s s' : St} {u t : Nat} (h : Drv c s s' u) (htu : t ≠ u) : Go c s s' t := by
  obtain ⟨evs, r, n, o⟩ := h
  exact ⟨evs, r, n, o t htu⟩

theorem Drv.go_self {c : Cfg} {s s' : St} {t : Nat} (h : Drv c s s' t) (hf : Fr (s.ths t) (s'.ths t)) : Go c s s' t := by
  obtain ⟨evs, r, n, o⟩ := h
  exact ⟨evs, r, n, hf⟩

include hc in
theorem Go.inv {s s' : St} {t : Nat} (h : Go c s s' t) (hi : AllInv s) : AllInv s' := by
  obtain ⟨evs, r, _, _⟩ := h
  exact runH_allinv c hc s s' evs r hi

theorem Drv.n_eq {c : Cfg} {s s' : St} {u : Nat} (h : Drv c s s' u) : s'.n = s.n := by
  obtain ⟨_, _, n, _⟩ := h; exact n

theorem cov_inRead (b : Bool) (x : Nat) (pc : Pc) (h : inRead pc = true) : cov b x pc = false := by
  cases pc <;> first | rfl | cases h

theorem inRead_not_inWrite (pc : Pc) (h : inRead pc = true) : inWrite pc = false := by
  cases pc <;> first | rfl | cases h

theorem inAcq_not_holds (t : Th) (h : inRead t.pc = true ∨ inWrite t.pc = true) : holdsR t = false ∧ holdsW t = false := by
  rw [holdsR_eq, holdsW_eq]
  cases hp : t.pc <;> first | exact ⟨rfl, rfl⟩ | (rw [hp] at h; rcases h with h | h <;> cases h)

theorem cov_lt (b : Bool) (s : St) (hr : RInv s) (j : Nat) (h : cov b s.state (s.ths j).pc = true) : j < s.n := by
  by_cases hj : j < s.n
  · exact hj
  · have := hr.outside j (by omega); rw [this] at h; simp [cov] at h

include hc in
/-- a writer inside `write()` takes the unlocked word, runs its critical section and unlocks -/
theorem writer_round (s : St) (j : Nat) (hj : j < s.n) (hi : AllInv s) (h0 : cnt s.state = 0)
    (hin : inWrite (s.ths j).pc = true) :
    ∃ s', Drv c s s' j ∧ cnt s'.state = 0 ∧ inWrite (s'.ths j).pc = false := by
  obtain ⟨s1, d1, hw⟩ := acquireW_when_unlocked c s j hj h0 (hi.l.wf j) hin
  have hi1 := d1.inv hc hi
  have hj1 : j < s1.n := by rw [d1.n_eq]; exact hj
  obtain ⟨s2, d2, r2⟩ := release_holder c s1 j hj1 hi1.l true (by simpa using hw)
  have hwl : cnt s1.state = WRITE_LOCKED := hi1.r.wl.mpr ⟨j, hw⟩
  obtain ⟨_, f0, _⟩ := unlockW_facts s1.state hi1.r.lt32 hwl
  refine ⟨s2, d1.trans d2, ?_, r2.2.2⟩
  rw [r2.1]; simpa using f0

include hc in
theorem clear_step (t : Nat) (s : St) (hi : AllInv s) (hin : inRead (s.ths t).pc = true)
    (h0 : cnt s.state = 0) (hz : s.state ≠ 0) :
    ∃ s1, Go c s s1 t ∧ (s1.state = 0 ∨ (cnt s1.state = 0 ∧ Wc s1 < Wc s)) := by
  obtain ⟨j, hjc⟩ := hi.l.bc h0 hz
  have hj : j < s.n := cov_lt false s hi.r j hjc
  have htj : t ≠ j := by
    intro hh; subst hh; rw [cov_inRead _ _ _ hin] at hjc; cases hjc
  cases hjw : inWrite (s.ths j).pc with
  | true =>
    obtain ⟨s1, d1, c1, w1⟩ := writer_round c hc s j hj hi h0 hjw
    have := wc_drv d1 hj
    rw [hjw, w1] at this
    exact ⟨s1, d1.go htj, Or.inr ⟨c1, by simp at this; omega⟩⟩
  | false =>
    obtain ⟨s1, d1, w1, hcase⟩ := wake_progress c s j hj hi.r hjc hjw
    have hwc := wc_drv d1 hj
    rw [hjw, w1] at hwc
    have g1 := d1.go htj
    rcases hcase with hz1 | ⟨c1, j', hj', hjw'⟩
    · exact ⟨s1, g1, Or.inl hz1⟩
    · have hi1 := d1.inv hc hi
      obtain ⟨s2, d2, c2, w2⟩ := writer_round c hc s1 j' hj' hi1 c1 hjw'
      have hwc2 := wc_drv d2 hj'
      rw [hjw', w2] at hwc2
      have htj' : t ≠ j' := by
        intro hh; subst hh
        obtain ⟨_, _, _, fr⟩ := g1
        have : inRead (s1.ths t).pc = true := by rw [fr.1]; exact hin
        rw [inRead_not_inWrite _ this] at hjw'; cases hjw'
      exact ⟨s2, g1.trans (d2.go htj'), Or.inr ⟨c2, by simp at hwc hwc2; omega⟩⟩

include hc in
/-- **from an unlocked word, the waiting bits can be cleared** by the threads whose job that is: a thread inside
`wake_writer_or_readers` finishes its pending CAS / wake; a writer inside `write()` (woken by that wake, or resuming
through a futex return) takes the lock, releases it and runs the wake path in turn -/
theorem clear_bits (t : Nat) : ∀ (k : Nat) (s : St), AllInv s → inRead (s.ths t).pc = true → Wc s ≤ k →
    cnt s.state = 0 → ∃ s', Go c s s' t ∧ s'.state = 0 := by
  intro k
  induction k with
  | zero =>
    intro s hi hin hk h0
    by_cases hz : s.state = 0
    · exact ⟨s, Go.refl c s t, hz⟩
    · obtain ⟨s1, g1, h1 | ⟨_, h1⟩⟩ := clear_step c hc t s hi hin h0 hz
      · exact ⟨s1, g1, h1⟩
      · omega
  | succ k ih =>
    intro s hi hin hk h0
    by_cases hz : s.state = 0
    · exact ⟨s, Go.refl c s t, hz⟩
    · obtain ⟨s1, g1, h1 | ⟨c1, h1⟩⟩ := clear_step c hc t s hi hin h0 hz
      · exact ⟨s1, g1, h1⟩
      · have hi1 := g1.inv c hc hi
        obtain ⟨_, _, n1, fr1⟩ := id g1
        obtain ⟨s2, g2, h2⟩ := ih s1 hi1 (by rw [fr1.1]; exact hin) (by omega) c1
        exact ⟨s2, g1.trans g2, h2⟩

include hc in
theorem release_readers (t : Nat) : ∀ (m : Nat) (s : St), AllInv s →
    (inRead (s.ths t).pc = true ∨ inWrite (s.ths t).pc = true) → cnt s.state ≠ WRITE_LOCKED → cnt s.state ≤ m →
    ∃ s', Go c s s' t ∧ cnt s'.state = 0 := by
  intro m
  induction m with
  | zero => intro s _ _ _ hm; exact ⟨s, Go.refl c s t, by omega⟩
  | succ m ih =>
    intro s hi hin hnw hm
    by_cases h0 : cnt s.state = 0
    · exact ⟨s, Go.refl c s t, h0⟩
    · have hcr := hi.r.cntR hnw
      -- some thread holds a read guard
      have hex : ∃ u, u < s.n ∧ holdsR (s.ths u) = true := by
        apply Classical.byContradiction
        intro hno
        have : nR s = 0 := by
          unfold nR
          rw [countP_range_zero_iff]
          intro j hj
          cases hh : holdsR (s.ths j) with
          | false => rfl
          | true => exact absurd ⟨j, hj, hh⟩ hno
        omega
      obtain ⟨u, hu, hur⟩ := hex
      have htu : t ≠ u := by
        intro hh; subst hh; rw [(inAcq_not_holds _ hin).1] at hur; cases hur
      obtain ⟨s1, d1, r1⟩ := release_holder c s u hu hi.l false (by simpa using hur)
      have g1 := d1.go htu
      have hi1 := d1.inv hc hi
      have hc1 := cnt_sub_one s.state hi.r.lt32 (by omega)
      have hs1 : s1.state = wsub s.state 1 := by simpa using r1.1
      obtain ⟨_, _, n1, fr1⟩ := id g1
      have hne1 : cnt (wsub s.state 1) ≠ WRITE_LOCKED := by
        simp only [cnt, RW, WRITE_LOCKED] at hc1 hnw ⊢; omega
      obtain ⟨s2, g2, h2⟩ := ih s1 hi1 (by rw [fr1.1, fr1.2]; exact hin)
        (by rw [hs1]; exact hne1) (by rw [hs1]; omega)
      exact ⟨s2, g1.trans g2, h2⟩

include hc in
/-- **every guard holder can release**: after the holders' critical sections and unlocking `fetch_sub`s the count
field is 0 (no guard is held) -/
theorem release_all_holders (t : Nat) (s : St) (hi : AllInv s)
    (hin : inRead (s.ths t).pc = true ∨ inWrite (s.ths t).pc = true) :
    ∃ s', Go c s s' t ∧ cnt s'.state = 0 := by
  by_cases hw : cnt s.state = WRITE_LOCKED
  · obtain ⟨u, huw⟩ := hi.r.wl.mp hw
    have hu := holdsW_lt s hi.r u huw
    have htu : t ≠ u := by
      intro hh; subst hh; rw [(inAcq_not_holds _ hin).2] at huw; cases huw
    obtain ⟨s1, d1, r1⟩ := release_holder c s u hu hi.l true (by simpa using huw)
    obtain ⟨_, f0, _⟩ := unlockW_facts s.state hi.r.lt32 hw
    exact ⟨s1, d1.go htu, by rw [r1.1]; simpa using f0⟩
  · exact release_readers c hc t (cnt s.state) s hi hin hw (Nat.le_refl _)

include hc in
theorem can_acquire_write (s : St) (hi : AllInv s) (t : Nat) (ht : t < s.n) (hin : inWrite (s.ths t).pc = true) :
    ∃ evs s', runH c s evs = some s' ∧ holdsW (s'.ths t) = true := by
  obtain ⟨s1, g1, c1⟩ := release_all_holders c hc t s hi (Or.inr hin)
  have hi1 := g1.inv c hc hi
  obtain ⟨e1, r1, n1, fr1⟩ := g1
  obtain ⟨s2, ⟨e2, r2, _, _⟩, hw⟩ := acquireW_when_unlocked c s1 t (by rw [n1]; exact ht) c1 (hi1.l.wf t)
    (by rw [fr1.2]; exact hin)
  exact ⟨e1 ++ e2, s2, by rw [runH_append, r1]; exact r2, hw⟩

include hc in
theorem can_acquire_read (s : St) (hi : AllInv s) (t : Nat) (ht : t < s.n) (hin : inRead (s.ths t).pc = true) :
    ∃ evs s', runH c s evs = some s' ∧ holdsR (s'.ths t) = true := by
  obtain ⟨s1, g1, c1⟩ := release_all_holders c hc t s hi (Or.inl hin)
  have hi1 := g1.inv c hc hi
  obtain ⟨_, _, n1, fr1⟩ := id g1
  obtain ⟨s2, g2, z2⟩ := clear_bits c hc t (Wc s1) s1 hi1 (by rw [fr1.1]; exact hin)
    (Nat.le_refl _) c1
  have hi2 := g2.inv c hc hi1
  obtain ⟨e12, r12, n2, fr2⟩ := g1.trans g2
  obtain ⟨s3, ⟨e3, r3, _, _⟩, hr⟩ := acquireR_when_clear c s2 t (by rw [n2]; exact ht) z2 (hi2.l.wf t)
    (by rw [fr2.1]; exact hin)
  exact ⟨e12 ++ e3, s3, by rw [runH_append, r12]; exact r3, hr⟩

end main


/-! ## no deadlock (for the restricted relation in which both wake-up invariants hold) -/

/-- neither idle, nor parked in the kernel, nor panicked -/
def awake : Pc → Bool
  | .idle | .rParked _ | .wParked _ | .panicked => false
  | _ => true

theorem enabled_of_awake (t : Th) (h : awake t.pc = true) : enabled t = true := by
  unfold enabled isParked parkedOn finished
  cases hp : t.pc <;> rw [hp] at h <;> first | (cases h; done) | simp

theorem awake_of_cov (x : Nat) (pc : Pc) (h : cov true x pc = true) : awake pc = true := by
  cases pc <;> first | rfl | cases h

theorem awake_of_isR (pc : Pc) (h : pc.isR = true) : awake pc = true := by
  cases pc <;> first | rfl | cases h
theorem awake_of_isW (pc : Pc) (h : pc.isW = true) : awake pc = true := by
  cases pc <;> first | rfl | cases h
theorem awake_of_pendW (pc : Pc) (h : pendW pc = true) : awake pc = true := by
  cases pc <;> first | rfl | cases h
theorem awake_of_owing (pc : Pc) (h : owing pc = true) : awake pc = true := by
  cases pc <;> first | rfl | cases h

theorem lt_of_awake (s : St) (hr : RInv s) (j : Nat) (h : awake (s.ths j).pc = true) : j < s.n := by
  by_cases hj : j < s.n
  · exact hj
  · have := hr.outside j (by omega); rw [this] at h; simp [awake] at h

/-- **whenever a thread is parked, some thread is enabled** (given the safety invariant, both wake-up invariants and
the strict cover invariant) -/
theorem parked_implies_enabled (s : St) (hr : RInv s) (hq : RQ2 s) (hw : WQ s) (hl : LInv true s)
    (hp : ∃ t, isParked (s.ths t) = true) : ∃ j, j < s.n ∧ enabled (s.ths j) = true := by
  -- it suffices to find an awake thread
  suffices h : ∃ j, awake (s.ths j).pc = true by
    obtain ⟨j, hj⟩ := h
    exact ⟨j, lt_of_awake s hr j hj, enabled_of_awake _ hj⟩
  apply Classical.byContradiction
  intro hno
  have hna : ∀ j, awake (s.ths j).pc = false := by
    intro j
    cases h : awake (s.ths j).pc with
    | false => rfl
    | true => exact absurd ⟨j, h⟩ hno
  -- nobody holds a guard, so the count field is 0
  have hnW : ∀ j, holdsW (s.ths j) = false := by
    intro j
    cases h : holdsW (s.ths j) with
    | false => rfl
    | true => rw [holdsW_eq] at h; have := awake_of_isW _ h; rw [hna j] at this; cases this
  have hnR : ∀ j, holdsR (s.ths j) = false := by
    intro j
    cases h : holdsR (s.ths j) with
    | false => rfl
    | true => rw [holdsR_eq] at h; have := awake_of_isR _ h; rw [hna j] at this; cases this
  have hnwl : cnt s.state ≠ WRITE_LOCKED := by
    intro h; obtain ⟨j, hj⟩ := hr.wl.mp h; rw [hnW j] at hj; cases hj
  have h0 : cnt s.state = 0 := by
    rw [hr.cntR hnwl]
    unfold nR
    rw [countP_range_zero_iff]
    intro j _; exact hnR j
  -- a parked thread keeps a waiting bit alive
  have hne : s.state ≠ 0 := by
    obtain ⟨t, ht⟩ := hp
    unfold isParked at ht
    rw [Bool.or_eq_true] at ht
    intro hz
    rcases ht with ht | ht
    · rcases hq.rq ⟨t, ht⟩ with hb | ⟨j, hj⟩
      · rw [hz] at hb; exact absurd hb (by decide)
      · have := hna j; rw [hj] at this; simp [awake] at this
    · rw [parkedOn1_eq] at ht
      rcases hw.park ⟨t, ht⟩ with hb | ⟨j, hj⟩ | ⟨j, hj⟩
      · rw [hz] at hb; exact absurd hb (by decide)
      · have := awake_of_pendW _ hj; rw [hna j] at this; cases this
      · have := awake_of_owing _ hj; rw [hna j] at this; cases this
  obtain ⟨j, hj⟩ := hl.bc h0 hne
  have := awake_of_cov _ _ hj
  rw [hna j] at this; cases this

/-- an enabled thread has a step (its next atomic operation / futex call is always defined) -/
theorem enabled_can_step (c : Cfg) (s : St) (hl : LInv false s) (j : Nat) (hj : j < s.n) (he : enabled (s.ths j) = true) :
    ∃ e s', step c s j e = some s' := by
  have hprog : needsProg (s.ths j).pc = true ∨ (s.ths j).pc = .idle → ∃ tx rest, (s.ths j).prog = tx :: rest := by
    intro h
    cases hp : (s.ths j).prog with
    | cons tx rest => exact ⟨tx, rest, rfl⟩
    | nil =>
      rcases h with h | h
      · exact absurd hp (hl.pg j h)
      · simp [enabled, finished, h, hp] at he
  have cas : ∀ st : Nat, s.state = st ∨ casConsistent s.state st true (.fail s.state) = true ∧ s.state ≠ st := fun st =>
    (Decidable.em (s.state = st)).imp_right fun h => ⟨casConsistent_fail h, h⟩
  cases hpc : (s.ths j).pc
  case idle => obtain ⟨tx, rest, hp⟩ := hprog (Or.inr hpc); exact ⟨_, _, (Step.call hp).accepted hj hpc⟩
  case rLoad => exact ⟨_, _, (Step.rLoad s.state).accepted hj hpc⟩
  case rFastCas st =>
    rcases cas st with h | ⟨h, _⟩
    · exact ⟨_, _, (Step.rFastOk h).accepted hj hpc⟩
    · exact ⟨_, _, (Step.rFastFail h nofun).accepted hj hpc⟩
  case rSpin n => exact ⟨_, _, (Step.rSpin s.state).accepted hj hpc⟩
  case rCas st =>
    rcases cas st with h | ⟨h, _⟩
    · exact ⟨_, _, (Step.rCasOk h).accepted hj hpc⟩
    · exact ⟨_, _, (Step.rCasFail h nofun).accepted hj hpc⟩
  case rSetWait st =>
    rcases cas st with h | ⟨_, h⟩
    · exact ⟨_, _, (Step.rSetWaitOk h).accepted hj hpc⟩
    · exact ⟨_, _, (Step.rSetWaitFail h).accepted hj hpc⟩
  case rWaitLoad ex => exact ⟨_, _, (Step.rWaitLoad s.state).accepted hj hpc⟩
  case rWaitSys ex =>
    by_cases h : s.state = ex
    · exact ⟨_, _, (Step.rPark h).accepted hj hpc⟩
    · exact ⟨_, _, (Step.rNoPark h).accepted hj hpc⟩
  case rParked ex => simp [enabled, isParked, parkedOn, hpc] at he
  case tLoad w => exact ⟨_, _, (Step.tLoad s.state).accepted hj hpc⟩
  case tCas w st =>
    rcases cas st with h | ⟨h, _⟩
    · exact ⟨_, _, (Step.tCasOk h).accepted hj hpc⟩
    · exact ⟨_, _, (Step.tCasFail h nofun).accepted hj hpc⟩
  case tryFailed => exact ⟨_, _, (Step.tryFailed).accepted hj hpc⟩
  case wFastCas =>
    rcases cas 0 with h | ⟨h, _⟩
    · exact ⟨_, _, (Step.wFastOk h).accepted hj hpc⟩
    · exact ⟨_, _, (Step.wFastFail h nofun).accepted hj hpc⟩
  case wSpin n oww => exact ⟨_, _, (Step.wSpin s.state).accepted hj hpc⟩
  case wCas st oww =>
    rcases cas st with h | ⟨h, _⟩
    · exact ⟨_, _, (Step.wCasOk h).accepted hj hpc⟩
    · exact ⟨_, _, (Step.wCasFail h nofun).accepted hj hpc⟩
  case wSetWait st oww =>
    rcases cas st with h | ⟨_, h⟩
    · exact ⟨_, _, (Step.wSetWaitOk h).accepted hj hpc⟩
    · exact ⟨_, _, (Step.wSetWaitFail h).accepted hj hpc⟩
  case wSeqLoad => exact ⟨_, _, (Step.wSeqLoad s.notify).accepted hj hpc⟩
  case wStateLoad q => exact ⟨_, _, (Step.wStateLoad s.state).accepted hj hpc⟩
  case wWaitLoad q => exact ⟨_, _, (Step.wWaitLoad s.notify).accepted hj hpc⟩
  case wWaitSys q =>
    by_cases h : s.notify = q
    · exact ⟨_, _, (Step.wPark h).accepted hj hpc⟩
    · exact ⟨_, _, (Step.wNoPark h).accepted hj hpc⟩
  case wParked q => simp [enabled, isParked, parkedOn, hpc] at he
  case acquired w =>
    obtain ⟨tx, rest, hp⟩ := hprog (Or.inl (by rw [hpc]; rfl)); exact ⟨_, _, (Step.acquired hp).accepted hj hpc⟩
  case hold w k =>
    cases k with
    | zero => exact ⟨_, _, (Step.rel).accepted hj hpc⟩
    | succ k => exact ⟨_, _, (Step.data).accepted hj hpc⟩
  case unlock w => exact ⟨_, _, (Step.unlock).accepted hj hpc⟩
  case kCasA st =>
    rcases cas st with h | ⟨_, h⟩
    · exact ⟨_, _, (Step.kCasAOk h).accepted hj hpc⟩
    · exact ⟨_, _, (Step.kCasAFail h).accepted hj hpc⟩
  case kCasB st =>
    rcases cas st with h | ⟨_, h⟩
    · exact ⟨_, _, (Step.kCasBOk h).accepted hj hpc⟩
    · exact ⟨_, _, (Step.kCasBFail h).accepted hj hpc⟩
  case kNotify fb => exact ⟨_, _, (Step.kNotify).accepted hj hpc⟩
  case kWakeW fb =>
    cases hpl : parkedList s 1 with
    | nil => exact ⟨_, _, (Step.kWakeNone hpl).accepted hj hpc⟩
    | cons j' rest => exact ⟨_, _, (Step.kWakeOne (j := j') (by rw [hpl]; simp)).accepted hj hpc⟩
  case kCasC =>
    rcases cas RW with h | ⟨_, h⟩
    · exact ⟨_, _, (Step.kCasCOk h).accepted hj hpc⟩
    · exact ⟨_, _, (Step.kCasCFail h).accepted hj hpc⟩
  case kWakeR =>
    exact ⟨_, _, (Step.kWakeR (woken := parkedList s 0) rfl (by simp) (by simp)).accepted hj hpc⟩
  case panicked => simp [enabled, hpc] at he

end TinyVerif.RwLock
