import TinyVerif.Proofs.DlWF
/-! Where an allocation that needs no OS call takes its memory from (`Victim`), and why that makes the
new block disjoint from everything live — from `WF` of the state BEFORE the call. -/
namespace TinyVerif.Dl

theorem mem_joinAll {l : List Nat} {ls : List (List Nat)} {a : Nat} (hl : l ∈ ls) (ha : a ∈ l) : a ∈ joinAll ls := by
  induction ls with
  | nil => cases hl
  | cons x xs ih =>
    simp only [joinAll, List.mem_append]
    cases hl with
    | head => exact Or.inl ha
    | tail _ h => exact Or.inr (ih h)

theorem getElem?_mem' {α : Type} {l : List α} {i : Nat} {a : α} (h : l[i]? = some a) : a ∈ l := by
  exact List.mem_of_getElem? h

theorem getBin_mem {h : Heap} {i : Nat} {l : List Nat} (hb : getBin h i = .ok l) {a : Nat} (ha : a ∈ l) :
    a ∈ binned h :=
  List.mem_append_left _ (mem_joinAll (List.mem_of_getElem? (getBin_ok.1 hb)) ha)

theorem getTree_mem {h : Heap} {i : Nat} {t : Tree} (ht : getTree h i = .ok t) {a : Nat} (ha : a ∈ t.members) :
    a ∈ binned h :=
  List.mem_append_right _ (mem_joinAll (List.mem_map.2 ⟨t, List.mem_of_getElem? (getTree_ok.1 ht), rfl⟩) ha)

theorem mem_self (ad s : Nat) (ring : List Nat) (l r : Tree) : ad ∈ (Tree.node ad s ring l r).members := by
  simp [Tree.members]
theorem mem_left {a : Nat} (ad s : Nat) (ring : List Nat) {l : Tree} (r : Tree) (h : a ∈ l.members) :
    a ∈ (Tree.node ad s ring l r).members := by
  simp [Tree.members, h]
theorem mem_right {a : Nat} (ad s : Nat) (ring : List Nat) (l : Tree) {r : Tree} (h : a ∈ r.members) :
    a ∈ (Tree.node ad s ring l r).members := by
  simp [Tree.members, h]

theorem vstep {hit : Bool} {ad a : Nat} {v : Option Nat} (s : Nat) (ring : List Nat) (l r : Tree)
    (h : (if hit = true then some ad else v) = some a) : v = some a ∨ a ∈ (Tree.node ad s ring l r).members := by
  split at h
  · injection h with h; exact Or.inr (h ▸ mem_self _ _ _ _ _)
  · exact Or.inl h

/-- the best-fit walk only ever picks chunks of the tree it walks (or keeps the one it started with) -/
theorem lmBest_mem (t : Tree) : ∀ (size : Nat) (v : Option Nat) (rs : Nat) (a : Nat),
    (t.lmBest size v rs).1 = some a → v = some a ∨ a ∈ t.members := by
  induction t with
  | nil => intro size v rs a h; simp only [Tree.lmBest] at h; exact Or.inl h
  | node ad s ring l r ihl ihr =>
    intro size v rs a h
    have hv := vstep (hit := decide (s ≥ size) && decide (s - size < rs)) (ad := ad) (a := a) (v := v) s ring l r
    cases l with
    | nil =>
      simp only [Tree.lmBest] at h
      rcases ihr _ _ _ _ h with h1 | h1
      · exact hv h1
      · exact Or.inr (mem_right _ _ _ _ h1)
    | node la ls lring ll lr =>
      simp only [Tree.lmBest] at h ihl
      rcases ihl _ _ _ _ h with h1 | h1
      · exact hv h1
      · exact Or.inr (mem_left _ _ _ _ h1)

/-- the subtree handed on by the descent is a subtree of the tree or the remembered right subtree -/
theorem tlDescend_spec (t : Tree) (size sb : Nat) (v : Option Nat) (rs : Nat) (rst : Tree) (a : Nat) :
    ((t.tlDescend size sb v rs rst).1 = some a → v = some a ∨ a ∈ t.members) ∧
    (a ∈ (t.tlDescend size sb v rs rst).2.2.members → a ∈ rst.members ∨ a ∈ t.members) := by
  fun_induction Tree.tlDescend t size sb v rs rst with
  | case1 => exact ⟨Or.inl, Or.inl⟩
  | case2 ad s ring l r size sb v rs rst hit v' rs' hz =>
    exact ⟨vstep _ _ _ _, Or.inr⟩
  | case3 ad s ring r size sb v rs rst hit v' rs' hz hb rst' =>
    refine ⟨vstep _ _ _ _, fun h => ?_⟩
    cases r with
    | nil => exact Or.inl h
    | node ra rs2 rring rl rr => exact Or.inr (mem_right _ _ _ _ h)
  | case4 ad s ring r size sb v rs rst hit v' rs' hz hb rst' la ls lring ll lr ih =>
    refine ⟨fun h => ?_, fun h => ?_⟩
    · rcases ih.1 h with h1 | h1
      · exact vstep _ _ _ _ h1
      · exact Or.inr (mem_left _ _ _ _ h1)
    · rcases ih.2 h with h1 | h1
      · cases r with
        | nil => exact Or.inl h1
        | node ra rs2 rring rl rr => exact Or.inr (mem_right _ _ _ _ h1)
      · exact Or.inr (mem_left _ _ _ _ h1)
  | case5 ad s ring l size sb v rs rst hit v' rs' hz hb =>
    exact ⟨vstep _ _ _ _, Or.inl⟩
  | case6 ad s ring l size sb v rs rst hit v' rs' hz hb ra rs2 rring rl rr ih =>
    refine ⟨fun h => ?_, fun h => (ih.2 h).imp id (mem_right _ _ _ _)⟩
    rcases ih.1 h with h1 | h1
    · exact vstep _ _ _ _ h1
    · exact Or.inr (mem_right _ _ _ _ h1)

/-- where `inner_malloc` took its memory from when it needed no OS call: a chunk `v` that sat in a
bin, or `dv`, or `top`, big enough for the padded request `nb`; the result is `v + 16` -/
def Victim (h : Heap) (nb mem : Nat) : Prop :=
  ∃ v, mem = v + MEM_OFFSET ∧
    ((v = h.dv ∧ nb ≤ h.dvsize) ∨ (v = h.top ∧ nb < h.topsize) ∨
     (v ∈ binned h ∧ ∃ e, findEnt h.ents v = some e ∧ nb ≤ e.size))

theorem take_first_small_spec {h h' : Heap} {idx p : Nat} (hh : take_first_small h idx = .ok (h', p)) :
    ∃ rest e, h.sbins[idx]? = some (p :: rest) ∧ findEnt h.ents p = some e ∧
      e.size = small_index2size idx ∧ h' = setBin h idx rest := by
  unfold take_first_small at hh
  msimp at hh
  obtain ⟨l, hl, hh⟩ := hh
  split at hh
  · msimp at hh
  · rename_i p' rest
    msimp at hh
    obtain ⟨e, he, _, hs, hh⟩ := hh
    simp only [Prod.mk.injEq] at hh
    obtain ⟨h1, hp⟩ := hh; subst hp
    simp only [ne_eq, decide_eq_false_iff_not, Decidable.not_not] at hs
    exact ⟨rest, e, getBin_ok.1 hl, getE_ok.1 he, hs, h1.symm⟩

theorem tmalloc_small_victim {h h' : Heap} {size mem : Nat} (hh : tmalloc_small h size = .ok (h', mem)) :
    Victim h size mem := by
  unfold tmalloc_small at hh
  dsimp only at hh
  msimp at hh
  obtain ⟨t, ht, hh⟩ := hh
  split at hh
  · msimp at hh
  · rename_i a s ring l r
    msimp at hh
    obtain ⟨_, hlt, hh⟩ := hh
    generalize hres : Tree.lmBest _ size (some a) (s - size) = res at hh
    obtain ⟨v, rsize⟩ := res
    dsimp only at hh
    split at hh
    · msimp at hh
    · rename_i vc
      msimp at hh
      obtain ⟨e, he, _, hsz, hh⟩ := hh
      simp only [ne_eq, decide_eq_false_iff_not, Decidable.not_not] at hsz
      have hmem : vc ∈ (Tree.node a s ring l r).members := by
        have := lmBest_mem _ size (some a) (s - size) vc (by rw [hres])
        rcases this with h1 | h1
        · injection h1 with h1; subst h1; exact mem_self _ _ _ _ _
        · cases l with
          | nil => exact mem_right _ _ _ _ h1
          | node la ls lr ll lrr => exact mem_left _ _ _ _ h1
      have hv : mem = vc + MEM_OFFSET := by
        mlast hh
        split at hh
        · msimp at hh; mlast hh; simp only [Prod.mk.injEq] at hh; exact hh.2.symm
        · msimp at hh; mlast hh; simp only [Prod.mk.injEq] at hh; exact hh.2.symm
      exact ⟨vc, hv, Or.inr (Or.inr ⟨getTree_mem ht hmem, e, getE_spec he, by omega⟩)⟩

theorem nil_members (a : Nat) : ¬ a ∈ Tree.nil.members := by simp [Tree.members]

theorem tl_search_mem {h : Heap} {size : Nat} {v : Option Nat} {rsize : Nat}
    (hh : tl_search h size = .ok (v, rsize)) {a : Nat} (ha : v = some a) : a ∈ binned h := by
  unfold tl_search at hh
  dsimp only at hh
  msimp at hh
  obtain ⟨root, hroot, t2, ht2, hh⟩ := hh
  generalize hd : tlStart root size (compute_tree_index size) (U64 - 1 - size + 1) = d at hh ht2
  obtain ⟨v1, rs1, t1⟩ := d
  have hv1 : ∀ a, v1 = some a → a ∈ root.members := by
    intro a ha
    unfold tlStart at hd
    cases root with
    | nil => simp only [Prod.mk.injEq] at hd; rw [← hd.1] at ha; cases ha
    | node ra rs rring rl rr =>
      simp only at hd
      have := (tlDescend_spec (Tree.node ra rs rring rl rr) size _ none (U64 - 1 - size + 1) Tree.nil a).1 (by rw [hd]; exact ha)
      rcases this with h1 | h1
      · cases h1
      · exact h1
  have ht1 : ∀ a, a ∈ t1.members → a ∈ root.members := by
    intro a ha
    unfold tlStart at hd
    cases root with
    | nil => simp only [Prod.mk.injEq] at hd; rw [← hd.2.2] at ha; exact absurd ha (nil_members a)
    | node ra rs rring rl rr =>
      simp only at hd
      have := (tlDescend_spec (Tree.node ra rs rring rl rr) size _ none (U64 - 1 - size + 1) Tree.nil a).2 (by rw [hd]; exact ha)
      rcases this with h1 | h1
      · exact absurd h1 (nil_members a)
      · exact h1
  have ht2m : ∀ a, a ∈ t2.members → a ∈ binned h := by
    intro a ha
    unfold tlNext at ht2
    dsimp only at ht2
    split at ht2
    · split at ht2
      · exact getTree_mem ht2 ha
      · msimp at ht2; subst ht2; exact absurd ha (nil_members a)
    · msimp at ht2; subst ht2; exact getTree_mem hroot (ht1 a ha)
  dsimp only at hh
  subst ha
  have hfst : (t2.lmBest size v1 rs1).1 = some a := by rw [hh]
  rcases lmBest_mem t2 size v1 rs1 a hfst with h1 | h1
  · exact getTree_mem hroot (hv1 a h1)
  · exact ht2m a h1

theorem tmalloc_large_victim {h h' : Heap} {size mem : Nat} (hh : tmalloc_large h size = .ok (some (h', mem))) :
    Victim h size mem := by
  unfold tmalloc_large at hh
  msimp at hh
  obtain ⟨⟨v, rsize⟩, hs, hh⟩ := hh
  dsimp only at hh
  split at hh
  · msimp at hh; cases hh
  · rename_i vc
    split at hh
    · msimp at hh; cases hh
    · msimp at hh
      obtain ⟨e, he, _, hsz, hh⟩ := hh
      simp only [ne_eq, decide_eq_false_iff_not, Decidable.not_not] at hsz
      have hmem : vc ∈ binned h := tl_search_mem hs rfl
      have hm : mem = vc + MEM_OFFSET := by
        mlast hh
        split at hh
        · msimp at hh; mlast hh; injection hh with hh; simp only [Prod.mk.injEq] at hh; exact hh.2.symm
        · msimp at hh; mlast hh; injection hh with hh; simp only [Prod.mk.injEq] at hh; exact hh.2.symm
      exact ⟨vc, hm, Or.inr (Or.inr ⟨hmem, e, getE_spec he, by omega⟩)⟩

/-- a block comes from a victim of at least `nb` bytes; the OS is asked only when neither `dv` nor `top` can hold `nb` -/
abbrev NosysOk (h : Heap) (nb : Nat) : MRes → Prop
  | .done _ mem => Victim h nb mem
  | .tooBig => True
  | .needSys n => n = nb ∧ h.dvsize < n ∧ h.topsize ≤ n

theorem malloc_dv_top_spec {h : Heap} {nb : Nat} {r : MRes} (hh : malloc_dv_top h nb = .ok r) : NosysOk h nb r := by
  unfold malloc_dv_top at hh
  dsimp only at hh
  split at hh
  · rename_i hle
    split at hh
    · msimp at hh; mlast hh; subst hh
      exact ⟨h.dv, rfl, Or.inl ⟨rfl, hle⟩⟩
    · msimp at hh; mlast hh; subst hh
      exact ⟨h.dv, rfl, Or.inl ⟨rfl, hle⟩⟩
  · split at hh
    · rename_i hlt
      msimp at hh; mlast hh; subst hh
      exact ⟨h.top, rfl, Or.inr (Or.inl ⟨rfl, hlt⟩)⟩
    · msimp at hh; subst hh
      exact ⟨rfl, by omega, by omega⟩

theorem malloc_nosys_spec {h : Heap} {size : Nat} {r : MRes} (hh : malloc_nosys h size = .ok r) :
    NosysOk h (nbOf size) r := by
  rw [nbOf_eq]
  unfold malloc_nosys at hh
  dsimp only at hh
  -- the conditions are split by hand: `split at hh` re-simplifies the whole program at every branch
  by_cases hs : size ≤ MAX_SMALL_REQUEST
  · rw [if_pos hs] at hh
    rw [MAX_SMALL_REQUEST_eq] at hs
    by_cases h3 : smallmap h >>> small_index (request2size size) &&& 3 ≠ 0
    · -- exact (or next) small bin
      rw [if_pos h3] at hh
      msimp at hh
      obtain ⟨⟨h1, p⟩, ht, hh⟩ := hh
      obtain ⟨rest, e, hget, he, hes, _⟩ := take_first_small_spec ht
      have hmem := getBin_mem (getBin_ok.2 hget) List.mem_cons_self
      mlast hh; subst hh
      refine ⟨p, rfl, Or.inr (Or.inr ⟨hmem, e, he, ?_⟩)⟩
      rw [hes]
      have hnb8 := request2size_aligned size (by omega)
      have hnblt := request2size_lt size (by omega)
      have hd : (U32 - 1 - smallmap h >>> small_index (request2size size)) &&& 1 ≤ 1 := Nat.and_le_right
      generalize ((U32 - 1 - smallmap h >>> small_index (request2size size)) &&& 1) = δ at hd ⊢
      rw [small_index_eq _ (by omega), small_index2size_eq _ (by omega)]
      omega
    · rw [if_neg h3] at hh
      by_cases hdv : request2size size > h.dvsize
      · rw [if_pos hdv] at hh
        by_cases hsb : smallmap h >>> small_index (request2size size) ≠ 0
        · rw [if_pos hsb] at hh
          msimp at hh
          obtain ⟨⟨h1, p⟩, ht, _, hlt, hh⟩ := hh
          obtain ⟨rest, e, hget, he, hes, _⟩ := take_first_small_spec ht
          have hmem := getBin_mem (getBin_ok.2 hget) List.mem_cons_self
          simp only [decide_eq_false_iff_not, Nat.not_lt] at hlt
          have hv : Victim h (request2size size) (p + MEM_OFFSET) :=
            ⟨p, rfl, Or.inr (Or.inr ⟨hmem, e, he, by rw [hes]; exact hlt⟩)⟩
          split at hh
          · msimp at hh; mlast hh; subst hh; exact hv
          · msimp at hh; mlast hh; subst hh; exact hv
        · rw [if_neg hsb] at hh
          by_cases htm : treemap h ≠ 0
          · rw [if_pos htm] at hh
            msimp at hh
            obtain ⟨⟨h1, m1⟩, ht, hh⟩ := hh
            subst hh
            exact tmalloc_small_victim ht
          · rw [if_neg htm] at hh
            exact malloc_dv_top_spec hh
      · rw [if_neg hdv] at hh
        exact malloc_dv_top_spec hh
  · rw [if_neg hs] at hh
    rw [request2size, if_neg (by rw [MIN_REQUEST_eq]; rw [MAX_SMALL_REQUEST_eq] at hs; omega)]
    by_cases hmax : size ≥ MAX_REQUEST
    · rw [if_pos hmax] at hh
      msimp at hh; subst hh; trivial
    · rw [if_neg hmax] at hh
      by_cases htm : treemap h ≠ 0
      · rw [if_pos htm] at hh
        msimp at hh
        obtain ⟨r1, hr, hh⟩ := hh
        cases r1 with
        | none => exact malloc_dv_top_spec hh
        | some v =>
          msimp at hh
          subst hh
          exact tmalloc_large_victim hr
      · rw [if_neg htm] at hh
        exact malloc_dv_top_spec hh

theorem malloc_nosys_needSys {h : Heap} {size n : Nat} (hh : malloc_nosys h size = .ok (.needSys n)) :
    n = nbOf size ∧ h.dvsize < n ∧ h.topsize ≤ n :=
  malloc_nosys_spec hh

/-- if `dv` or `top` can hold the padded request, `inner_malloc` makes no OS call at all -/
theorem inner_malloc_reuse {s s' : St} {size mem : Nat} (h : inner_malloc s size = .ok (s', mem))
    (hfit : nbOf size ≤ s.h.dvsize ∨ nbOf size < s.h.topsize) : s'.evs = s.evs ∧ s'.osq = s.osq := by
  rcases inner_malloc_cases h with ⟨h', _, rfl⟩ | ⟨_, rfl, _⟩ | ⟨nb, hr, _⟩
  · exact ⟨rfl, rfl⟩
  · exact ⟨rfl, rfl⟩
  · have := malloc_nosys_needSys hr
    omega

theorem mem_freeList_of_binned {h : Heap} {a : Nat} (ha : a ∈ binned h) : a ∈ freeList h := by
  unfold freeList
  exact List.mem_append.2 (Or.inr (List.mem_append.2 (Or.inr ha)))

theorem topsize_ne {s : St} (ht : topOk s = true) {g : Seg} (hg : g ∈ s.segs) : s.h.topsize ≠ 0 := by
  unfold topOk at ht
  split at ht
  · rename_i hnil; rw [hnil] at hg; cases hg
  · simp only [Bool.and_eq_true, decide_eq_true_eq] at ht; omega

/-- what `topOk` says once the heap is initialised: the head segment, the header of `top` and the
foot word after it -/
theorem top_parts {s : St} (ht : topOk s = true) (hne : s.h.topsize ≠ 0) :
    ∃ g rest e f, s.segs = g :: rest ∧ findEnt s.h.ents s.h.top = some e ∧ isFree e = true ∧
      e.size = s.h.topsize ∧ findEnt s.h.ents (s.h.top + s.h.topsize) = some f ∧
      f.cin = false ∧ f.pin = false ∧ f.size = top_foot_size ∧ g.base ≤ s.h.top ∧
      s.h.top + s.h.topsize + top_foot_size = g.base + g.size ∧ s.h.top ≠ 0 := by
  unfold topOk at ht
  split at ht
  · simp only [Bool.and_eq_true, decide_eq_true_eq] at ht; omega
  · rename_i g rest hsegs
    simp only [Bool.and_eq_true, decide_eq_true_eq] at ht
    obtain ⟨⟨⟨⟨⟨⟨t1, t2⟩, t3⟩, t4⟩, t5⟩, t6⟩, t7⟩ := ht
    split at t6
    · rename_i e he
      split at t7
      · rename_i f hf
        simp only [Bool.and_eq_true, decide_eq_true_eq, Bool.not_eq_true'] at t6 t7
        exact ⟨g, rest, e, f, hsegs, he, t6.1, t6.2, hf, t7.1.1, t7.1.2, t7.2, t3, t4, t1⟩
      · cases t7
    · cases t6

/-- under `WF`, the victim of an allocation is a free chunk of at least the padded request size -/
theorem victim_free {hs : Hist} (h : WF hs) {nb mem : Nat} (hnb : 0 < nb) (hv : Victim hs.st.h nb mem) :
    ∃ ev ∈ hs.st.h.ents, mem = ev.addr + 16 ∧ isFree ev = true ∧ nb ≤ ev.size := by
  obtain ⟨v, hm, hcase⟩ := hv
  have hfl := h.parts.freeList
  unfold freeListOk at hfl
  simp only [Bool.and_eq_true, List.all_eq_true] at hfl
  rw [MEM_OFFSET_eq] at hm
  rcases hcase with ⟨hv, hle⟩ | ⟨hv, hlt⟩ | ⟨hb, e, he, hle⟩
  · have hd := h.parts.dv
    unfold dvOk at hd
    split at hd
    · simp only [decide_eq_true_eq] at hd; omega
    · split at hd
      · rename_i e he
        simp only [Bool.and_eq_true, decide_eq_true_eq] at hd
        obtain ⟨hm1, ha1⟩ := findEnt_some he
        exact ⟨e, hm1, by rw [hm, hv, ha1], hd.1.1, hd.1.2 ▸ hle⟩
      · cases hd
  · obtain ⟨g, rest, e, f, _, he, hfe, hse, _⟩ := top_parts h.parts.top (by omega)
    obtain ⟨hm1, ha1⟩ := findEnt_some he
    exact ⟨e, hm1, by rw [hm, hv, ha1], hfe, hse ▸ Nat.le_of_lt hlt⟩
  · have := hfl.2 v (mem_freeList_of_binned hb)
    unfold isFreeAt at this
    rw [he] at this
    obtain ⟨hm1, ha1⟩ := findEnt_some he
    exact ⟨e, hm1, by rw [hm, ha1], this, hle⟩

/-- a block carved from a free chunk is disjoint from every live block -/
theorem fresh_disjoint {hs : Hist} (h : WF hs) {ev : Ent} (hev : ev ∈ hs.st.h.ents) (hf : isFree ev = true)
    {size : Nat} (hfit : size + 8 ≤ ev.size) {b : Block} (hb : b ∈ hs.live) :
    ev.addr + 16 + size ≤ b.ptr ∨ b.ptr + b.size ≤ ev.addr + 16 := by
  obtain ⟨e, hm, ha, hcin, hs1, h32⟩ := live_chunk h hb
  have sep := entsOk_sep h.parts.ents
  rcases Nat.lt_trichotomy ev.addr e.addr with hlt | heq | hgt
  · have := sep ev hev e hm hlt
    left; omega
  · -- same address would make the free chunk an in-use one
    rw [entsOk_addr_inj h.parts.ents hev hm heq] at hf
    simp [isFree, hcin] at hf
  · have := sep e hm ev hev hgt
    right; omega

/-- a free chunk of at least 32 bytes ends at least 8 bytes before the end of its segment, which
ends inside the 64-bit address space -/
theorem free_chunk_bound {hs : Hist} (h : WF hs) {ev : Ent} (hev : ev ∈ hs.st.h.ents) (hf : isFree ev = true)
    (h32 : 32 ≤ ev.size) : ev.addr + ev.size + 8 ≤ 2 ^ 64 := by
  obtain ⟨g, hg, hmem, ht, _, hg64⟩ := h.seg_of hev
  have hnt : isTrailerEnd ev = false := by
    unfold isFree at hf
    simp only [Bool.and_eq_true, Bool.not_eq_true'] at hf
    unfold isTrailerEnd
    simp only [hf.1, hf.2, Bool.not_false, Bool.not_true, Bool.and_false, Bool.false_or, decide_eq_false_iff_not]
    omega
  have := tiles_not_last ht ev hmem hnt
  omega

/-- two heaps that agree on everything but the ghost branch tags -/
def SameHeap (a b : Heap) : Prop :=
  a.ents = b.ents ∧ a.sbins = b.sbins ∧ a.tbins = b.tbins ∧ a.dv = b.dv ∧ a.dvsize = b.dvsize ∧
  a.top = b.top ∧ a.topsize = b.topsize

theorem victim_same {a b : Heap} (h : SameHeap a b) {nb mem : Nat} (hv : Victim a nb mem) : Victim b nb mem := by
  obtain ⟨h1, h2, h3, h4, h5, h6, h7⟩ := h
  unfold Victim binned at *
  rw [← h1, ← h2, ← h3, ← h4, ← h5, ← h6, ← h7]
  exact hv

/-- **alloc_fresh** without an OS call: memory obtained from `malloc_nosys` is carved from a chunk that was free -/
theorem malloc_nosys_fresh {hs : Hist} (h : WF hs) {hp h' : Heap} (hsame : SameHeap hp hs.st.h) {size mem : Nat}
    (hr : malloc_nosys hp size = .ok (.done h' mem)) (hsz : 0 < size) :
    16 ≤ mem ∧ mem + size ≤ 2 ^ 64 ∧ ∀ b ∈ hs.live, mem + size ≤ b.ptr ∨ b.ptr + b.size ≤ mem := by
  have hmax : size < MAX_REQUEST := by
    apply Nat.lt_of_not_le
    intro hs
    rw [malloc_nosys_tooBig hs] at hr
    cases hr
  have h24 := lt_max_request_no_overflow size hmax
  have := request2size_ge size h24
  have := request2size_ge_min size h24
  obtain ⟨ev, hev, hmem, hfree, hle⟩ := victim_free h (nb := nbOf size) (by rw [nbOf_eq]; omega)
    (victim_same hsame (malloc_nosys_spec hr))
  rw [nbOf_eq] at hle
  have := free_chunk_bound h hev hfree (by omega)
  refine ⟨by omega, by omega, fun b hb => ?_⟩
  have := fresh_disjoint h hev hfree (size := size) (by omega) hb
  omega

/-- **alloc_fresh** (from `WF` of the state *before* the call): an ordinary-alignment `malloc` that
makes no OS call returns memory carved from a chunk that was free (a binned chunk, `dv` or `top`),
hence disjoint from every block that was live -/
theorem inner_malloc_fresh {hs : Hist} (h : WF hs) {s' : St} {size mem : Nat} {os : List OsDir}
    (hm : inner_malloc (hs.start os) size = .ok (s', mem)) (hne : mem ≠ 0) (hnoos : s'.evs = [])
    (hsz : 0 < size) : ∀ b ∈ hs.live, mem + size ≤ b.ptr ∨ b.ptr + b.size ≤ mem := by
  rcases inner_malloc_cases hm with ⟨h', hr, _⟩ | ⟨_, _, h0⟩ | ⟨nb, _, hs⟩
  · exact (malloc_nosys_fresh h (hp := (hs.start os).h) ⟨rfl, rfl, rfl, rfl, rfl, rfl, rfl⟩ hr hsz).2.2
  · exact absurd h0 hne
  · obtain ⟨_, _, _, _, he, _⟩ := sys_alloc_spec rfl hs
    rw [hnoos] at he
    cases he

/-- the same at the level of named blocks: `malloc` with ordinary alignment -/
theorem step_malloc_fresh {hs hs' : Hist} (h : WF hs) {id size align : Nat} {os : List OsDir} {out : Out}
    (hstep : hs.step (.malloc id size align) os = .ok (hs', out)) (hal : align ≤ MALLOC_ALIGNMENT)
    (hne : out.ptr ≠ 0) (hnoos : hs'.st.evs = []) (hsz : 0 < size) :
    ∀ b ∈ hs.live, out.ptr + size ≤ b.ptr ∨ b.ptr + b.size ≤ out.ptr := by
  obtain ⟨_, s, p, hm, rfl, rfl⟩ := step_malloc_cases hstep
  unfold malloc at hm
  rw [if_pos hal] at hm
  exact inner_malloc_fresh h hm hne hnoos hsz

end TinyVerif.Dl
