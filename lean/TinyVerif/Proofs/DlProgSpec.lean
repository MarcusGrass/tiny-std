import TinyVerif.Proofs.DlIndSpec
import TinyVerif.Proofs.DlIndDvTop
/-!
# Interface of the PROGRESS proof: from a state satisfying the invariant no operation raises one of the
model's error outcomes

The theorems of `Props/C03Ind.lean` speak about runs in which `step = .ok …`.  The model raises explicit `error`
outcomes for: a failed `debug_assert!` of the port, an arithmetic underflow, a read of a header word that was never
written, the dead direct-mmap branches, a chunk that is not in the bin it should be in, and an OS answer of the
wrong kind (`os-desync:*`: the answer list handed to `step` does not match the system calls the operation makes —
an artefact of taking the OS answers as a list, not a behaviour of the allocator).  Progress = from `SInv`
(+ what the call site knows) only the `os-desync` outcomes are possible; in particular no `debug_assert!` of the
port can fail and no subtraction underflows, in debug and release builds alike.

`SInv` does not bound the size of a user chunk below by 32 (that is in `liveOk`): the chunk-freeing functions
take `32 ≤ size` as a call-site fact (a 16-byte in-use chunk would trip `insert_small_chunk`'s assert; unreachable,
kernel-checked example in `DlProgFree.lean`).

One `f_Prog : Prop` per model function; proofs of `g_Prog` may take `f_Prog` AND `f_Spec` of callees as hypotheses.

The file also holds what all the progress proofs share: the rules for stepping through a `do` block, and the
conditions under which the header and bin primitives of the model are defined.
-/
namespace TinyVerif.Dl

/-- the only error outcomes an operation started in a state satisfying the invariant can have -/
def IsDesync (e : String) : Prop :=
  e = "os-desync:mmap" ∨ e = "os-desync:mremap" ∨ e = "os-desync:munmap"

/-- "fails only by OS-answer desynchronisation" -/
def Prog {α : Type} (x : M α) : Prop := ∀ e, x = .error e → IsDesync e

/-- "does not fail" (functions that make no system call) -/
def Total {α : Type} (x : M α) : Prop := ∃ r, x = .ok r

/-! ## stepping through a `do` block: a step is shown to be `.ok a` (or to fail only in the allowed way) and the rest is
considered for that `a` -/

theorem bind_err {α β : Type} {x : M α} {f : α → M β} {e : String} :
    (x >>= f) = .error e ↔ x = .error e ∨ ∃ a, x = .ok a ∧ f a = .error e := by
  cases x with
  | error e' => simp [bind, Except.bind]
  | ok a => simp [bind, Except.bind]

theorem pure_err {α : Type} {a : α} {e : String} : (pure a : M α) = .error e ↔ False := by
  simp [pure, Except.pure]

theorem throw_err {α : Type} {m e : String} : (throw m : M α) = .error e ↔ m = e := by
  simp [throw, throwThe, MonadExceptOf.throw]

theorem failIf_err {c : Bool} {msg e : String} : failIf c msg = .error e ↔ c = true ∧ msg = e := by
  unfold failIf; cases c <;> simp [pure, Except.pure, throw, throwThe, MonadExceptOf.throw]

/-- normalise a hypothesis `(do …) = .error e` -/
macro "esimp" "at" h:ident : tactic =>
  `(tactic| try simp only [bind_err, pure_err, throw_err, failIf_err, bind_ok, pure_ok, throw_ok, failIf_ok,
      false_and, and_false, exists_false, or_false, false_or] at $h:ident)

theorem bind_err_of {α β : Type} {E : String → Prop} {x : M α} {f : α → M β} (hx : ∀ e, x = .error e → E e)
    (hf : ∀ a, x = .ok a → ∀ e, f a = .error e → E e) : ∀ e, (x >>= f) = .error e → E e := by
  intro e he
  rcases bind_err.1 he with h | ⟨a, ha, h⟩
  · exact hx e h
  · exact hf a ha e h

theorem Total.prog {α : Type} {x : M α} (h : Total x) : Prog x := by
  obtain ⟨r, hr⟩ := h
  intro e he
  rw [hr] at he
  cases he

theorem Prog.bind {α β : Type} {x : M α} {f : α → M β} (hx : Prog x) (hf : ∀ a, x = .ok a → Prog (f a)) :
    Prog (x >>= f) :=
  bind_err_of hx hf

theorem Total.bind {α β : Type} {x : M α} {f : α → M β} (hx : Total x) (hf : ∀ a, x = .ok a → Total (f a)) :
    Total (x >>= f) := by
  obtain ⟨a, ha⟩ := hx
  obtain ⟨b, hb⟩ := hf a ha
  exact ⟨b, by rw [ha]; exact hb⟩

theorem Total.bind_ok {α β : Type} {x : M α} {f : α → M β} {a : α} (hx : x = .ok a) (hf : Total (f a)) :
    Total (x >>= f) := by
  rw [hx]; exact hf

theorem Prog.bind_ok {α β : Type} {x : M α} {f : α → M β} {a : α} (hx : x = .ok a) (hf : Prog (f a)) :
    Prog (x >>= f) := by
  rw [hx]; exact hf

theorem Total.ite {α : Type} {c : Prop} [Decidable c] {x y : M α} (hx : c → Total x) (hy : ¬ c → Total y) :
    Total (if c then x else y) := by
  split
  · exact hx ‹_›
  · exact hy ‹_›

theorem Prog.ite {α : Type} {c : Prop} [Decidable c] {x y : M α} (hx : c → Prog x) (hy : ¬ c → Prog y) :
    Prog (if c then x else y) := by
  split
  · exact hx ‹_›
  · exact hy ‹_›

theorem bind_ok_post {α β : Type} {x : M α} {f : α → M β} {Q : β → Prop} {a : α} (hx : x = .ok a)
    (hf : ∃ b, f a = .ok b ∧ Q b) : ∃ b, (x >>= f) = .ok b ∧ Q b := by
  rw [hx]; exact hf

theorem Total.bind_post {α β : Type} {x : M α} {f : α → M β} {Q : α → Prop} (hx : ∃ a, x = .ok a ∧ Q a)
    (hf : ∀ a, Q a → Total (f a)) : Total (x >>= f) := by
  obtain ⟨a, ha, hq⟩ := hx
  rw [ha]; exact hf a hq

theorem prog_pure {α : Type} (a : α) : Prog (pure a : M α) := by
  intro e he; exact (pure_err.1 he).elim

theorem total_pure {α : Type} (a : α) : Total (pure a : M α) := ⟨a, rfl⟩

theorem failIf_false {c : Bool} {msg : String} (h : c = false) : failIf c msg = .ok () := by
  subst h; rfl

/-! Chunk addresses and sizes are multiples of 16; these facts are passed on as terms (`mod16_add`, `mod16_sub`,
`mod16_mod8`), so that the arithmetic left to `omega` stays free of `%`. -/

/-! ## the header primitives are defined

A header write needs a size without flag bits; `set_foot` / `clear_pinuse` need a header at the address they
modify.  Nothing else: no sortedness of the table, no invariant. -/

/-- the fields the header primitives do not touch -/
structure mp_EFrame (h h' : Heap) : Prop where
  sbins : h'.sbins = h.sbins
  tbins : h'.tbins = h.tbins
  dv : h'.dv = h.dv
  dvsize : h'.dvsize = h.dvsize

theorem mp_EFrame.trans {a b c : Heap} (h1 : mp_EFrame a b) (h2 : mp_EFrame b c) : mp_EFrame a c :=
  ⟨h2.sbins.trans h1.sbins, h2.tbins.trans h1.tbins, h2.dv.trans h1.dv, h2.dvsize.trans h1.dvsize⟩

theorem findEnt_isSome_of_mem {y : Ent} {es : List Ent} (h : y ∈ es) : ∃ x, findEnt es y.addr = some x := by
  induction es with
  | nil => cases h
  | cons x xs ih =>
    by_cases hx : x.addr = y.addr
    · exact ⟨x, by rw [← hx]; exact findEnt_head⟩
    · rw [findEnt_cons_ne hx]
      exact ih ((List.mem_cons.1 h).resolve_left fun e => hx (e ▸ rfl))

theorem findEnt_dropWhile {P : Ent → Bool} {a : Nat} : ∀ {l : List Ent}, (∀ y ∈ l, P y = true → y.addr ≠ a) →
    findEnt (l.dropWhile P) a = findEnt l a := by
  intro l
  induction l with
  | nil => intro _; rfl
  | cons x xs ih =>
    intro h
    rw [List.dropWhile_cons]
    split
    · rename_i hp
      rw [ih (fun y hy => h y (List.mem_cons_of_mem _ hy)), findEnt_cons_ne (h x List.mem_cons_self hp)]
    · rfl

/-- writing a header does not disturb the headers at or after its end -/
theorem findEnt_putEnt_ge {e : Ent} {a : Nat} (h1 : e.addr + e.size ≤ a) (h2 : a ≠ e.addr) :
    ∀ es : List Ent, findEnt (putEnt es e) a = findEnt es a := by
  intro es
  induction es with
  | nil => simp only [putEnt, findEnt]; rw [if_neg (fun h => h2 h.symm)]
  | cons x xs ih =>
    simp only [putEnt]
    split
    · simp only [findEnt]; rw [ih]
    · rw [findEnt_cons_ne (fun h => h2 h.symm)]
      apply findEnt_dropWhile
      intro y _ hp hy
      simp only [Bool.or_eq_true, decide_eq_true_eq] at hp
      omega

theorem findEnt_modEnt {f : Ent → Ent} (hf : ∀ e, (f e).addr = e.addr) {a : Nat} :
    ∀ {l l' : List Ent}, modEnt f l a = some l' →
      ∀ b, findEnt l' b = if b = a then (findEnt l b).map f else findEnt l b := by
  intro l
  induction l with
  | nil => intro l' h; cases h
  | cons x xs ih =>
    intro l' h b
    simp only [modEnt] at h
    split at h
    · rename_i hx
      injection h with h
      subst h
      simp only [findEnt, hf, hx]
      by_cases hb : a = b
      · rw [if_pos hb, if_pos hb.symm, if_pos hb]; rfl
      · rw [if_neg hb, if_neg (fun h => hb h.symm), if_neg hb]
    · rename_i hx
      split at h
      · rename_i es' hes
        injection h with h
        subst h
        simp only [findEnt]
        by_cases hb : x.addr = b
        · rw [if_pos hb, if_pos hb, if_neg (fun h => hx (hb.trans h))]
        · rw [if_neg hb, if_neg hb]; exact ih hes b
      · cases h

theorem modEnt_isSome {f : Ent → Ent} {a : Nat} : ∀ {l : List Ent} {e : Ent}, findEnt l a = some e →
    ∃ es, modEnt f l a = some es := by
  intro l
  induction l with
  | nil => intro e h; cases h
  | cons x xs ih =>
    intro e h
    simp only [findEnt] at h
    simp only [modEnt]
    split at h
    · rename_i hx; rw [if_pos hx]; exact ⟨_, rfl⟩
    · rename_i hx
      rw [if_neg hx]
      obtain ⟨es, hes⟩ := ih h
      rw [hes]; exact ⟨_, rfl⟩

theorem writeHead_total {h : Heap} {a sz : Nat} (c p : Bool) (h8 : sz % 8 = 0) :
    ∃ h', writeHead h a sz c p = .ok h' ∧ mp_EFrame h h' ∧
      ∀ b, a + sz ≤ b → b ≠ a → findEnt h'.ents b = findEnt h.ents b :=
  ⟨_, writeHead_eq h8, ⟨rfl, rfl, rfl, rfl⟩, fun _ hb1 hb2 => findEnt_putEnt_ge hb1 hb2 _⟩

theorem setFoot_total {h : Heap} {a v : Nat} {e : Ent} (he : findEnt h.ents a = some e) :
    ∃ h', setFoot h a v = .ok h' ∧ mp_EFrame h h' ∧ ∃ e', findEnt h'.ents a = some e' := by
  obtain ⟨es, hes⟩ := modEnt_isSome (f := fun e => { e with pfoot := v }) he
  refine ⟨{ h with ents := es }, ?_, ⟨rfl, rfl, rfl, rfl⟩, { e with pfoot := v }, ?_⟩
  · unfold setFoot
    rw [hes]; rfl
  · show findEnt es a = _
    rw [findEnt_modEnt (f := fun e => { e with pfoot := v }) (fun _ => rfl) hes, if_pos rfl, he]; rfl

theorem clearPin_total {h : Heap} {a : Nat} {e : Ent} (he : findEnt h.ents a = some e) :
    ∃ h', clearPin h a = .ok h' ∧ mp_EFrame h h' ∧ ∃ e', findEnt h'.ents a = some e' := by
  obtain ⟨es, hes⟩ := modEnt_isSome (f := fun e => { e with pin := false }) he
  refine ⟨{ h with ents := es }, ?_, ⟨rfl, rfl, rfl, rfl⟩, { e with pin := false }, ?_⟩
  · unfold clearPin
    rw [hes]; rfl
  · show findEnt es a = _
    rw [findEnt_modEnt (f := fun e => { e with pin := false }) (fun _ => rfl) hes, if_pos rfl, he]; rfl

theorem orPin_frame (h : Heap) (a : Nat) :
    mp_EFrame h (orPin h a) ∧ ∀ b, a < b → findEnt (orPin h a).ents b = findEnt h.ents b := by
  unfold orPin
  split
  · rename_i es hes
    exact ⟨⟨rfl, rfl, rfl, rfl⟩, fun b hb => by
      show findEnt es b = _
      rw [findEnt_modEnt (f := fun e => { e with pin := true }) (fun _ => rfl) hes, if_neg (by omega)]⟩
  · exact ⟨⟨rfl, rfl, rfl, rfl⟩, fun b hb => findEnt_putEnt_ge (by simp only; omega) (by simp only; omega) _⟩

/-- `set_inuse` fails only on a size with flag bits -/
theorem set_inuse_total (h : Heap) (a : Nat) {sz : Nat} (h8 : sz % 8 = 0) :
    ∃ h', set_inuse h a sz = .ok h' ∧ mp_EFrame h h' ∧
      ∀ b, a + sz < b → findEnt h'.ents b = findEnt h.ents b := by
  have key : ∀ p, ∃ h', (writeHead h a sz true p >>= fun h1 => pure (orPin h1 (a + sz))) = .ok h' ∧ mp_EFrame h h' ∧
      ∀ b, a + sz < b → findEnt h'.ents b = findEnt h.ents b := by
    intro p
    obtain ⟨h1, e1, f1, k1⟩ := writeHead_total (h := h) (a := a) true p h8
    obtain ⟨f2, k2⟩ := orPin_frame h1 (a + sz)
    exact ⟨_, by rw [e1]; rfl, f1.trans f2, fun b hb => by rw [k2 b hb, k1 b (by omega) (by omega)]⟩
  exact key _

theorem set_inuse_and_pinuse_total {h : Heap} {a sz : Nat} (h8 : sz % 8 = 0) :
    ∃ h', set_inuse_and_pinuse h a sz = .ok h' ∧ mp_EFrame h h' := by
  obtain ⟨h1, e1, f1, _⟩ := writeHead_total (h := h) (a := a) true true h8
  refine ⟨orPin h1 (a + sz), ?_, f1.trans (orPin_frame _ _).1⟩
  unfold set_inuse_and_pinuse
  rw [e1]; rfl

theorem inuse_chunk_total {h : Heap} {a sz : Nat} (h8 : sz % 8 = 0) :
    ∃ h', set_size_and_pinuse_of_inuse_chunk h a sz = .ok h' ∧ mp_EFrame h h' ∧
      ∀ b, a + sz ≤ b → b ≠ a → findEnt h'.ents b = findEnt h.ents b :=
  writeHead_total true true h8

/-- the header of a free chunk can be written when a header sits at its end -/
theorem free_chunk_total {h : Heap} {a sz : Nat} {y : Ent} (h8 : sz % 8 = 0) (hpos : 0 < sz)
    (hy : findEnt h.ents (a + sz) = some y) :
    ∃ h', set_size_and_pinuse_of_free_chunk h a sz = .ok h' ∧ mp_EFrame h h' ∧
      ∃ y', findEnt h'.ents (a + sz) = some y' := by
  obtain ⟨h1, e1, f1, k1⟩ := writeHead_total (h := h) (a := a) false true h8
  have hy1 : findEnt h1.ents (a + sz) = some y := by rw [k1 _ (Nat.le_refl _) (by omega)]; exact hy
  obtain ⟨h2, e2, f2, k2⟩ := setFoot_total (v := sz) hy1
  refine ⟨h2, ?_, f1.trans f2, k2⟩
  unfold set_size_and_pinuse_of_free_chunk
  rw [e1]; exact e2

/-- `set_free_with_pinuse p size n` with `n` the end of the chunk needs nothing but a header at `n` -/
theorem set_free_with_pinuse_total {h : Heap} {a sz n : Nat} {y : Ent} (h8 : sz % 8 = 0) (hpos : 0 < sz)
    (hn : n = a + sz) (hy : findEnt h.ents n = some y) :
    ∃ h', set_free_with_pinuse h a sz n = .ok h' ∧ mp_EFrame h h' := by
  subst hn
  obtain ⟨h1, e1, f1, y1, hy1⟩ := clearPin_total hy
  obtain ⟨h2, e2, f2, _⟩ := free_chunk_total h8 hpos hy1
  refine ⟨h2, ?_, f1.trans f2⟩
  unfold set_free_with_pinuse
  rw [e1]; exact e2

theorem sbinsOk_length {h : Heap} (hs : sbinsOk h = true) : h.sbins.length = 32 := by
  unfold sbinsOk at hs
  simp only [Bool.and_eq_true, decide_eq_true_eq] at hs
  exact hs.1

theorem tbinsOk_length {h : Heap} (ht : tbinsOk h = true) : h.tbins.length = 32 := by
  unfold tbinsOk at ht
  simp only [Bool.and_eq_true, decide_eq_true_eq] at ht
  exact ht.1

theorem getBin_total {h : Heap} {i : Nat} (hl : h.sbins.length = 32) (hi : i < 32) :
    ∃ l, getBin h i = .ok l ∧ h.sbins[i]? = some l := by
  have : i < h.sbins.length := by omega
  exact ⟨h.sbins[i], getBin_ok.2 (List.getElem?_eq_getElem this), List.getElem?_eq_getElem this⟩

theorem getTree_total {h : Heap} {i : Nat} (hl : h.tbins.length = 32) (hi : i < 32) :
    ∃ t, getTree h i = .ok t ∧ h.tbins[i]? = some t := by
  have : i < h.tbins.length := by omega
  exact ⟨h.tbins[i], getTree_ok.2 (List.getElem?_eq_getElem this), List.getElem?_eq_getElem this⟩

theorem insert_small_total {h : Heap} {c sz : Nat} (hl : h.sbins.length = 32) (h32 : 32 ≤ sz) (hlt : sz < 256) :
    Total (insert_small_chunk h c sz) := by
  obtain ⟨l, hl1, _⟩ := getBin_total hl (small_index_lt sz hlt)
  unfold insert_small_chunk
  dsimp only
  refine Total.bind_ok (failIf_false (by rw [MIN_CHUNK_SIZE_eq]; simp; omega)) ?_
  exact Total.bind_ok hl1 (total_pure _)

theorem insert_large_total {h : Heap} {c sz : Nat} (hl : h.tbins.length = 32) :
    Total (insert_large_chunk h c sz) := by
  obtain ⟨t, ht, _⟩ := getTree_total hl (compute_tree_index_lt sz)
  unfold insert_large_chunk
  dsimp only
  exact Total.bind_ok ht (total_pure _)

/-- `insert_chunk` of a chunk of at least `MIN_CHUNK_SIZE` bytes needs nothing but the 32 entries of both bin arrays -/
theorem insert_chunk_total {h : Heap} {c sz : Nat} (hs : h.sbins.length = 32) (ht : h.tbins.length = 32)
    (h32 : 32 ≤ sz) : Total (insert_chunk h c sz) := by
  unfold insert_chunk
  split
  · rename_i hsm
    exact insert_small_total hs h32 ((is_small_iff sz).1 hsm)
  · exact insert_large_total ht

/-- the direct-mmap guards are dead for in-use chunks -/
theorem not_mmapped_of_cin {e : Ent} (hc : e.cin = true) : e.mmapped = false := by
  simp [Ent.mmapped, hc]

theorem topsize_mod16 {s : St} (w : WFS s) : s.h.topsize % 16 = 0 := by
  by_cases h0 : s.h.topsize = 0
  · rw [h0]
  · obtain ⟨_, _, _, x, _, _, _, hes, _, hxf, hxs, _⟩ := w.top_parts h0
    rw [← hxs]
    exact (shapeOk_free w.shape (show x ∈ s.h.ents by rw [hes]; simp) (isFree_iff.1 hxf).1).2.1

/-- a free chunk other than `top` and `dv` is binned -/
theorem free_binned {s : St} (w : WFS s) {e : Ent} (he : e ∈ s.h.ents) (hf : isFree e = true)
    (ht : e.addr ≠ s.h.top) (hd : e.addr ≠ s.h.dv) : e.addr ∈ binned s.h := by
  have := ((freeListOk_iff s.h).1 w.freeList).2.1 e he hf
  rcases mem_freeList.1 this with ⟨_, h⟩ | ⟨_, h⟩ | h
  · exact absurd h ht
  · exact absurd h hd
  · exact h

theorem binned_large {h : Heap} (hs : sbinsOk h = true) {c sz : Nat} (hb : c ∈ binned h)
    (hsz : sizeAt h.ents c sz = true) (h256 : 256 ≤ sz) : c ∈ joinAll (h.tbins.map Tree.members) := by
  unfold binned at hb
  rcases List.mem_append.1 hb with hm | hm
  · have := sbins_size_lt hs hm hsz
    omega
  · exact hm

theorem unlink_free_total {s : St} (w : WFS s) {e : Ent} (he : e ∈ s.h.ents) (hf : isFree e = true)
    (ht : e.addr ≠ s.h.top) (hd : e.addr ≠ s.h.dv) : ∃ h', unlink_chunk s.h e.addr e.size = .ok h' :=
  unlink_chunk_progress w.sbins w.tbins (free_binned w he hf ht hd)
    (sizeAt_iff.2 ⟨e, entsOk_find e he w.ents, rfl⟩)

/-- what `dvOk`, `shapeOk` and the boundary tags say about a non-empty `dv`: a header sits at its end -/
theorem dv_facts {s : St} (w : WFS s) (hne : s.h.dvsize ≠ 0) :
    s.h.dvsize % 16 = 0 ∧ 32 ≤ s.h.dvsize ∧ ∃ y, findEnt s.h.ents (s.h.dv + s.h.dvsize) = some y := by
  obtain ⟨x, hxm, hxa, hxf, hxs, hd32, hdv0, hdvtop⟩ := w.dv_parts hne
  obtain ⟨_, h16, _⟩ := shapeOk_free w.shape hxm (isFree_iff.1 hxf).1
  obtain ⟨pre, y, post, g, hes, _, _, _, hya, _⟩ := w.free_parts hxm hxf (by rw [hxa]; exact hdvtop)
  have hym : y ∈ s.h.ents := by rw [hes]; simp
  refine ⟨hxs ▸ h16, hd32, y, ?_⟩
  rw [← hxa, ← hxs, ← hya]
  exact entsOk_find y hym w.ents

/-! ## heap-level functions: total -/

def malloc_nosys_Prog : Prop :=
  ∀ {s : St} (_ : SInv s) {size : Nat}, Total (malloc_nosys s.h size)

def dispose_chunk_Prog : Prop :=
  ∀ {s : St} (_ : SInv s) {p psize : Nat}, User s p psize → 32 ≤ psize → Total (dispose_chunk s.h p psize)

/-- the two `set_inuse` calls of a split of a user chunk of size `nb + rsize` -/
def split_inuse_Prog : Prop :=
  ∀ {s : St} (_ : SInv s) {p nb rsize : Nat}, User s p (nb + rsize) → nb % 16 = 0 → 32 ≤ nb → rsize % 16 = 0 →
    32 ≤ rsize → ∃ h1 h2, set_inuse s.h p nb = .ok h1 ∧ set_inuse h1 (p + nb) rsize = .ok h2

def free_heap_Prog : Prop :=
  ∀ {s : St} (_ : SInv s) {mem : Nat}, 16 ≤ mem → (∃ z, User s (mem - 16) z ∧ 32 ≤ z) → Total (free_heap s.h mem)

def try_realloc_chunk_Prog : Prop :=
  ∀ {s : St} (_ : SInv s) {p nb z : Nat}, User s p z → 32 ≤ z → NbOk nb → Total (try_realloc_chunk s.h p nb)

def memalign_fix_Prog : Prop :=
  ∀ {s : St} (_ : SInv s) {mem k nb z : Nat}, 16 ≤ mem → User s (mem - 16) z → NbOk nb → 5 ≤ k → k ≤ 32 →
    nb + 2 ^ k + 24 ≤ z → Total (memalign_fix s.h mem (2 ^ k) nb)

/-! ## functions that talk to the OS: fail only by desync -/

def sys_alloc_Prog : Prop :=
  ∀ {s : St} (_ : SInv s) {nb : Nat}, NbOk nb → OsOk s (sysLen nb) → Prog (sys_alloc s nb)

/-- the footprint counter equals the sum of the segment sizes (`Props/C04.lean` `footprint_exact`; inductive by the
`*_book` lemmas of `Proofs/DlStep.lean`): without it `footprint - released` can underflow (kernel-checked example in
`DlProgSys.lean`) -/
def FpOk (s : St) : Prop := s.footprint = (s.segs.map (·.size)).sum

theorem segSum_eq_sum (l : List Seg) : segSum l = (l.map (·.size)).sum := by
  induction l with
  | nil => rfl
  | cons g gs ih => simp [segSum, ih]

/-- `FpOk` follows the bookkeeping relation `Book` of `Proofs/DlStep.lean` -/
theorem FpOk.of_book {s s' : St} (hfp : FpOk s) (hb : Book s s') : FpOk s' := by
  unfold FpOk at *
  have := hb.fp
  rw [segSum_eq_sum, segSum_eq_sum] at this
  omega

def release_unused_segments_Prog : Prop :=
  ∀ {s : St} (_ : SInv s) (_ : FpOk s), Prog (release_unused_segments s)

def sys_trim_Prog : Prop :=
  ∀ {s : St} (_ : SInv s) (_ : FpOk s) {pad : Nat}, Prog (sys_trim s pad)

/-! ## entry points -/

def inner_malloc_Prog : Prop :=
  ∀ {s : St} (_ : SInv s) {size : Nat}, nbOf size < 2 ^ 63 → OsOk s (mapSize size) → Prog (inner_malloc s size)

/-- `release_checks` is decremented on every large free: it must not be 0 (`underflow:release_checks`): part of
what `free` needs from the state beyond `SInv` -/
def RcOk (s : St) : Prop := s.h.top ≠ 0 → 0 < s.release_checks

def free_Prog : Prop :=
  ∀ {s : St} (_ : SInv s) (_ : RcOk s) (_ : FpOk s) {mem : Nat}, 16 ≤ mem → (∃ z, User s (mem - 16) z ∧ 32 ≤ z) →
    Prog (free s mem)

def malloc_Prog : Prop :=
  ∀ {s : St} (_ : SInv s) {size k : Nat}, k ≤ 32 → nbOf (reqOf size (2 ^ k)) < 2 ^ 63 →
    OsOk s (mapSize (reqOf size (2 ^ k))) → Prog (malloc s size (2 ^ k))

def realloc_Prog : Prop :=
  ∀ {s : St} (_ : SInv s) (_ : RcOk s) (_ : FpOk s) {ptr osz k ns z : Nat}, 16 ≤ ptr → User s (ptr - 16) z → 32 ≤ z →
    k ≤ 32 →
    ptr % 2 ^ k = 0 → nbOf (reqOf ns (2 ^ k)) < 2 ^ 63 → OsOk s (mapSize (reqOf ns (2 ^ k))) →
    Prog (realloc s ptr osz (2 ^ k) ns)

end TinyVerif.Dl
