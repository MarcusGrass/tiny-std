import TinyVerif.Proofs.DlProgSpec
import TinyVerif.Proofs.DlIndAll
/-!
# Progress of `free_heap` / `dispose_chunk` (tag `fp_`)

From `SInv s` and a user chunk of at least `MIN_CHUNK_SIZE` (32) bytes the coalescing code raises no error outcome:
`fp_free_heap_prog : free_heap_Prog`, `fp_dispose_chunk_prog : dispose_chunk_Prog`.

**Why the hypothesis `32 ≤ size`**: `SInv` does not say that a user chunk
has at least 32 bytes (`shapeOk` only gives 16; the bound for live chunks is part of `liveOk`).  `fp_cexSt` is a state
satisfying `SInv` with a 16-byte user chunk between in-use neighbours on which both functions end in
`debug_assert:insert_small_chunk-size` (`fp_cex`).  Unreachable — `malloc` never creates a chunk below 32 bytes —
so not a defect of the allocator; the bound is available at every call site (`liveOk` for live blocks,
`MIN_CHUNK_SIZE ≤ rsize` for the remainders handed to `dispose_chunk`).

Structure as in `Proofs/DlIndFree2.lean`: `fp_back_total` (the backward block `fr_backStep` is total), `fp_fwd`
(`fp_FwdT`: every primitive call of the forward step succeeds), put together for a user chunk in `fp_user`, which
both functions use.
-/
namespace TinyVerif.Dl

open List

theorem fp_free_bin_total {h : Heap} {p sz : Nat} (hh : Total (insert_chunk h p sz)) :
    Total (free_heap.free_bin h p sz) := by
  unfold insert_chunk at hh
  unfold free_heap.free_bin
  split
  · rename_i hs
    rw [if_pos hs] at hh
    exact Total.bind hh (fun _ _ => total_pure _)
  · rename_i hs
    rw [if_neg hs] at hh
    exact Total.bind hh (fun _ _ => total_pure _)

/-! ## the backward step is total -/

theorem fp_back_total {s : St} (hi : SInv s) {p0 psize0 : Nat} {x en : Ent} (hx : findEnt s.h.ents p0 = some x)
    (hxc : x.cin = true) (hxs : x.size = psize0) (h8 : psize0 ≠ 8)
    (hen : findEnt s.h.ents (p0 + psize0) = some en) (m1 m2 tg : String) :
    Total (fr_backStep m1 m2 tg s.h x en p0 psize0 (p0 + psize0)) := by
  have w := hi.wfs
  obtain ⟨hxm, hxa⟩ := findEnt_some hx
  unfold fr_backStep
  dsimp only
  cases hxp : x.pin with
  | true => exact total_pure _
  | false =>
    rw [if_pos (show (!false) = true from rfl)]
    obtain ⟨pre, wv, post, g, hes, _, _, _, hwf, hwt, hxaw, hpf⟩ := fr_prev_free w hxm hxc hxp
    have hwm : wv ∈ s.h.ents := by rw [hes]; simp
    have hPw : p0 - x.pfoot = wv.addr := by omega
    refine Total.bind_ok (failIf_false (by simp [Ent.mmapped, hxc])) ?_
    refine Total.bind_ok (failIf_false (by simp only [decide_eq_false_iff_not]; omega)) ?_
    rw [hPw]
    refine Total.ite (fun hd => ?_) (fun _ => Total.ite (fun _ => ?_) (fun _ => total_pure _))
    · rw [hpf]
      obtain ⟨h', e'⟩ := unlink_free_total w hwm hwf hwt hd
      exact Total.bind_ok e' (total_pure _)
    · have h16 : (psize0 + x.pfoot) % 16 = 0 := by
        rw [← hxs, hpf]
        exact mod16_add (fr_user_shape w hxm (by omega)).2.1 (shapeOk_free w.shape hwm (isFree_iff.1 hwf).1).2.1
      obtain ⟨h', e', _⟩ := set_free_with_pinuse_total (h := { s.h with dvsize := psize0 + x.pfoot })
        (a := wv.addr) (mod16_mod8 h16) (by have := (fr_user_shape w hxm (by omega)).2.2; omega) (by omega) hen
      exact Total.bind_ok e' (total_pure _)

/-! ## the forward step is total -/

/-- every primitive call of the forward step succeeds -/
def fp_FwdT (h1 : Heap) (P S next : Nat) (en : Ent) : Prop :=
  (en.cin = true ∧ ∃ h3, set_free_with_pinuse h1 P S next = .ok h3 ∧ ∀ t, Total (insert_chunk (h3.tag t) P S)) ∨
  (en.cin = false ∧ next = h1.top ∧ (h1.topsize + S) % 8 = 0) ∨
  (en.cin = false ∧ next ≠ h1.top ∧ next = h1.dv ∧
    Total (set_size_and_pinuse_of_free_chunk { h1 with dvsize := h1.dvsize + S, dv := P } P (h1.dvsize + S))) ∨
  (en.cin = false ∧ next ≠ h1.top ∧ next ≠ h1.dv ∧
    ∃ h2 h3, unlink_chunk h1 next en.size = .ok h2 ∧
      set_size_and_pinuse_of_free_chunk h2 P (S + en.size) = .ok h3 ∧
      ∀ t, Total (insert_chunk (h3.tag t) P (S + en.size)))

theorem fp_fwd {s : St} (hi : SInv s) {pre post : List Ent} {a n : Ent} {as : List Ent} {g : Seg} {p0 : Nat}
    {h1 : Heap} {rem : List Nat} {S : Nat} (bk : fr_BackOk s pre post a as n g p0 h1 rem S) (h32 : 32 ≤ S) :
    fp_FwdT h1 a.addr S n.addr n := by
  have w := hi.wfs
  have hnm : n ∈ s.h.ents := bk.W.mem n (fr_mem_run.2 (Or.inr rfl))
  have hfn : findEnt h1.ents n.addr = some n := by rw [bk.u.frame.ents]; exact entsOk_find n hnm w.ents
  have hnS := bk.nS
  -- the merged chunk `[a.addr, n.addr)` is a multiple of 16
  have hS16 : S % 16 = 0 := by
    have h := mod16_sub (fr_user_shape w hnm bk.n8).1 (fr_user_shape w (bk.W.mem_run a List.mem_cons_self) bk.W.a8).1
    rwa [hnS, Nat.add_sub_cancel_left] at h
  have hl1 := sbinsOk_length bk.u.sb
  have hl2 := tbinsOk_length bk.u.tb
  cases hnc : n.cin with
  | true =>
    obtain ⟨h3, e1, f1⟩ := set_free_with_pinuse_total (a := a.addr) (mod16_mod8 hS16) (by omega) hnS hfn
    exact Or.inl ⟨hnc, h3, e1, fun t => insert_chunk_total (f1.sbins ▸ hl1) (f1.tbins ▸ hl2) h32⟩
  | false =>
    have hnf : isFree n = true := isFree_iff.2 ⟨hnc, bk.npin⟩
    by_cases hnt : n.addr = h1.top
    · refine Or.inr (Or.inl ⟨hnc, hnt, ?_⟩)
      rw [bk.u.frame.topsize]
      exact mod16_mod8 (mod16_add (topsize_mod16 w) hS16)
    · have hnt' : n.addr ≠ s.h.top := fun h => hnt (h.trans bk.u.frame.top.symm)
      by_cases hnd : n.addr = h1.dv
      · refine Or.inr (Or.inr (Or.inl ⟨hnc, hnt, hnd, ?_⟩))
        have hnd' : n.addr = s.h.dv := hnd.trans bk.u.frame.dv
        have hdv0 : s.h.dv ≠ 0 := hnd' ▸ Nat.ne_of_gt (w.addr_pos hnm)
        obtain ⟨hd16, _, y, hy⟩ := dv_facts w (fr_dvsize_ne w hdv0)
        have hds := bk.u.frame.dvsize
        obtain ⟨h', e', _⟩ := free_chunk_total (h := { h1 with dvsize := h1.dvsize + S, dv := a.addr }) (a := a.addr)
          (sz := h1.dvsize + S) (y := y) (by rw [hds]; exact mod16_mod8 (mod16_add hd16 hS16)) (by omega) (by
            show findEnt h1.ents _ = _
            rw [bk.u.frame.ents, hds, Nat.add_left_comm, ← hnS, hnd', Nat.add_comm]; exact hy)
        exact ⟨h', e'⟩
      · have hnd' : n.addr ≠ s.h.dv := fun h => hnd (h.trans bk.u.frame.dv.symm)
        obtain ⟨_, y, _, _, hes, _, _, _, hya, _⟩ := w.free_parts hnm hnf hnt'
        have hfy := entsOk_find y (by rw [hes]; simp) w.ents
        have hn16 := (shapeOk_free w.shape hnm hnc).2.1
        -- `n` is still binned in `h1`
        have hbin : n.addr ∈ binned h1 := by
          have h2 := bk.u.fl.mem_iff.1 (((freeListOk_iff s.h).1 w.freeList).2.1 n hnm hnf)
          rcases List.mem_append.1 h2 with h | h
          · exfalso
            obtain ⟨e, he, _, hea⟩ := bk.hrem _ h
            have := ((bk.W.bounds w).2.1 e he).2
            omega
          · rcases mem_freeList.1 h with ⟨_, h⟩ | ⟨_, h⟩ | h
            · exact absurd h hnt
            · exact absurd h hnd
            · exact h
        obtain ⟨h2, e1⟩ := unlink_chunk_progress (sz := n.size) bk.u.sb bk.u.tb hbin (sizeAt_iff.2 ⟨n, hfn, rfl⟩)
        have u2 := fr_unl_step bk.u e1
        obtain ⟨h3, e2, f2, _⟩ := free_chunk_total (h := h2) (a := a.addr) (sz := S + n.size) (y := y)
          (mod16_mod8 (mod16_add hS16 hn16)) (Nat.lt_of_lt_of_le (by omega) (Nat.le_add_right _ _))
          (by rw [u2.frame.ents, ← Nat.add_assoc, ← hnS, ← hya]; exact hfy)
        exact Or.inr (Or.inr (Or.inr ⟨hnc, hnt, hnd, h2, h3, e1, e2, fun t =>
          insert_chunk_total (f2.sbins ▸ sbinsOk_length u2.sb) (f2.tbins ▸ tbinsOk_length u2.tb)
            (Nat.le_trans h32 (Nat.le_add_right _ _))⟩))

theorem fp_back_size {h : Heap} {e en : Ent} {p0 psize0 next : Nat} {h1 : Heap} {P S : Nat} {stop : Bool}
    (hb : fr_Back h e en p0 psize0 next h1 P S stop) : psize0 ≤ S := by
  rcases hb with ⟨_, _, _, h, _⟩ | ⟨_, _, _, h, _⟩ <;> omega

/-- a user chunk: its header, the header at its end, and what the forward step has to do once the backward step
returned `(h1, P, S, false)` -/
theorem fp_user {s : St} (hi : SInv s) {p z : Nat} (hu : User s p z) (h32 : 32 ≤ z) (m1 m2 tg : String) :
    ∃ x n, getE s.h p = .ok x ∧ x.size = z ∧ getE s.h (p + z) = .ok n ∧
      Total (fr_backStep m1 m2 tg s.h x n p z (p + z)) ∧
      ∀ h1 P S, fr_backStep m1 m2 tg s.h x n p z (p + z) = .ok (h1, P, S, false) → fp_FwdT h1 P S (p + z) n := by
  have w := hi.wfs
  obtain ⟨x, hx, hxc, hxs, h8, hr⟩ := hu
  obtain ⟨hxm, hxa⟩ := findEnt_some hx
  obtain ⟨g, hg, hgx⟩ := w.struct.seg_of hxm
  obtain ⟨pre, post, hes⟩ := List.append_of_mem hxm
  obtain ⟨n, post', hp, hna, _⟩ := fr_next hi hes hxc (by omega) hr hg hgx
  have hen : findEnt s.h.ents (p + z) = some n := by
    rw [← hxa, ← hxs, ← hna]
    exact entsOk_find n (by rw [hes, hp]; simp) w.ents
  refine ⟨x, n, getE_ok.2 hx, hxs, getE_ok.2 hen, fp_back_total hi hx hxc hxs h8 hen _ _ _, ?_⟩
  intro h1 P S hback
  have hb := fr_backStep_ok hback
  obtain ⟨pre, post, a, as, g, rem, haP, bk⟩ := fr_back_ok hi hx hxc hxs h8 hr hen hb
  have hf := fp_fwd hi bk (by have := fp_back_size hb; omega)
  rw [haP, (findEnt_some hen).2] at hf
  exact hf

/-- **`dispose_chunk` on a user chunk of at least 32 bytes raises no error** -/
theorem fp_dispose_chunk_prog : dispose_chunk_Prog := by
  intro s hi p psize hu h32
  obtain ⟨x, n, hx, _, hn, hback, hfwd⟩ := fp_user hi hu h32 "mmapped-branch:dispose_chunk" "underflow:dispose_chunk-prev"
    "dispose-back-dv"
  unfold dispose_chunk
  dsimp only
  refine Total.bind_ok hx (Total.bind_ok hn (Total.bind hback ?_))
  rintro ⟨h1, P, S, stop⟩ hb
  dsimp only
  cases stop with
  | true => rw [if_pos rfl]; exact total_pure _
  | false =>
    rw [if_neg (by simp)]
    rcases hfwd h1 P S hb with ⟨hc, h3, e1, hins⟩ | ⟨hc, ht, h8'⟩ | ⟨hc, ht, hd, hT⟩ | ⟨hc, ht, hd, h2, h3, e1, e2, hins⟩
    · rw [if_pos hc]
      exact Total.bind_ok e1 (hins _)
    · rw [if_neg (by simp [hc]), if_pos ht]
      exact Total.bind_ok (writeHead_eq h8') (total_pure _)
    · rw [if_neg (by simp [hc]), if_neg ht, if_pos hd]
      exact Total.bind hT (fun _ _ => total_pure _)
    · rw [if_neg (by simp [hc]), if_neg ht, if_neg hd]
      exact Total.bind_ok e1 (Total.bind_ok e2 (Total.ite (fun _ => total_pure _) (fun _ => hins _)))

/-- **`free_heap` on a user chunk of at least 32 bytes raises no error** -/
theorem fp_free_heap_prog : free_heap_Prog := by
  intro s hi mem h16 hu
  obtain ⟨z, hu, h32⟩ := hu
  obtain ⟨x, n, hx, hxs, hn, hback, hfwd⟩ := fp_user hi hu h32 "mmapped-branch:free" "underflow:free-prev" "free-back-dv"
  unfold free_heap
  dsimp only
  simp only [MEM_OFFSET_eq]
  refine Total.bind_ok (failIf_false (by simp only [decide_eq_false_iff_not]; omega)) (Total.bind_ok hx ?_)
  rw [hxs]
  refine Total.bind_ok hn (Total.bind hback ?_)
  rintro ⟨h1, P, S, stop⟩ hb
  dsimp only
  cases stop with
  | true => rw [if_pos rfl]; exact total_pure _
  | false =>
    rw [if_neg (by simp)]
    rcases hfwd h1 P S hb with ⟨hc, h3, e1, hins⟩ | ⟨hc, ht, h8'⟩ | ⟨hc, ht, hd, hT⟩ | ⟨hc, ht, hd, h2, h3, e1, e2, hins⟩
    · rw [if_pos hc]
      exact Total.bind_ok e1 (fp_free_bin_total (hins _))
    · rw [if_neg (by simp [hc]), if_pos ht]
      exact Total.bind_ok (writeHead_eq h8') (total_pure _)
    · rw [if_neg (by simp [hc]), if_neg ht, if_pos hd]
      exact Total.bind hT (fun _ _ => total_pure _)
    · rw [if_neg (by simp [hc]), if_neg ht, if_neg hd]
      exact Total.bind_ok e1 (Total.bind_ok e2 (Total.ite (fun _ => total_pure _) (fun _ => fp_free_bin_total (hins _))))

/-! ## why `32 ≤ size` is needed -/

/-- a state satisfying `SInv` whose first chunk is a 16-byte user chunk between the segment start and an in-use
chunk (unreachable: `malloc` never creates a chunk below `MIN_CHUNK_SIZE`) -/
def fp_cexSt : St :=
  { h := { ents := [⟨1048576, 16, true, true, 0⟩, ⟨1048592, 112, true, true, 0⟩, ⟨1048704, 65328, false, true, 0⟩,
                    ⟨1114032, 80, false, false, 0⟩],
           sbins := emptyBins, tbins := emptyTrees, dv := 0, dvsize := 0, top := 1048704, topsize := 65328, tr := [] },
    segs := [⟨1048576, 65536, 0⟩], footprint := 65536, maxfp := 65536, trim_check := 2097152, release_checks := 4095,
    least_addr := 1048576, osq := [], evs := [] }

set_option maxRecDepth 100000 in
/-- without the size bound both functions can trip `debug_assert!(size >= MIN_CHUNK_SIZE)` of `insert_small_chunk`
from a state satisfying `SInv` -/
theorem fp_cex : SInv fp_cexSt ∧ User fp_cexSt 1048576 16 ∧
    free_heap fp_cexSt.h (1048576 + 16) = .error "debug_assert:insert_small_chunk-size" ∧
    dispose_chunk fp_cexSt.h 1048576 16 = .error "debug_assert:insert_small_chunk-size" :=
  ⟨⟨⟨by decide +kernel, by decide +kernel, by decide +kernel, by decide +kernel, by decide +kernel, by decide +kernel, by decide +kernel, by decide +kernel, by decide +kernel, by decide +kernel,
      by decide +kernel⟩, gl_recsOk_of_check (by decide +kernel), gl_fenceOk_of_check (by decide +kernel), gl_tailOk_of_check (by decide +kernel),
      gl_headOk_of_check (by decide +kernel), gl_recIn_of_check (by decide +kernel)⟩,
    ⟨⟨1048576, 16, true, true, 0⟩, by decide +kernel, rfl, rfl, by decide +kernel, by decide +kernel⟩, by rfl, by rfl⟩

/-! ## non-vacuity: the hypotheses hold, and every branch runs, on the reachable states of `DlIndFree2` -/

set_option maxRecDepth 100000 in
example : fr_caseF fr_ops 1 "free-plain" = true ∧ fr_caseF (fr_ops ++ [(.free 4, [])]) 3 "free-fwd-dv" = true ∧
    fr_caseD fr_ops 3 "dispose-back-dv" = true :=
  ⟨by decide +kernel, by decide +kernel, by decide +kernel⟩

end TinyVerif.Dl
