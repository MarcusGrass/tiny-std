import TinyVerif.Proofs.DlProgSpec
import TinyVerif.Proofs.DlIndAll
/-!
# PROGRESS of the functions that change the segment list / talk to the OS (tag `sp_`)

`sp_sys_alloc_prog : sys_alloc_Prog`; `sp_release_unused_segments_prog`, `sp_sys_trim_prog`: the two
`_Prog` statements of `DlProgSpec.lean` under the extra hypothesis `FpOk` (`footprint` = sum of the segment
sizes), without which `underflow:footprint` is reachable from an `SInv` state.
-/
namespace TinyVerif.Dl

theorem popM_prog (s : St) (len : Nat) : Prog (popM s len) := by
  intro e he
  unfold popM at he
  split at he
  · cases he
  · injection he with he; exact Or.inl he.symm

theorem popR_prog (s : St) (a o n : Nat) : Prog (popR s a o n) := by
  intro e he
  unfold popR at he
  split at he
  · cases he
  · injection he with he; exact Or.inr (Or.inl he.symm)

theorem popU_prog (s : St) (a l : Nat) : Prog (popU s a l) := by
  intro e he
  unfold popU at he
  split at he
  · cases he
  · injection he with he; exact Or.inr (Or.inr he.symm)

/-! ## composite primitives -/

theorem init_top_total {s : St} {ptr size : Nat} (h16 : ptr % 16 = 0) (hlt : ptr + 32 ≤ 2 ^ 64) (h8 : size % 8 = 0) :
    Total (init_top s ptr size) := by
  unfold init_top
  have hoff : align_offset_usize (ptr + MEM_OFFSET) = 0 := by
    rw [MEM_OFFSET_eq, align_offset_usize_eq (ptr + 16) (by omega)]; omega
  rw [hoff]
  simp only [Nat.add_zero, Nat.sub_zero, top_foot_size_eq]
  refine Total.bind_ok (failIf_false (by simp)) ?_
  exact Total.bind_ok (writeHead_eq h8) (Total.bind_ok (writeHead_eq (by decide)) (total_pure _))

/-- the fencepost loop has enough fuel: it runs at most `(old_end - p) / 8` times (3 or 5 times in `add_segment`,
whose fuel is 64) -/
theorem fences_total : ∀ (fuel : Nat) (h : Heap) {p oe : Nat} (n : Nat), oe ≤ p + 8 * fuel + 8 → 1 ≤ fuel →
    Total (fences fuel h p oe n) := by
  intro fuel
  induction fuel with
  | zero => intro h p oe n _ h1; omega
  | succ k ih =>
    intro h p oe n hf _
    unfold fences
    rw [SIZEOF_USIZE_eq]
    dsimp only
    refine Total.bind_ok (writeHead_eq (by decide)) (Total.ite (fun hlt => ?_) (fun _ => total_pure _))
    exact ih _ _ (by omega) (by omega)

/-- the end of `add_segment` and of two branches of `prepend_alloc`: a free chunk is made of `[p, p + n)` and binned -/
theorem sp_free_and_bin {h : Heap} {p n nx : Nat} {y : Ent} (h8 : n % 8 = 0) (h32 : 32 ≤ n) (hnx : nx = p + n)
    (hy : findEnt h.ents nx = some y) (hs : h.sbins.length = 32) (ht : h.tbins.length = 32) (t : String) :
    Total (do let h ← set_free_with_pinuse h p n nx; insert_chunk (h.tag t) p n) := by
  obtain ⟨h1, e1, f1⟩ := set_free_with_pinuse_total h8 (by omega) hnx hy
  exact Total.bind_ok e1 (insert_chunk_total (f1.sbins ▸ hs) (f1.tbins ▸ ht) h32)

/-- `top`, its size and alignment in a state whose `top` is not null -/
theorem sp_top_facts {s : St} (w : WFS s) (htn : s.h.top ≠ 0) :
    s.h.top % 16 = 0 ∧ 16 ≤ s.h.topsize ∧ s.h.top + s.h.topsize + 80 ≤ 2 ^ 64 := by
  obtain ⟨gg, hgg⟩ := sg_segs_of_top w htn
  obtain ⟨g0, rest, pre, x, f, post, hsegs, hes, hxa, hxf, hxs, _, _, _, _, _, hgt, _⟩ := w.top_parts (w.topsize_ne hgg)
  obtain ⟨a, _, c⟩ := shapeOk_free w.shape (show x ∈ s.h.ents by rw [hes]; simp) (isFree_iff.1 hxf).1
  exact ⟨hxa ▸ a, hxs ▸ c, hgt ▸ ((sg_segsOk_cons w.segs hsegs).2.2 g0 List.mem_cons_self).2.2.2.2.2⟩

theorem sp_holding_head {segs rest : List Seg} {g0 : Seg} {a : Nat} (hsegs : segs = g0 :: rest) (h1 : g0.base ≤ a)
    (h2 : a < g0.base + g0.size) : segment_holding segs a = some g0 := by
  unfold segment_holding
  rw [hsegs, List.find?_cons_of_pos]
  simp only [Seg.holds, Seg.top, Bool.and_eq_true]
  exact ⟨decide_eq_true h1, decide_eq_true h2⟩

/-! ## `sys_alloc_place` does not fail -/

theorem sp_place_init_total {s : St} (hi : SInv s) {tbase tsize nb : Nat} (hf : SgFresh s tbase tsize)
    (hsz : 96 ≤ tsize) (ht0 : s.h.top = 0) {q0 : List OsDir} {ev0 : List OsEv} {fp0 mf0 : Nat} :
    Total (sys_alloc_place { s with osq := q0, evs := ev0, footprint := fp0, maxfp := mf0 } tbase tsize nb) := by
  obtain ⟨hnil, _⟩ := sg_empty_of_top0 hi.wfs ht0
  obtain ⟨_, hpos, hend, _⟩ := hf.fresh
  unfold sys_alloc_place
  dsimp only
  rw [if_pos ht0, top_foot_size_eq]
  refine Total.bind_ok (failIf_false (by rw [hnil]; rfl)) ?_
  refine Total.bind_ok (failIf_false (by simp only [decide_eq_false_iff_not]; omega)) ?_
  exact Total.bind (init_top_total (by have := hf.page; omega) (by omega) (by have := hf.gran; omega))
    (fun _ _ => total_pure _)

/-- **`add_segment` does not fail**: the head segment holds `top`, nothing underflows, the record address is
aligned, the fencepost loop has fuel left and writes at least two fenceposts, the header writes find the headers
they modify -/
theorem sp_add_segment_total {s : St} (hi : SInv s) (htn : s.h.top ≠ 0) {tbase tsize : Nat} (hf : SgFresh s tbase tsize)
    (hsz : 96 ≤ tsize) {q0 : List OsDir} {ev0 : List OsEv} {fp0 mf0 la0 : Nat} :
    Total (add_segment { s with osq := q0, evs := ev0, footprint := fp0, maxfp := mf0, least_addr := la0 } tbase tsize) := by
  have w := hi.wfs
  obtain ⟨gg, hgg⟩ := sg_segs_of_top w htn
  obtain ⟨g0, rest, pre, x, f, post, T⟩ := w.sgTop (w.topsize_ne hgg)
  have hsegs := T.segs
  have hgb := T.base
  have hgt := T.fin
  obtain ⟨_, hts, hlim0⟩ := sp_top_facts w htn
  -- `top`, `top + topsize` and the end of the head segment are multiples of 16
  have hend16 := mod16_add (sp_top_facts w htn).1 (topsize_mod16 w)
  obtain ⟨_, hpos, hlim, hfr⟩ := hf.fresh
  unfold add_segment
  dsimp only
  rw [sp_holding_head hsegs hgb (by omega)]
  dsimp only
  unfold Seg.top
  rw [sg_addseg_csp (top := s.h.top) (topsize := s.h.topsize) (hgt ▸ mod16_add hend16 rfl) hgt (hgt ▸ hlim0)
    (topsize_mod16 w) hts]
  simp only [sg_pad_seg, SIZEOF_USIZE_eq, MALLOC_ALIGNMENT_eq, MEM_OFFSET_eq, top_foot_size_eq]
  refine Total.bind_ok (failIf_false (by simp only [decide_eq_false_iff_not]; omega)) ?_
  refine Total.bind_ok (failIf_false (by simp only [decide_eq_false_iff_not]; omega)) ?_
  refine Total.bind (init_top_total (by have := hf.page; omega) (by omega) (by have := hf.gran; omega)) ?_
  intro s1 hinit
  refine Total.bind_ok (failIf_false ?_) ?_
  · simp only [Bool.not_eq_false', is_aligned_iff]
    split
    · exact mod16_add (sp_top_facts w htn).1 rfl
    · exact mod16_add hend16 rfl
  unfold set_size_and_pinuse_of_inuse_chunk
  refine Total.bind (⟨_, writeHead_eq (by decide)⟩) ?_
  intro hR eR
  refine Total.bind (fences_total 64 _ _ (by split <;> omega) (by omega)) ?_
  rintro ⟨h2, nf⟩ eF
  -- what the table looks like after the fencepost loop
  have hcsp : ((if s.h.topsize < 32 then s.h.top else s.h.top + s.h.topsize) = s.h.top + s.h.topsize ∧ 32 ≤ s.h.topsize) ∨
      ((if s.h.topsize < 32 then s.h.top else s.h.top + s.h.topsize) = s.h.top ∧ s.h.topsize = 16) := by
    split
    · right; exact ⟨rfl, by omega⟩
    · left; exact ⟨rfl, by omega⟩
  obtain ⟨p1, p2, p3, p4, pfR, p5⟩ := sg_addseg_tab (S := { s with osq := q0, evs := ev0, footprint := fp0, maxfp := mf0, least_addr := la0 })
    w rfl T hfr (by have := hf.page; omega) hlim hsz hinit hcsp eR eF
  dsimp only
  refine Total.bind_ok (failIf_false ?_) ?_
  · simp only [decide_eq_false_iff_not]
    rw [p4]
    rcases hcsp with ⟨hc, _⟩ | ⟨hc, _⟩ <;> rw [hc] <;> omega
  refine Total.bind ?_ (fun _ _ => total_pure _)
  unfold add_segment_oldtop
  dsimp only
  by_cases hsm : s.h.topsize < 32
  · rw [if_pos hsm, if_neg (by simp)]
    exact total_pure _
  · rw [if_neg hsm, if_pos (by omega), Nat.add_sub_cancel_left]
    rw [if_neg hsm] at p5
    obtain ⟨y, hy⟩ := findEnt_isSome_of_mem
      ((p5 { addr := s.h.top + s.h.topsize, size := 48, cin := true, pin := true, pfoot := pfR }).2
        (Or.inr (Or.inr (Or.inl rfl))))
    refine sp_free_and_bin (mod16_mod8 (topsize_mod16 w)) (by omega) rfl hy ?_ ?_ _
    · rw [p2]; exact sbinsOk_length (h := s.h) w.sbins
    · rw [p2]; exact tbinsOk_length (h := s.h) w.tbins

theorem sp_seg_facts {s : St} (w : WFS s) {g : Seg} (hg : g ∈ s.segs) :
    g.base % 4096 = 0 ∧ 0 < g.base ∧ 4096 ≤ g.size ∧ g.base + g.size ≤ 2 ^ 64 := by
  have := w.seg_bounds hg
  exact ⟨this.1, this.2.2.1, by omega, this.2.2.2.2.2⟩

/-- a header write into a sorted table leaves the headers outside the written chunk where they are -/
theorem sp_writeHead_find {h h' : Heap} {a size : Nat} {c p : Bool} (e : writeHead h a size c p = .ok h')
    (hok : entsOk h.ents = true) (hpos : 0 < size) (hlow : ∀ y ∈ h.ents, y.addr < a → y.addr + y.size ≤ a) {z : Ent}
    (hz : z ∈ h.ents) (hout : z.addr < a ∨ a + size ≤ z.addr) : findEnt h'.ents z.addr = some z := by
  obtain ⟨_, t2, t3⟩ := sg_writeHead_tab e hok hpos hlow
  exact entsOk_find z ((t3 z).2 (Or.inr ⟨hz, hout⟩)) t2

/-- **`prepend_alloc` does not fail** -/
theorem sp_prepend_total {s : St} (hi : SInv s) {tbase tsize nb : Nat} (hf : SgFresh s tbase tsize)
    (hnb : NbOk nb) (hsz : nb + 96 ≤ tsize) {sq : Seg} (hsq : sq ∈ s.segs) (hsqb : sq.base = tbase + tsize)
    {S : St} {t : String} (hS : S.h = s.h.tag t) : Total (prepend_alloc S tbase sq.base nb) := by
  have w := hi.wfs
  obtain ⟨hnb16, hnb32, _⟩ := hnb
  obtain ⟨_, hpos, hlim, hfr⟩ := hf.fresh
  have hfresh := sg_fresh_ents w hfr
  have hpos0 := entsOk_pos w.ents
  obtain ⟨eo, T, _, heom, heoa, heop⟩ := sg_first_entry w hsq
  obtain ⟨_, _, hsq80, hsqlim⟩ := sp_seg_facts w hsq
  have hq16 : (tsize - nb) % 16 = 0 := mod16_sub (by have := hf.gran; omega) hnb16
  unfold prepend_alloc
  dsimp only
  rw [align_as_chunk_aligned tbase (by have := hf.page; omega) (by omega),
    align_as_chunk_aligned sq.base (by have := hf.page; have := hf.gran; omega) (by omega),
    MEM_OFFSET_eq, MIN_CHUNK_SIZE_eq, hS, hsqb, Nat.add_sub_cancel_left]
  rw [hsqb] at heoa
  refine Total.bind_ok (failIf_false (by simp only [decide_eq_false_iff_not]; omega)) ?_
  unfold set_size_and_pinuse_of_inuse_chunk
  refine Total.bind ⟨_, writeHead_eq (mod16_mod8 hnb16)⟩ ?_
  intro hP eP
  -- every header of `s` is still found after the request chunk was written into the fresh mapping
  have hfindP : ∀ z ∈ s.h.ents, findEnt hP.ents z.addr = some z := by
    intro z hz
    refine sp_writeHead_find eP w.ents (by omega) ?_ hz ?_
    · intro y hy _
      have := hpos0 y hy
      rcases hfresh y hy with h | h <;> omega
    · have := hpos0 z hz
      rcases hfresh z hz with h | h <;> omega
  obtain ⟨kt, kts, kd, kds, ksb, ktb⟩ : hP.top = s.h.top ∧ hP.topsize = s.h.topsize ∧ hP.dv = s.h.dv ∧
    hP.dvsize = s.h.dvsize ∧ hP.sbins = s.h.sbins ∧ hP.tbins = s.h.tbins := writeHead_keeps (h := s.h.tag t) eP
  have heoP := hfindP eo heom
  rw [heoa] at heoP
  refine Total.bind_ok (getE_ok.2 heoP) ?_
  refine Total.bind_ok (failIf_false (by simp only [Bool.not_eq_false', decide_eq_true_eq]; omega)) ?_
  refine Total.bind_ok (failIf_false (by rw [heop]; rfl)) ?_
  refine Total.bind_ok (failIf_false (by simp only [decide_eq_false_iff_not]; omega)) ?_
  refine Total.bind ?_ (fun _ _ => total_pure _)
  -- the remainder `[tbase + nb, tbase + tsize)` of the mapping
  have hq32 : 32 ≤ tsize - nb := by omega
  have hqend : tbase + nb + (tsize - nb) = tbase + tsize := by omega
  have hne0 : tbase + tsize ≠ 0 := by omega
  refine Total.ite (fun _ => ?_) (fun hnt => Total.ite (fun hdv => ?_) (fun hnd => Total.ite (fun hfree => ?_) (fun _ => ?_)))
  · -- prepend-top
    exact Total.bind_ok (writeHead_eq (by rw [kts]; exact mod16_mod8 (mod16_add (topsize_mod16 w) hq16)))
      (total_pure _)
  · -- prepend-dv: the header after the old `dv`
    rw [kd] at hdv
    obtain ⟨hd16, _, y, hy⟩ := dv_facts w (fr_dvsize_ne w (hdv ▸ hne0))
    obtain ⟨hym, hya⟩ := findEnt_some hy
    have hyP := hfindP y hym
    rw [hya] at hyP
    obtain ⟨h', e', _⟩ := free_chunk_total (h := { hP with dvsize := hP.dvsize + (tsize - nb), dv := tbase + nb })
      (a := tbase + nb) (sz := hP.dvsize + (tsize - nb)) (y := y)
      (by rw [kds]; exact mod16_mod8 (mod16_add hd16 hq16)) (Nat.lt_of_lt_of_le (by omega) (Nat.le_add_left _ _))
      (by
        show findEnt hP.ents _ = _
        rw [kds, Nat.add_left_comm, hqend, hdv, Nat.add_comm s.h.dvsize]; exact hyP)
    exact Total.bind_ok e' (total_pure _)
  · -- prepend-free: the old first chunk is binned; it is taken off its bin and merged
    rw [kt] at hnt
    rw [kd] at hnd
    have hef := sg_not_inuse hfree
    have hnt' : eo.addr ≠ s.h.top := by rw [heoa]; exact hnt
    have hnd' : eo.addr ≠ s.h.dv := by rw [heoa]; exact hnd
    obtain ⟨_, y, _, _, hes0, _, _, _, hya, _⟩ := w.free_parts heom hef hnt'
    have hyP := hfindP y (by rw [hes0]; simp)
    have hfk : ∀ a ∈ binned s.h, findEnt hP.ents a = findEnt s.h.ents a := by
      intro a ha
      obtain ⟨z, hz, hza⟩ := w.freeList_entry (mem_freeList_of_binned ha)
      rw [← hza, hfindP z hz, entsOk_find z hz w.ents]
    have hsbP : sbinsOk hP = true := sbinsOk_frame (h := s.h) w.sbins ksb
      (fun a ha => hfk a (List.mem_append.2 (Or.inl ha)))
    have htbP : tbinsOk hP = true := tbinsOk_frame (h := s.h) w.tbins ktb
      (fun a ha => hfk a (List.mem_append.2 (Or.inr ha)))
    obtain ⟨hU, eU⟩ := unlink_chunk_progress (sz := eo.size) hsbP htbP
      (by rw [binned_congr ksb ktb, ← heoa]; exact free_binned w heom hef hnt' hnd')
      (sizeAt_iff.2 ⟨eo, heoP, rfl⟩)
    have hUe := (unlink_chunk_frame eU).ents
    obtain ⟨b1, b2⟩ := unlink_chunk_binsOk eU hsbP htbP
    have hes16 := (shapeOk_free w.shape heom (isFree_iff.1 hef).1).2.1
    refine Total.bind_ok eU (sp_free_and_bin (y := y) (mod16_mod8 (mod16_add hq16 hes16))
      (Nat.le_trans hq32 (Nat.le_add_right _ _)) (by rw [← Nat.add_assoc, hqend])
      (by rw [hUe, ← heoa, ← hya]; exact hyP) (sbinsOk_length b1) (tbinsOk_length b2) _)
  · -- prepend-inuse
    exact sp_free_and_bin (mod16_mod8 hq16) hq32 hqend.symm heoP (ksb ▸ sbinsOk_length w.sbins)
      (ktb ▸ tbinsOk_length w.tbins) _

/-- **the middle of `sys_alloc` does not fail** -/
theorem sp_place_total {s : St} (hi : SInv s) {tbase tsize nb : Nat} (hf : SgFresh s tbase tsize) (hnb : NbOk nb)
    (hsz : nb + 96 ≤ tsize) {q0 : List OsDir} {ev0 : List OsEv} {fp0 mf0 : Nat} :
    Total (sys_alloc_place { s with osq := q0, evs := ev0, footprint := fp0, maxfp := mf0 } tbase tsize nb) := by
  by_cases ht0 : s.h.top = 0
  · exact sp_place_init_total hi hf (by omega) ht0
  · unfold sys_alloc_place
    dsimp only
    rw [if_neg ht0]
    split
    · obtain ⟨a, _, c⟩ := sp_top_facts hi.wfs ht0
      exact Total.bind (init_top_total a (by omega)
        (mod16_mod8 (mod16_add (topsize_mod16 hi.wfs) (by have := hf.gran; omega)))) (fun _ _ => total_pure _)
    · split
      · rename_i sq hfnd
        have hsqb : sq.base = tbase + tsize := by simpa using List.find?_some hfnd
        exact Total.bind (sp_prepend_total hi hf hnb hsz (find?_mem hfnd) hsqb rfl) (fun _ _ => total_pure _)
      · exact Total.bind (sp_add_segment_total hi ht0 hf (by omega)) (fun _ _ => total_pure _)

/-- **`sys_alloc` fails only by `os-desync:mmap`** -/
theorem sp_sys_alloc_prog : sys_alloc_Prog := by
  intro s hi nb hnb hos
  unfold sys_alloc
  dsimp only
  refine Prog.bind (popM_prog _ _) ?_
  rintro ⟨res, s1⟩ hp
  obtain ⟨q, hq, hs1⟩ := popM_spec hp
  dsimp only
  cases res with
  | none => exact prog_pure _
  | some tbase =>
    obtain ⟨hfresh, hpage⟩ := hos tbase q hq
    obtain ⟨l1, l2, _⟩ := sg_sysLen hnb
    subst hs1
    dsimp only
    refine Prog.bind (sp_place_total hi (tsize := sysLen nb) ⟨hfresh, hpage, l1⟩ hnb l2).prog ?_
    intro r hr
    have hres : SgPlaceRes s nb r :=
      sg_place_of_prepend sg_prepend_spec hi ⟨_, _, _, _, rfl⟩ (tsize := sysLen nb) ⟨hfresh, hpage, l1⟩ hnb l2 hr
    cases r with
    | inr r => exact prog_pure _
    | inl s2 =>
      obtain ⟨r1, _⟩ := hres
      dsimp only
      refine Prog.ite (fun hlt => Total.prog ?_) (fun _ => prog_pure _)
      unfold set_size_and_pinuse_of_inuse_chunk
      refine Total.bind_ok (writeHead_eq (mod16_mod8 (mod16_sub (topsize_mod16 r1.wfs) hnb.1))) ?_
      exact Total.bind_ok (writeHead_eq (mod16_mod8 hnb.1)) (total_pure _)

/-! ## every non-head segment holds its record (`debug_assert:segment-holds-its-record`) -/

/-- forward along the headers of a segment that does not contain `top`: from an in-use header one reaches a
fencepost -/
theorem sp_fence_after {s : St} (hi : SInv s) {g : Seg} (hg : g ∈ s.segs)
    (hnt : ¬ (g.base ≤ s.h.top ∧ s.h.top < g.base + g.size)) :
    ∀ n (z : Ent), z ∈ s.h.ents → inSeg g z = true → z.cin = true → g.base + g.size - z.addr ≤ n →
      ∃ f ∈ s.h.ents, inSeg g f = true ∧ f.size = 8 := by
  have w := hi.wfs
  intro n
  induction n with
  | zero =>
    intro z hz hgz _ hn
    rw [inSeg_iff] at hgz; omega
  | succ n ih =>
    intro z hz hgz hzc hn
    by_cases h8 : z.size = 8
    · exact ⟨z, hz, hgz, h8⟩
    · have hnt' : isTrailerEnd z = false := by
        simp only [isTrailerEnd, hzc, Bool.not_true, Bool.false_and, Bool.false_or, decide_eq_false_iff_not]
        exact h8
      obtain ⟨pre, post, hes⟩ := List.append_of_mem hz
      obtain ⟨y, post', hp, hya, hgy, hl⟩ := next_entry w.struct hes hg hgz hnt'
      have hym : y ∈ s.h.ents := by rw [hes, hp]; simp
      have hzpos := entsOk_pos w.ents z hz
      by_cases hyc : y.cin = true
      · exact ih y hym hgy hyc (by omega)
      · -- a free chunk other than `top`: the header after it is in use
        have hyp : y.pin = true := by
          simp only [linkOk, Bool.and_eq_true, beq_iff_eq] at hl
          rw [hl.1, hzc]
        have hyf : isFree y = true := by simp [isFree, hyc, hyp]
        have hyt : y.addr ≠ s.h.top := by
          intro h
          rw [inSeg_iff] at hgy; omega
        obtain ⟨_, y2, _, g2, hes2, hg2, hgy2, hgy22, hy2a, hy2c, _, _⟩ := w.free_parts hym hyf hyt
        have : g2 = g := gl_seg_unique w.segsDisjoint hg2 hg hgy2 hgy rfl
        subst this
        have hypos := entsOk_pos w.ents y hym
        exact ih y2 (by rw [hes2]; simp) hgy22 hy2c (by omega)

/-- backward from a fencepost one reaches the record chunk of the segment -/
theorem sp_record_before {s : St} (hi : SInv s) {g : Seg} (hg : g ∈ s.segs) :
    ∀ n (f : Ent), f ∈ s.h.ents → inSeg g f = true → f.size = 8 → f.addr ≤ n →
      ∃ r ∈ s.h.ents, inSeg g r = true ∧ isRecord s.segs r = true := by
  have w := hi.wfs
  have hft := (gl_fenceOk_iff_tab w.ents).1 hi.fence
  intro n
  induction n with
  | zero =>
    intro f hf _ _ hn
    have := w.addr_pos hf; omega
  | succ n ih =>
    intro f hf hgf h8 hn
    have hnb : f.addr ≠ g.base := fun h => hi.head g hg f hf h h8
    obtain ⟨x, hx, hgx, hfa, _⟩ := gl_prev_entry w.struct hf hg hgf hnb
    have hxpos := entsOk_pos w.ents x hx
    rcases hft x hx f hf h8 hfa with h | h
    · exact ih x hx hgx h (by omega)
    · exact ⟨x, hx, hgx, h⟩

/-- **a segment that does not contain `top` holds its own record** -/
theorem sp_nonhead_holds {s : St} (hi : SInv s) {g : Seg} (hg : g ∈ s.segs)
    (hnt : ¬ (g.base ≤ s.h.top ∧ s.h.top < g.base + g.size)) : g.holds g.recAt = true := by
  have w := hi.wfs
  obtain ⟨e, T, _, hem, hea, hep⟩ := sg_first_entry w hg
  have hgz := sp_seg_facts w hg
  have hge : inSeg g e = true := by rw [inSeg_iff]; omega
  -- an in-use header of the segment
  have hcin : ∃ z ∈ s.h.ents, inSeg g z = true ∧ z.cin = true := by
    by_cases hc : e.cin = true
    · exact ⟨e, hem, hge, hc⟩
    · have hf : isFree e = true := by simp [isFree, hc, hep]
      obtain ⟨_, y, _, g2, hes2, hg2, hge2, hgy2, _, hyc, _, _⟩ := w.free_parts hem hf (by omega)
      have : g2 = g := gl_seg_unique w.segsDisjoint hg2 hg hge2 hge rfl
      subst this
      exact ⟨y, by rw [hes2]; simp, hgy2, hyc⟩
  obtain ⟨z, hz, hgz', hzc⟩ := hcin
  obtain ⟨f, hf, hgf, h8⟩ := sp_fence_after hi hg hnt _ z hz hgz' hzc (Nat.le_refl _)
  obtain ⟨r, hr, hgr, hrec⟩ := sp_record_before hi hg _ f hf hgf h8 (Nat.le_refl _)
  obtain ⟨g', hg', hga⟩ := gl_isRecord_iff.1 hrec
  have hri := hi.recin g' hg' (by omega)
  have : g' = g := gl_seg_unique w.segsDisjoint hg' hg (by rw [inSeg_iff]; omega) hgr rfl
  subst this
  unfold Seg.holds Seg.top
  simp only [Bool.and_eq_true, decide_eq_true_eq]
  omega


/-! ## `releaseLoop`, `release_unused_segments`, `trim_top`, `sys_trim`

`underflow:footprint` is not excluded by `SInv` (which reads `footprint` only while there is no segment): the
bookkeeping invariant `FpOk` is needed in addition. -/

theorem sp_segSum_append (a b : List Seg) : segSum (a ++ b) = segSum a + segSum b := by
  induction a with
  | nil => simp [segSum]
  | cons g gs ih => simp only [List.cons_append, segSum, ih]; omega

/-- `pref`: the segments already passed and kept (head segment first); the invariant holds of the state with segment list
`pref ++ rest`, and the footprint covers these segments, so the subtraction at a release cannot underflow -/
theorem sp_releaseLoop (rest : List Seg) : ∀ {s : St} {pref : List Seg} {rel n : Nat},
    pref ≠ [] → SInv { s with segs := pref ++ rest } → segSum (pref ++ rest) ≤ s.footprint →
    Prog (releaseLoop rest s rel n) := by
  induction rest with
  | nil =>
    intro s pref rel n _ _ _
    unfold releaseLoop
    exact prog_pure _
  | cons g rest ih =>
    intro s pref rel n hpref hi hfp
    have w := hi.wfs
    have happ : (pref ++ [g]) ++ rest = pref ++ g :: rest := by simp
    have hpref' : pref ++ [g] ≠ [] := by simp
    have hgm : g ∈ pref ++ g :: rest := by simp
    obtain ⟨hgb, _, hg80, hglim⟩ := sp_seg_facts w hgm
    have hp : align_as_chunk g.base = g.base := align_as_chunk_aligned g.base (by omega) (by omega)
    obtain ⟨e0, T, _, he0m, he0a, _⟩ := sg_tiles_first (w.struct.tiles_of hgm)
    have hfe0 : findEnt s.h.ents g.base = some e0 := by rw [← he0a]; exact entsOk_find e0 he0m w.ents
    -- `top` lies in the head segment, not in `g`
    have hnt : ¬ (g.base ≤ s.h.top ∧ s.h.top < g.base + g.size) := by
      obtain ⟨g0, pref', hpc⟩ : ∃ g0 pref', pref = g0 :: pref' := by
        cases pref with
        | nil => exact absurd rfl hpref
        | cons a l => exact ⟨a, l, rfl⟩
      subst hpc
      obtain ⟨g0', rest0, _, xt, _, _, hsegs0, _, hxta, _, _, _, _, _, _, hgb, hgt, _, _, _⟩ :=
        w.top_parts (w.topsize_ne hgm)
      have hg0eq : g0' = g0 := by
        change (g0 :: pref') ++ g :: rest = g0' :: rest0 at hsegs0
        simp only [List.cons_append, List.cons.injEq] at hsegs0
        exact hsegs0.1.symm
      subst hg0eq
      have := sg_disjoint_of_split (pref := g0' :: pref') (rest := rest) (g := g) w.segsDisjoint g0' (by simp)
      have hts := w.topsize_ne hgm
      change s.h.topsize ≠ 0 at hts
      change g0'.base ≤ s.h.top at hgb
      change s.h.top + s.h.topsize + 80 = _ at hgt
      omega
    have hsum : segSum (pref ++ g :: rest) = segSum (pref ++ rest) + g.size := by
      rw [sp_segSum_append, sp_segSum_append]; simp only [segSum]; omega
    unfold releaseLoop
    dsimp only
    rw [hp, top_foot_size_eq]
    refine Prog.bind_ok (getE_ok.2 hfe0) (Prog.bind_ok (failIf_false (by simp only [decide_eq_false_iff_not]; omega)) ?_)
    refine Prog.ite (fun hc => ?_) (fun _ => ?_)
    · simp only [Bool.and_eq_true, decide_eq_true_eq, ge_iff_le] at hc
      obtain ⟨hc1, hc2⟩ := hc
      have hfree := sg_not_inuse hc1
      have hholds := sp_nonhead_holds hi hgm hnt
      refine Prog.bind_ok (failIf_false (by rw [hholds]; rfl)) ?_
      have hrec : g.recAt ≠ 0 := by
        unfold Seg.holds at hholds
        simp only [Bool.and_eq_true, decide_eq_true_eq] at hholds
        omega
      -- the first chunk can be taken off the free lists
      refine Prog.bind (Total.prog (Total.ite (fun _ => total_pure _) (fun hndv => ?_))) ?_
      · have hin := binned_large (h := s.h) w.sbins (free_binned (s := { s with segs := pref ++ g :: rest }) w he0m hfree
          (by rw [he0a]; intro h; change g.base = s.h.top at h; exact hnt ⟨by omega, by omega⟩) (by rw [he0a]; exact hndv))
          (sizeAt_iff.2 ⟨e0, entsOk_find e0 he0m w.ents, rfl⟩) (by omega)
        rw [he0a] at hin
        exact unlink_large_chunk_progress (h := s.h) w.tbins hin
      intro h1 hh1
      obtain ⟨u1, u2, u3, u4, u5, u6, u7⟩ :=
        sg_release_unlink (V := { s with segs := pref ++ g :: rest }) hi (p := g.base) hh1 (by omega)
      refine Prog.bind (popU_prog _ _ _) ?_
      rintro ⟨ok, s1⟩ hu
      obtain ⟨q, hq, hs1⟩ := popU_spec hu
      subst hs1
      dsimp only
      refine Prog.ite (fun _ => ?_) (fun _ => ?_)
      · refine Prog.bind_ok (failIf_false ?_) (Prog.bind (ih (pref := pref) hpref ?_ ?_) (fun ⟨_, _, _, _⟩ _ => prog_pure _))
        · simp only [decide_eq_false_iff_not]
          change ¬ s.footprint < g.size
          omega
        · have key := fun V' a b c d e f g' h i =>
            (sg_release_seg (V := { s with segs := pref ++ g :: rest }) (V' := V') hi rfl hpref hrec hfe0 hfree
              (by omega) u1 u2 u4 u5 u6 u7 a b c d e f g' h i).1
          exact key _ (by show (dropEnts h1 g.base g.top).ents = _; unfold dropEnts; rw [u1]) rfl rfl rfl rfl u2 u3
            rfl rfl
        · show segSum (pref ++ rest) ≤ s.footprint - g.size
          omega
      · -- re-inserting the chunk into its tree bin
        refine Prog.bind (Total.prog (insert_large_total (tbinsOk_length u6))) ?_
        intro h2 hins
        have f := insert_large_chunk_frame hins
        have he2 : h2.ents = s.h.ents := by rw [f.1.ents, u1]
        refine Prog.bind (ih (pref := pref ++ [g]) hpref' ?_ ?_) (fun ⟨_, _, _, _⟩ _ => prog_pure _)
        · refine sg_sinv_bins (V := { s with segs := pref ++ g :: rest }) hi (by simp) he2 happ ?_ ?_ rfl ?_ ?_ ?_ ?_
          · show h2.top = s.h.top; rw [f.1.top, u2]
          · show h2.topsize = s.h.topsize; rw [f.1.topsize, u3]
          · refine sg_freeListOk_perm (h := s.h) (h' := h2.tag "segment-unmap-refused") he2 ?_ w.freeList
            exact (insert_large_chunk_freeList hins).trans u4.symm
          · show sbinsOk h2 = true
            rw [insert_large_chunk_sbinsOk hins]; exact u5
          · show tbinsOk h2 = true
            refine insert_large_chunk_tbinsOk hins (by omega) (by rw [u1]; exact mn_entsLt w w.struct) ?_ u6
            rw [u1, sizeAt_iff]; exact ⟨e0, hfe0, rfl⟩
          · show dvOk h2 = true
            unfold dvOk at u7 ⊢
            rw [f.1.dv, f.1.dvsize, f.1.ents]; exact u7
        · rw [happ]; exact hfp
    · refine Prog.bind (ih (pref := pref ++ [g]) hpref' ?_ ?_) (fun ⟨_, _, _, _⟩ _ => prog_pure _)
      · rw [happ]; exact hi
      · rw [happ]; exact hfp

/-- **`release_unused_segments` fails only by `os-desync:munmap`** -/
theorem sp_release_unused_segments_prog : release_unused_segments_Prog := by
  intro s hi hfp
  unfold release_unused_segments
  split
  · exact prog_pure _
  · rename_i hd rest hsegs
    refine Prog.bind (sp_releaseLoop rest (pref := [hd]) (by simp)
      (sg_sinv_same hi ⟨rfl, rfl, rfl, rfl, rfl, rfl, rfl⟩ (by simp [hsegs]) rfl (fun _ => rfl)) ?_)
      (fun ⟨_, _, _, _⟩ _ => prog_pure _)
    unfold FpOk at hfp
    rw [hfp, hsegs, segSum_eq_sum]
    simp

theorem sp_size_le_fp {s : St} (hfp : FpOk s) {g : Seg} (hg : g ∈ s.segs) : g.size ≤ s.footprint := by
  unfold FpOk at hfp
  rw [hfp, ← segSum_eq_sum]
  obtain ⟨a, b, hab⟩ := List.append_of_mem hg
  rw [hab, sp_segSum_append]
  simp only [segSum]; omega

theorem trim_release_prog (s : St) (sp : Seg) (extra : Nat) : Prog (trim_release s sp extra) := by
  unfold trim_release
  dsimp only
  refine Prog.ite (fun _ => Prog.bind (popR_prog _ _ _ _) ?_) (fun _ => prog_pure _)
  rintro ⟨ok, s1⟩ _
  dsimp only
  exact Prog.ite (fun _ => prog_pure _) (fun _ => Prog.bind (popU_prog _ _ _) (fun ⟨_, _⟩ _ => prog_pure _))

/-- **`trim_top` fails only by `os-desync:mremap/munmap`** -/
theorem sp_trim_top_prog {s : St} (hi : SInv s) (hfp : FpOk s) {pad : Nat} : Prog (trim_top s pad) := by
  have w := hi.wfs
  unfold trim_top
  dsimp only
  refine Prog.ite (fun hgt0 => ?_) (fun _ => prog_pure _)
  have hts0 : s.h.topsize ≠ 0 := by omega
  obtain ⟨g0, rest, _, _, _, _, hsegs, _, _, _, _, _, _, _, _, hgb, hgt, htn, _, _⟩ := w.top_parts hts0
  rw [sp_holding_head hsegs hgb (by omega)]
  dsimp only
  refine Prog.bind (trim_release_prog _ _ _) ?_
  rintro ⟨s1, r1⟩ ht
  obtain ⟨⟨q1, ev1, hs1⟩, hrel⟩ := sg_trim_release_eq ht
  obtain ⟨_, _, _, _, _, hle⟩ := trim_release_spec ht
  subst hs1
  dsimp only
  refine Prog.ite (fun hne => ?_) (fun _ => prog_pure _)
  have hr1 : r1 = ((s.h.topsize - pad + DEFAULT_GRANULARITY - 1) / DEFAULT_GRANULARITY - 1) * DEFAULT_GRANULARITY :=
    hrel.resolve_right hne
  obtain ⟨x1, x2⟩ := sg_trim_extra hgt0
  rw [← hr1] at x1 x2
  have hg0fp := sp_size_le_fp hfp (show g0 ∈ s.segs by rw [hsegs]; exact List.mem_cons_self)
  refine Prog.bind_ok (failIf_false ?_) ?_
  · simp only [decide_eq_false_iff_not]
    have := hle hne
    change ¬ s.footprint < r1
    omega
  · obtain ⟨a, _, c⟩ := sp_top_facts w htn
    refine Prog.bind (Total.prog (init_top_total a ?_ ?_)) (fun _ _ => prog_pure _)
    · show s.h.top + 32 ≤ _; omega
    · exact mod16_mod8 (mod16_sub (topsize_mod16 w) (by omega))

/-- **`sys_trim` fails only by `os-desync:mremap/munmap`** -/
theorem sp_sys_trim_prog : sys_trim_Prog := by
  intro s hi hfp pad
  unfold sys_trim
  dsimp only
  refine Prog.ite (fun _ => Prog.bind (sp_trim_top_prog hi hfp) ?_) (fun _ => prog_pure _)
  rintro ⟨s1, r1⟩ h1
  exact Prog.bind (sp_release_unused_segments_prog (sg_trim_top hi h1).1 (hfp.of_book (trim_top_book h1)))
    (fun ⟨_, _⟩ _ => prog_pure _)

/-! ## why `FpOk` is needed, and non-vacuity -/

def spErrIs {α : Type} (x : M α) (m : String) : Bool :=
  match x with
  | .error e => e == m
  | .ok _ => false

theorem sp_errIs {α : Type} {x : M α} {m : String} (h : spErrIs x m = true) : x = .error m := by
  unfold spErrIs at h
  split at h
  · rw [beq_iff_eq.1 h]
  · cases h

def spIsOk {α : Type} (x : M α) : Bool :=
  match x with
  | .error _ => false
  | .ok _ => true

theorem sp_isOk {α : Type} {x : M α} (h : spIsOk x = true) : Total x := by
  unfold spIsOk at h
  split at h
  · cases h
  · rename_i r; exact ⟨r, rfl⟩

/-- the reachable two-segment state of `sgOpsTwo` with the footprint counter zeroed: still `SInv` (which reads
`footprint` only while there is no segment) -/
def spBadFp : St := { sgStart sgOpsTwo [.u true] with footprint := 0 }

set_option maxRecDepth 100000 in
/-- **`SInv` alone does not exclude `underflow:footprint`**: the kernel-checked reason for the extra hypothesis
`FpOk` of `release_unused_segments_Prog` / `sys_trim_Prog` -/
theorem sp_fpOk_needed : SInv spBadFp ∧ ¬ FpOk spBadFp ∧
    release_unused_segments spBadFp = .error "underflow:footprint" := by
  refine ⟨sg_sinv_same (sg_start_sinv (ops := sgOpsTwo) (by decide) [.u true]) ⟨rfl, rfl, rfl, rfl, rfl, rfl, rfl⟩ rfl rfl
    (fun h => by revert h; decide), by unfold FpOk; decide, sp_errIs (by decide)⟩

set_option maxRecDepth 100000 in
/-- the hypotheses of the progress theorems hold on reachable states (`FpOk` included) and there the calls
succeed; a wrong kind of OS answer is the one way to fail -/
example :
    FpOk (sgStart sgOpsTwo [.u true]) ∧ SInv (sgStart sgOpsTwo [.u true]) ∧
    Total (release_unused_segments (sgStart sgOpsTwo [.u true])) ∧
    release_unused_segments (sgStart sgOpsTwo [.r true]) = .error "os-desync:munmap" ∧
    sys_alloc (sgStart [] []) 112 = .error "os-desync:mmap" :=
  ⟨by unfold FpOk; decide, sg_start_sinv (by decide) _, sp_isOk (by decide), sp_errIs (by decide), sp_errIs (by decide)⟩

end TinyVerif.Dl
