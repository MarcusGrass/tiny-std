import TinyVerif.Proofs.IoLemmas
/-! Lemmas for the print path of C15: `tryPrint`, `printFmt`, `printMacro`, `printSeq` (Model/Io.lean, mirror of
tiny-std/src/unix/print.rs).  The specification side talks about the *consumed* part of the kernel's response script
only: `pos` = the kernel took a positive number of bytes (a short or full write), `isZero` = it returned 0,
`isErr` = it returned an error (EINTR included: `try_print` does not retry). -/
namespace TinyVerif.Io

def WResp.pos : WResp → Bool
  | .accept k => k != 0
  | _ => false

def WResp.isZero : WResp → Bool
  | .accept k => k == 0
  | _ => false

def WResp.isErr : WResp → Bool
  | .accept _ => false
  | _ => true

/-- a call of `write`: the size of the buffer offered and the kernel's answer -/
abbrev Call2 := Nat × WResp

/-- the kernel answered `0` although it was offered a non-empty buffer -/
def badZero (c : Call2) : Bool := c.2.isZero && c.1 != 0

/-- a call whose answer makes `try_print` give up with `fmt::Error`: an error (EINTR included), or `0` although a
non-empty buffer was offered (`0` for the zero-length write of an empty piece is the normal answer) -/
def failing (c : Call2) : Bool := c.2.isErr || badZero c

theorem failing_accept (n k : Nat) : failing (n, .accept k) = (k == 0 && n != 0) := rfl

/-- the calls that consumed a script element: offered size (from the model's log) paired with the answer -/
def WOut.calls (o : WOut) (script : List WResp) : List Call2 := o.log.zip (script.take o.used)

theorem zip_append_short {α β : Type} : ∀ (l1 l2 : List α) (s : List β), s.length ≤ l1.length → (l1 ++ l2).zip s = l1.zip s := by
  intro l1
  induction l1 with
  | nil => intro l2 s h; cases s <;> simp_all
  | cons a l1 ih =>
    intro l2 s h
    cases s with
    | nil => simp
    | cons b s => simp only [List.cons_append, List.zip_cons_cons]; rw [ih l2 s (by simpa using h)]

/-- the calls of a run followed by a second run on the rest of the script -/
theorem zip_after (l1 l2 : List Nat) (script : List WResp) (u1 u2 : Nat)
    (h : l1.length = u1 ∨ (script.drop u1 = [] ∧ u1 ≤ l1.length)) (hu1 : u1 ≤ script.length)
    (hu2 : u2 ≤ (script.drop u1).length) :
    (l1 ++ l2).zip (script.take (u1 + u2)) = l1.zip (script.take u1) ++ l2.zip ((script.drop u1).take u2) := by
  rcases h with h | ⟨h, h'⟩
  · rw [List.take_add]
    exact List.zip_append (by simp [h, Nat.min_eq_left hu1])
  · have : u2 = 0 := by rw [h] at hu2; simpa using hu2
    subst this
    simp only [Nat.add_zero, List.take_zero, List.zip_nil_right, List.append_nil]
    exact zip_append_short l1 l2 _ (by simp; omega)

theorem pos_not_failing {c : Call2} (h : c.2.pos = true) : failing c = false := by
  obtain ⟨n, r⟩ := c
  cases r <;> simp_all [failing, badZero, WResp.pos, WResp.isZero, WResp.isErr]

theorem pos_calls_ok {l : List Nat} {s : List WResp} (h : ∀ r ∈ s, r.pos = true) : ∀ c ∈ l.zip s, failing c = false := by
  intro c hc
  exact pos_not_failing (h c.2 (List.of_mem_zip hc).2)

theorem WResp.pos_not_zero {r : WResp} (h : r.pos = true) : r.isZero = false := by
  cases r <;> simp_all [WResp.pos, WResp.isZero]

theorem WResp.pos_not_err {r : WResp} (h : r.pos = true) : r.isErr = false := by
  cases r <;> simp_all [WResp.pos, WResp.isErr]

/-- what one `try_print(fd, data)` guarantees against the script `script` -/
structure PSpec (data : List Nat) (script : List WResp) (o : WOut) : Prop where
  /-- the descriptor received a prefix of the piece, in order, each byte once -/
  pre : o.sink = data.take o.sink.length
  rest : o.rest = script.drop o.used
  usedLe : o.used ≤ script.length
  noPanic : o.res = .ok () ∨ o.res = .err .formatter
  /-- every call but those past the end of the script consumed one answer -/
  logLen : o.log.length = o.used ∨ (o.rest = [] ∧ o.used ≤ o.log.length)
  /-- `Ok` means everything was delivered -/
  complete : o.res = .ok () → o.sink = data
  /-- `Ok` only if no call failed -/
  okCalls : o.res = .ok () → ∀ c ∈ o.calls script, failing c = false
  /-- `Err` exactly when the last call failed (an error, or `0` for a non-empty rest); all answers before it were
  positive counts, and no `write` is issued after it -/
  err : ∀ e, o.res = .err e → o.log.length = o.used ∧
    ∃ p c, o.calls script = p ++ [c] ∧ failing c = true ∧ ∀ x ∈ p, x.2.pos = true

theorem PSpec.one_call {data : List Nat} {r : WResp} {rest : List WResp} {res : Res Unit} {sink : List Nat}
    (h : (res = .ok () ∧ sink = data ∧ failing (data.length, r) = false) ∨
         (res = .err .formatter ∧ sink = [] ∧ failing (data.length, r) = true)) :
    PSpec data (r :: rest) ⟨res, sink, rest, [data.length], 1⟩ := by
  rcases h with ⟨rfl, rfl, hf⟩ | ⟨rfl, rfl, hf⟩
  · exact ⟨by simp, rfl, by simp, .inl rfl, .inl rfl, fun _ => rfl, by simp [WOut.calls, hf], by simp⟩
  · exact ⟨by simp, rfl, by simp, .inr rfl, .inl rfl, by simp, by simp,
      fun _ _ => ⟨rfl, [], (data.length, r), by simp [WOut.calls], hf, by simp⟩⟩

theorem tryPrint_spec : ∀ (script : List WResp) (data : List Nat), PSpec data script (tryPrint data script) := by
  intro script
  induction script with
  | nil =>
    intro data
    exact ⟨by simp [tryPrint], rfl, by simp [tryPrint], .inl rfl, .inr ⟨rfl, by simp [tryPrint]⟩, fun _ => rfl,
      by simp [tryPrint, WOut.calls], by simp [tryPrint]⟩
  | cons r rest ih =>
    intro data
    cases r with
    | accept k =>
      by_cases hz : k = 0
      · subst hz
        by_cases hd : data.length = 0
        · obtain rfl := List.eq_nil_of_length_eq_zero hd
          exact PSpec.one_call (.inl ⟨rfl, rfl, by simp [failing_accept]⟩)
        · rw [show tryPrint data (.accept 0 :: rest) = ⟨.err .formatter, [], rest, [data.length], 1⟩ by simp [tryPrint, hd]]
          exact PSpec.one_call (.inr ⟨rfl, rfl, by simp [failing_accept, hd]⟩)
      · by_cases hk : data.length ≤ k
        · rw [show tryPrint data (.accept k :: rest) = ⟨.ok (), data, rest, [data.length], 1⟩ by simp [tryPrint, hz, hk]]
          exact PSpec.one_call (.inl ⟨rfl, rfl, by simp [failing_accept, hz]⟩)
        · have e1 : tryPrint data (.accept k :: rest) = (tryPrint (data.drop k) rest).push (data.take k) data.length := by
            simp [tryPrint, hz, hk]
          have hk' : k < data.length := by omega
          obtain ⟨i1, i2, i3, i4, i7, i5, i8, i6⟩ := ih (data.drop k)
          rw [e1]
          refine ⟨?_, ?_, ?_, ?_, ?_, ?_, ?_, ?_⟩
          · simp only [WOut.push, List.length_append, List.length_take, Nat.min_eq_left (Nat.le_of_lt hk')]
            rw [List.take_add]
            congr 1
          · simpa [WOut.push] using i2
          · simp only [WOut.push, List.length_cons]; omega
          · simpa [WOut.push] using i4
          · simp only [WOut.push, List.length_cons]
            rcases i7 with h | ⟨h, h'⟩
            · left; omega
            · right; exact ⟨h, by omega⟩
          · intro hok
            simp only [WOut.push] at hok ⊢
            rw [i5 hok, List.take_append_drop]
          · intro hok c hc
            simp only [WOut.push, WOut.calls, List.take_succ_cons, List.zip_cons_cons, List.mem_cons] at hok hc
            rcases hc with rfl | hc
            · simp [failing_accept, hz]
            · exact i8 hok c hc
          · intro e he
            simp only [WOut.push] at he
            obtain ⟨j0, p, c, j1, j2, j3⟩ := i6 e he
            refine ⟨by simp only [WOut.push, List.length_cons]; omega, (data.length, .accept k) :: p, c, ?_, j2, ?_⟩
            · simp only [WOut.calls] at j1
              simp [WOut.push, WOut.calls, j1]
            · intro x hx
              rcases List.mem_cons.1 hx with rfl | hx
              · simp [WResp.pos, hz]
              · exact j3 x hx
    | _ => exact PSpec.one_call (.inr ⟨rfl, rfl, rfl⟩)

/-- the result is decided by the calls: `Ok` exactly when no call failed -/
theorem ok_iff_calls {o : WOut} {script : List WResp} (np : o.res = .ok () ∨ o.res = .err .formatter)
    (okc : o.res = .ok () → ∀ c ∈ o.calls script, failing c = false)
    (er : o.res = .err .formatter → ∃ p c, o.calls script = p ++ [c] ∧ failing c = true) :
    o.res = .ok () ↔ ∀ c ∈ o.calls script, failing c = false := by
  refine ⟨okc, fun h => np.resolve_right fun h1 => ?_⟩
  obtain ⟨p, c, j1, j2⟩ := er h1
  rw [h c (by rw [j1]; simp)] at j2
  cases j2

theorem PSpec.ok_iff {data : List Nat} {script : List WResp} {o : WOut} (s : PSpec data script o) :
    o.res = .ok () ↔ ∀ c ∈ o.calls script, failing c = false :=
  ok_iff_calls s.noPanic s.okCalls fun h => let ⟨_, p, c, j1, j2, _⟩ := s.err _ h; ⟨p, c, j1, j2⟩

/-- short writes only (every consumed answer a positive count) ⇒ `Ok` and the whole piece delivered -/
theorem tryPrint_short_writes (data : List Nat) (script : List WResp)
    (h : ∀ r ∈ script.take (tryPrint data script).used, r.pos = true) :
    (tryPrint data script).res = .ok () ∧ (tryPrint data script).sink = data := by
  have s := tryPrint_spec script data
  have hok : (tryPrint data script).res = .ok () := s.ok_iff.2 (pos_calls_ok h)
  exact ⟨hok, s.complete hok⟩

/-- the bookkeeping every run on a script satisfies: what is left of the script, and that the log pairs up with
the consumed answers -/
structure Str (script : List WResp) (o : WOut) : Prop where
  rest : o.rest = script.drop o.used
  usedLe : o.used ≤ script.length
  logLen : o.log.length = o.used ∨ (o.rest = [] ∧ o.used ≤ o.log.length)

theorem PSpec.str {data : List Nat} {script : List WResp} {o : WOut} (s : PSpec data script o) : Str script o :=
  ⟨s.rest, s.usedLe, s.logLen⟩

/-- what `fmt::write` into the `__UnixWriter` guarantees for the pieces `bss` -/
structure FSpec (bss : List (List Nat)) (script : List WResp) (o : WOut) : Prop where
  rest : o.rest = script.drop o.used
  usedLe : o.used ≤ script.length
  noPanic : o.res = .ok () ∨ o.res = .err .formatter
  logLen : o.log.length = o.used ∨ (o.rest = [] ∧ o.used ≤ o.log.length)
  /-- in order, each byte once, no hole -/
  pre : o.sink = bss.flatten.take o.sink.length
  /-- `Ok` means the whole rendering was delivered -/
  complete : o.res = .ok () → o.sink = bss.flatten
  /-- `Ok` only if no call failed -/
  okCalls : o.res = .ok () → ∀ c ∈ o.calls script, failing c = false
  /-- `Err` exactly when a call failed; that call is the first failing one and the LAST call made: neither the rest
  of its piece nor any later piece is written -/
  err : ∀ e, o.res = .err e → o.log.length = o.used ∧
    ∃ p c, o.calls script = p ++ [c] ∧ failing c = true ∧ ∀ x ∈ p, failing x = false

theorem FSpec.str {bss : List (List Nat)} {script : List WResp} {o : WOut} (s : FSpec bss script o) : Str script o :=
  ⟨s.rest, s.usedLe, s.logLen⟩

theorem FSpec.ok_iff {bss : List (List Nat)} {script : List WResp} {o : WOut} (s : FSpec bss script o) :
    o.res = .ok () ↔ ∀ c ∈ o.calls script, failing c = false :=
  ok_iff_calls s.noPanic s.okCalls fun h => let ⟨_, p, c, j1, j2, _⟩ := s.err _ h; ⟨p, c, j1, j2⟩

/-- a run followed by a second run on the rest of the script -/
theorem Str.after {script : List WResp} {o1 o2 : WOut} (h1 : Str script o1) (h2 : Str o1.rest o2) :
    Str script (o1.after o2) := by
  have hu1 := h1.usedLe
  have hu2 := h2.usedLe
  have h3 : o1.rest.length = script.length - o1.used := by rw [h1.rest]; simp
  refine ⟨?_, by simp only [WOut.after]; omega, ?_⟩
  · simp only [WOut.after]
    rw [h2.rest, h1.rest, List.drop_drop]
  · simp only [WOut.after, List.length_append]
    rcases h1.logLen with a | ⟨a, a'⟩
    · rcases h2.logLen with b | ⟨b, b'⟩
      · left; omega
      · right; exact ⟨b, by omega⟩
    · -- the first run exhausted the script: the second consumed nothing
      have : o2.used = 0 := by rw [a] at hu2; simpa using hu2
      right
      exact ⟨by rw [h2.rest, a]; simp, by rcases h2.logLen with b | ⟨_, b'⟩ <;> omega⟩

theorem Str.calls_after {script : List WResp} {o1 o2 : WOut} (h1 : Str script o1) (h2 : Str o1.rest o2) :
    (o1.after o2).calls script = o1.calls script ++ o2.calls o1.rest := by
  have hu2 := h2.usedLe
  have hl := h1.logLen
  simp only [WOut.calls, WOut.after]
  rw [h1.rest] at hu2 hl ⊢
  exact zip_after o1.log o2.log script o1.used o2.used hl h1.usedLe hu2

/-- the second run consumed something only if the log of the first pairs up exactly with what it consumed -/
theorem Str.log_exact_of_next {script : List WResp} {o1 : WOut} (h1 : Str script o1) {u2 : Nat}
    (hu : u2 ≤ o1.rest.length) (hpos : 0 < u2) : o1.log.length = o1.used := by
  rcases h1.logLen with h | ⟨h, _⟩
  · exact h
  · rw [h] at hu; simp at hu; omega

theorem printFmt_spec : ∀ (bss : List (List Nat)) (script : List WResp),
    FSpec bss script (printFmt (bss.map .str) script) := by
  intro bss
  induction bss with
  | nil =>
    intro script
    exact ⟨by simp [printFmt], by simp [printFmt], by simp [printFmt], by simp [printFmt], by simp [printFmt],
      by simp [printFmt], by simp [printFmt, WOut.calls], by simp [printFmt]⟩
  | cons bs more ih =>
    intro script
    have s := tryPrint_spec script bs
    simp only [List.map_cons, printFmt]
    cases h1 : (tryPrint bs script).res with
    | panic site => rcases s.noPanic with h | h <;> rw [h1] at h <;> cases h
    | err e =>
      simp only []
      refine ⟨s.rest, s.usedLe, s.noPanic, s.logLen, ?_, ?_, ?_, ?_⟩
      · have hl : (tryPrint bs script).sink.length ≤ bs.length := by
          have := congrArg List.length s.pre
          simp only [List.length_take] at this
          omega
        rw [List.flatten_cons, List.take_append_of_le_length hl]
        exact s.pre
      · intro h; rw [h1] at h; cases h
      · intro h; rw [h1] at h; cases h
      · intro e' _
        obtain ⟨j0, p, c, j1, j2, j3⟩ := s.err e h1
        exact ⟨j0, p, c, j1, j2, fun x hx => pos_not_failing (j3 x hx)⟩
    | ok u =>
      simp only []
      have t := ih (tryPrint bs script).rest
      have hok : (tryPrint bs script).res = .ok () := by rw [h1]
      have st := Str.after s.str t.str
      have hc := Str.calls_after s.str t.str
      refine ⟨st.rest, st.usedLe, ?_, st.logLen, ?_, ?_, ?_, ?_⟩
      · simpa [WOut.after] using t.noPanic
      · simp only [WOut.after]
        rw [s.complete hok, List.flatten_cons, List.length_append, List.take_length_add_append, ← t.pre]
      · intro hok2
        simp only [WOut.after] at hok2 ⊢
        rw [s.complete hok, t.complete hok2, List.flatten_cons]
      · intro hok2 c hx
        rw [hc] at hx
        simp only [WOut.after] at hok2
        rcases List.mem_append.1 hx with hx | hx
        · exact s.okCalls hok c hx
        · exact t.okCalls hok2 c hx
      · intro e he
        simp only [WOut.after] at he
        obtain ⟨j0, p, c, j1, j2, j3⟩ := t.err e he
        have hpos : 0 < (printFmt (more.map .str) (tryPrint bs script).rest).used := by
          have := congrArg List.length j1
          simp only [WOut.calls, List.length_zip, List.length_take, List.length_append, List.length_cons,
            List.length_nil] at this
          omega
        have hl := s.str.log_exact_of_next t.usedLe hpos
        refine ⟨by simp only [WOut.after, List.length_append]; omega,
          (tryPrint bs script).calls script ++ p, c, ?_, j2, ?_⟩
        · rw [hc, j1, List.append_assoc]
        · intro x hx
          rcases List.mem_append.1 hx with hx | hx
          · exact s.okCalls hok x hx
          · exact j3 x hx

/-- short writes only ⇒ `Ok` and the whole rendering delivered, in order -/
theorem printFmt_short_writes (bss : List (List Nat)) (script : List WResp)
    (h : ∀ r ∈ script.take (printFmt (bss.map .str) script).used, r.pos = true) :
    (printFmt (bss.map .str) script).res = .ok () ∧ (printFmt (bss.map .str) script).sink = bss.flatten := by
  have s := printFmt_spec bss script
  have hok : (printFmt (bss.map .str) script).res = .ok () := s.ok_iff.2 (pos_calls_ok h)
  exact ⟨hok, s.complete hok⟩

/-- the newline the `ln` forms add -/
def nlOf (ln : Bool) : List Nat := if ln then NL else []

/-- what `__write_newline` gets onto the descriptor, as a function of the next kernel answer: the newline if the
answer is a positive count (or the script is exhausted), nothing if it is `0` or an error -/
def nlPart : List WResp → List Nat
  | [] => NL
  | r :: _ => if r.pos then NL else []

/-- `try_print("\n")`: exactly one `write` of one byte, whatever the answer -/
theorem tryPrint_nl (script : List WResp) :
    (tryPrint NL script).sink = nlPart script ∧ (tryPrint NL script).log = [1] ∧
    (tryPrint NL script).used = min 1 script.length ∧
    ((tryPrint NL script).res = .ok () ↔ nlPart script = NL) := by
  cases script with
  | nil => simp [tryPrint, nlPart]
  | cons r rest =>
    cases r with
    | accept k =>
      by_cases hz : k = 0
      · subst hz; simp [tryPrint, nlPart, WResp.pos]
      · have hk : 1 ≤ k := by omega
        simp [tryPrint, nlPart, WResp.pos, hz, hk]
    | eintr => simp [tryPrint, nlPart, WResp.pos]
    | err e => simp [tryPrint, nlPart, WResp.pos]
    | uerr => simp [tryPrint, nlPart, WResp.pos]

theorem printMacro_str (ln : Bool) (bss : List (List Nat)) (script : List WResp) :
    Str script (printMacro ln (bss.map .str) script) := by
  have s := printFmt_spec bss script
  unfold printMacro
  cases ln with
  | false => simpa using s.str
  | true =>
    simp only [if_true]
    exact Str.after s.str (tryPrint_spec (printFmt (bss.map .str) script).rest NL).str

theorem printMacro_rest (ln : Bool) (bss : List (List Nat)) (script : List WResp) :
    (printMacro ln (bss.map .str) script).rest = script.drop (printMacro ln (bss.map .str) script).used :=
  (printMacro_str ln bss script).rest

theorem printMacro_used_true (bss : List (List Nat)) (script : List WResp) :
    script.take (printMacro true (bss.map .str) script).used =
      script.take (printFmt (bss.map .str) script).used ++
        ((printFmt (bss.map .str) script).rest).take (tryPrint NL (printFmt (bss.map .str) script).rest).used := by
  have s := printFmt_spec bss script
  simp only [printMacro, if_true, WOut.after]
  rw [s.rest]; exact List.take_add

/-- no failing call (no error, no `0` for a non-empty buffer) ⇒ the whole message and its newline, in order, each
byte once -/
theorem printMacro_complete (ln : Bool) (bss : List (List Nat)) (script : List WResp)
    (h : ∀ c ∈ (printMacro ln (bss.map .str) script).calls script, failing c = false) :
    (printMacro ln (bss.map .str) script).sink = bss.flatten ++ nlOf ln := by
  have s := printFmt_spec bss script
  cases ln with
  | false =>
    simp only [printMacro] at h ⊢
    simpa [nlOf] using s.complete (s.ok_iff.2 h)
  | true =>
    have t := tryPrint_spec (printFmt (bss.map .str) script).rest NL
    simp only [printMacro, if_true] at h
    rw [Str.calls_after s.str t.str] at h
    have a := s.complete (s.ok_iff.2 fun c hc => h c (List.mem_append_left _ hc))
    have b := t.complete (t.ok_iff.2 fun c hc => h c (List.mem_append_right _ hc))
    simp only [printMacro, if_true, WOut.after, nlOf]
    rw [a, b]

/-- the rendering of a sequence of macro expansions -/
def seqRender : List (Bool × List (List Nat)) → List Nat
  | [] => []
  | (ln, bss) :: more => bss.flatten ++ nlOf ln ++ seqRender more

def seqItems (ms : List (Bool × List (List Nat))) : List (Bool × List FmtItem) :=
  ms.map fun m => (m.1, m.2.map .str)

theorem printSeq_str : ∀ (ms : List (Bool × List (List Nat))) (script : List WResp),
    Str script (printSeq (seqItems ms) script) := by
  intro ms
  induction ms with
  | nil => intro script; exact ⟨by simp [printSeq, seqItems], by simp [printSeq, seqItems], by simp [printSeq, seqItems]⟩
  | cons m more ih =>
    intro script
    obtain ⟨ln, bss⟩ := m
    simp only [seqItems, List.map_cons, printSeq]
    exact Str.after (printMacro_str ln bss script) (ih _)

end TinyVerif.Io
