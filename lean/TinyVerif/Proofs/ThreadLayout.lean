/- layout arithmetic of the shared block `Tsm` (spawn.rs `padding` / `push_aligned` / `layout_thread_shared_memory`) -/
import TinyVerif.Model.Thread
namespace TinyVerif.Thread

theorem padding_spec (b a : Nat) (ha : 0 < a) : ∃ p, padding b a = some p ∧ p < a ∧ (b + p) % a = 0 := by
  unfold padding
  have ha' : a ≠ 0 := by omega
  simp only [ha', if_false]
  by_cases h : b % a = 0
  · simp only [h, if_true]
    exact ⟨0, rfl, ha, by simpa using h⟩
  · simp only [h, if_false]
    refine ⟨a - b % a, rfl, by omega, ?_⟩
    have h1 := Nat.div_add_mod b a
    have h2 := Nat.mod_lt b ha
    have h3 : b + (a - b % a) = a * (b / a + 1) := by
      rw [Nat.mul_add, Nat.mul_one]; omega
    rw [h3]; exact Nat.mul_mod_right a _

theorem head_layout : headLayout = some ⟨24, 8⟩ := by decide
theorem futex_offset : futexOffset = some 4 := by decide
theorem self_sz_offset : selfSzOffset = some 8 := by decide
theorem self_align_offset : selfAlignOffset = some 16 := by decide

theorem uadd_some (a b : Nat) (h : a + b < USIZE) : uadd a b = some (a + b) := by
  simp [uadd, h]

theorem max8_pow (k : Nat) : max 8 (2 ^ k) = 2 ^ max 3 k := by
  rcases Nat.le_total k 3 with h | h
  · rw [Nat.max_eq_left h, Nat.max_eq_left (Nat.pow_le_pow_right (by decide) h : 2 ^ k ≤ 2 ^ 3)]
  · rw [Nat.max_eq_right h, Nat.max_eq_right (Nat.pow_le_pow_right (by decide) h : 2 ^ 3 ≤ 2 ^ k)]

theorem mod_of_dvd_mod (x a m : Nat) (hd : a ∣ m) (hx : x % m = 0) : x % a = 0 := by
  have : m ∣ x := Nat.dvd_of_mod_eq_zero hx
  exact Nat.mod_eq_zero_of_dvd (Nat.dvd_trans hd this)

theorem add_mod_zero (x y a : Nat) (hx : x % a = 0) (hy : y % a = 0) : (x + y) % a = 0 := by
  rw [Nat.add_mod, hx, hy]; simp

/-- what `Tsm::init`, `get_futex`, `get_layout`, `value_mut`, `dealloc` rely on, for every result type -/
structure LayoutOk (vSize vAlign : Nat) (L : Layout) (voff : Nat) : Prop where
  futexAt : futexOffset = some 4
  szAt : selfSzOffset = some 8
  alAt : selfAlignOffset = some 16
  after : 24 ≤ voff                      -- the value starts after flag [0,1), futex [4,8), size [8,16), align [16,24)
  inside : voff + vSize ≤ L.size         -- and ends inside the block
  tight : voff < 24 + vAlign             -- no more padding than the alignment demands
  valAligned : voff % vAlign = 0
  alignIs : L.align = max 8 vAlign
  sizeMult : L.size % L.align = 0
  abs : ∀ base, base % L.align = 0 →
    (base + 4) % 4 = 0 ∧ (base + 8) % 8 = 0 ∧ (base + 16) % 8 = 0 ∧ (base + voff) % vAlign = 0

end TinyVerif.Thread
