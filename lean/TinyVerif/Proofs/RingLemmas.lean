/-
Helper lemmas for C17: masked indexing of a free-running u32 counter, distinctness of the slots
of a window shorter than the ring, and the "ring memory holds this list" predicate `Good`.
-/
import TinyVerif.Model.Ring
namespace TinyVerif.Ring

/-- slot (index into the entry array) of free-running position `p` in a ring of `2^k` entries with
index shift `sh` (1 for 128-byte SQEs / 32-byte CQEs) -/
def slotOf (k sh p : Nat) : Nat := (p % 2 ^ k) * 2 ^ sh

theorem W_eq : W = 2 ^ 32 := by decide

/-- ring sizes stay below 2^30 (the kernel's limits are 2^15 / 2^16 entries): with the index shift a slot is below 2^32 -/
theorem two_pow_le_30 {k : Nat} (hk : k ≤ 30) : 2 ^ k ≤ 1073741824 := by
  have : 2 ^ k ≤ 2 ^ 30 := Nat.pow_le_pow_right (by decide) hk
  simpa using this

theorem two_pow_sh {sh : Nat} (hsh : sh ≤ 1) : 2 ^ sh ≤ 2 := by
  have : 2 ^ sh ≤ 2 ^ 1 := Nat.pow_le_pow_right (by decide) hsh
  simpa using this

/-- the code's `(counter & ring_mask) << shift` is the slot of the unbounded position -/
theorem index_eq (k sh p : Nat) (hk : k ≤ 30) (hsh : sh ≤ 1) :
    index (p % W) (2 ^ k - 1) sh = slotOf k sh p := by
  unfold index slotOf
  rw [Nat.and_two_pow_sub_one_eq_mod, Nat.shiftLeft_eq]
  have hd : 2 ^ k ∣ W := by rw [W_eq]; exact Nat.pow_dvd_pow 2 (by omega)
  rw [Nat.mod_mod_of_dvd _ hd]
  apply Nat.mod_eq_of_lt
  have h1 : p % 2 ^ k < 2 ^ k := Nat.mod_lt _ (Nat.two_pow_pos k)
  have h2 := two_pow_le_30 hk
  have h3 := two_pow_sh hsh
  have : p % 2 ^ k * 2 ^ sh ≤ 1073741824 * 2 := Nat.mul_le_mul (by omega) h3
  show p % 2 ^ k * 2 ^ sh < 4294967296
  omega

theorem slotOf_lt (k sh p : Nat) : slotOf k sh p < 2 ^ k * 2 ^ sh := by
  unfold slotOf
  exact Nat.mul_lt_mul_of_pos_right (Nat.mod_lt _ (Nat.two_pow_pos k)) (Nat.two_pow_pos sh)

/-- two positions less than a ring apart never share a slot -/
theorem slotOf_ne (k sh a b : Nat) (hab : a < b) (hd : b - a < 2 ^ k) :
    slotOf k sh a ≠ slotOf k sh b := by
  unfold slotOf
  intro h
  have h' : a % 2 ^ k = b % 2 ^ k := Nat.eq_of_mul_eq_mul_right (Nat.two_pow_pos sh) h
  have h0 := Nat.sub_mod_eq_zero_of_mod_eq h'.symm
  rw [Nat.mod_eq_of_lt hd] at h0
  omega

/-- the entry array `mem` holds exactly the entries `l` at consecutive positions from `b` -/
def Good (k sh : Nat) (mem : Nat → Nat) : Nat → List Ent → Prop
  | _, [] => True
  | b, e :: l => e.slot = slotOf k sh b ∧ mem e.slot = e.val ∧ Good k sh mem (b + 1) l

theorem good_push (k sh : Nat) (mem : Nat → Nat) (v : Nat) :
    ∀ (l : List Ent) (b : Nat), Good k sh mem b l → l.length < 2 ^ k →
      Good k sh (upd mem (slotOf k sh (b + l.length)) v) b
        (l ++ [⟨slotOf k sh (b + l.length), v⟩]) := by
  intro l
  induction l with
  | nil =>
    intro b _ _
    simp [Good, upd]
  | cons e l ih =>
    intro b hg hl
    obtain ⟨h1, h2, h3⟩ := hg
    simp only [List.length_cons] at hl
    have hne : slotOf k sh b ≠ slotOf k sh (b + (l.length + 1)) :=
      slotOf_ne k sh b (b + (l.length + 1)) (by omega) (by omega)
    have ih' := ih (b + 1) h3 (by omega)
    have e1 : b + 1 + l.length = b + (l.length + 1) := by omega
    rw [e1] at ih'
    simp only [List.cons_append, Good, List.length_cons]
    refine ⟨h1, ?_, ih'⟩
    simp only [upd]
    rw [if_neg (by rw [h1]; exact hne)]
    exact h2

theorem good_mem (k sh : Nat) (mem : Nat → Nat) :
    ∀ (l : List Ent) (b : Nat), Good k sh mem b l → ∀ e, e ∈ l →
      ∃ j, j < l.length ∧ e.slot = slotOf k sh (b + j) := by
  intro l
  induction l with
  | nil => intro b _ e he; cases he
  | cons x l ih =>
    intro b hg e he
    obtain ⟨h1, _, h3⟩ := hg
    rcases List.mem_cons.mp he with rfl | hm
    · exact ⟨0, by simp, by simpa using h1⟩
    · obtain ⟨j, hj, hs⟩ := ih (b + 1) h3 e hm
      refine ⟨j + 1, by simp; omega, ?_⟩
      rw [hs]; congr 1; omega

end TinyVerif.Ring
