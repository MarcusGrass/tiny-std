/- Helper lemmas for C18: byte-level round trip of the SQE image, and soundness of the table check. -/
import TinyVerif.Model.UringAbi
namespace TinyVerif.Sqe

theorem le_length (w v : Nat) : (le w v).length = w := by
  induction w generalizing v with
  | zero => rfl
  | succ w ih => simp [le, ih]

theorem un_le (w v : Nat) : un (le w v) = v % 256 ^ w := by
  induction w generalizing v with
  | zero => simp [le, un, Nat.mod_one]
  | succ w ih =>
    simp only [le, un, ih]
    rw [Nat.pow_succ, Nat.mul_comm (256 ^ w) 256, Nat.mod_mul]

theorem takeLE_le (w v : Nat) (rest : List Nat) :
    takeLE w (le w v ++ rest) = some (v % 256 ^ w, rest) := by
  unfold takeLE
  have hl := le_length w v
  rw [if_pos (by simp [hl])]
  have h1 : (le w v ++ rest).take w = le w v := List.take_left' hl
  have h2 : (le w v ++ rest).drop w = rest := List.drop_left' hl
  rw [h1, h2, un_le]

theorem wrap_lt (b : Nat) (v : Int) : wrap b v < 256 ^ b := by
  unfold wrap
  have hp : (0 : Int) < ((256 ^ b : Nat) : Int) := by
    have : 0 < 256 ^ b := Nat.pow_pos (by decide)
    omega
  have h1 := Int.emod_nonneg v (Int.ne_of_gt hp)
  have h2 := Int.emod_lt_of_pos v hp
  omega

/-- field values that fit their widths -/
structure Sqe.WF (s : Sqe) : Prop where
  h1 : s.opcode < 256 ^ 1
  h2 : s.flags < 256 ^ 1
  h3 : s.ioprio < 256 ^ 2
  h4 : s.fd < 256 ^ 4
  h5 : s.off < 256 ^ 8
  h6 : s.addr < 256 ^ 8
  h7 : s.len < 256 ^ 4
  h8 : s.opflags < 256 ^ 4
  h9 : s.userData < 256 ^ 8
  h10 : s.bufIndex < 256 ^ 2
  h11 : s.personality < 256 ^ 2
  h12 : s.fileIndex < 256 ^ 4
  h13 : s.addr3 < 256 ^ 8
  h14 : s.pad < 256 ^ 8

/-- one `let (x, r) ← takeLE w r` of `parse` on the image of a field -/
theorem bind_takeLE {α : Type} (w v : Nat) (rest : List Nat) (f : Nat × List Nat → Option α) :
    (takeLE w (le w v ++ rest) >>= f) = f (v % 256 ^ w, rest) := by
  rw [takeLE_le]; rfl

theorem parse_serialize (s : Sqe) (h : s.WF) : parse (serialize s) = some s := by
  unfold parse serialize
  rw [← List.append_nil (le 8 s.pad)]
  -- the fourteen fields are split off one by one (one `simp` over the whole `do` block is slow to check)
  repeat (rw [bind_takeLE]; dsimp only)
  simp only [Nat.mod_eq_of_lt h.h1, Nat.mod_eq_of_lt h.h2, Nat.mod_eq_of_lt h.h3, Nat.mod_eq_of_lt h.h4,
    Nat.mod_eq_of_lt h.h5, Nat.mod_eq_of_lt h.h6, Nat.mod_eq_of_lt h.h7, Nat.mod_eq_of_lt h.h8,
    Nat.mod_eq_of_lt h.h9, Nat.mod_eq_of_lt h.h10, Nat.mod_eq_of_lt h.h11, Nat.mod_eq_of_lt h.h12,
    Nat.mod_eq_of_lt h.h13, Nat.mod_eq_of_lt h.h14, if_true]

theorem serialize_length (s : Sqe) : (serialize s).length = 64 := by
  simp [serialize, le_length]

/-- values valid for the constructor's operands -/
def ValidArgs (ops : List (String × Kind)) (a : Nat → Int) : Prop :=
  ∀ i k, kindAt ops i = some k → k.lo ≤ a i ∧ a i ≤ k.hi

theorem evalSrc_range (ops : List (String × Kind)) (a : Nat → Int) (hv : ValidArgs ops a)
    (src : Src) (lo hi : Int) (h : srcRange ops src = some (lo, hi)) :
    lo ≤ evalSrc a src ∧ evalSrc a src ≤ hi := by
  cases src with
  | const n =>
    simp only [srcRange, Option.some.injEq, Prod.mk.injEq] at h
    simp only [evalSrc]; omega
  | arg i =>
    simp only [srcRange, Option.map_eq_some_iff] at h
    obtain ⟨k, hk, he⟩ := h
    simp only [Prod.mk.injEq] at he
    have := hv i k hk
    simp only [evalSrc]; omega
  | optFd i =>
    simp only [srcRange] at h
    split at h
    · rename_i hk
      simp only [Option.some.injEq, Prod.mk.injEq] at h
      have := hv i .optfd hk
      simp only [Kind.lo, Kind.hi] at this
      simp only [evalSrc]; split <;> omega
    · cases h
  | optU64 i =>
    simp only [srcRange] at h
    split at h
    · rename_i hk
      simp only [Option.some.injEq, Prod.mk.injEq] at h
      have := hv i .optu64 hk
      simp only [Kind.lo, Kind.hi] at this
      simp only [evalSrc]; split <;> omega
    · cases h
  | ite i t e =>
    simp only [srcRange] at h
    split at h
    · simp only [Option.some.injEq, Prod.mk.injEq] at h
      simp only [evalSrc]; split <;> omega
    · cases h

theorem wrap_small (b : Nat) (v : Int) (h0 : 0 ≤ v) (h1 : v < (256 ^ b : Nat)) : (wrap b v : Int) = v := by
  unfold wrap
  rw [Int.emod_eq_of_lt h0 h1]
  omega

theorem interp_wrap (ty : Ty) (w : Nat) (v : Int) (hfit : ty.hi < (256 ^ w : Nat)) (hs : ty ≠ .s32 ∨ w = 4)
    (hlo : ty.lo ≤ v) (hhi : v ≤ ty.hi) : ty.interp (wrap w v) = v := by
  cases ty with
  | s32 =>
    obtain rfl : w = 4 := hs.resolve_left fun h => h rfl
    simp only [Ty.hi, Ty.lo, Ty.interp, wrap, Nat.reducePow] at *
    omega
  | _ => exact wrap_small w v hlo (Int.lt_of_le_of_lt hhi hfit)

/-- what the kernel makes of field value `n` under `role`, against what the wrapper meant -/
def fieldMeaning (ops : List (String × Kind)) (intent : List (String × Want)) (a : Nat → Int)
    (role : Role) (n : Nat) : Prop :=
  match role with
  | .unused => n = 0
  | .operand nm ty => ∃ w s, lookup intent nm = some w ∧ wantSrc ops w = some s ∧ ty.interp n = evalSrc a s

theorem fieldOk_sound (ops : List (String × Kind)) (intent : List (String × Want)) (a : Nat → Int)
    (hv : ValidArgs ops a) (role : Role) (src : Src) (bytes width : Nat)
    (h : fieldOk ops intent role src bytes width = true) :
    fieldMeaning ops intent a role (wrap bytes (evalSrc a src)) := by
  cases role with
  | unused =>
    simp only [fieldOk, beq_iff_eq] at h
    subst h
    simp [fieldMeaning, evalSrc, wrap]
  | operand nm ty =>
    simp only [fieldOk] at h
    split at h
    · cases h
    · rename_i w hw'
      split at h
      · rename_i s lo hi hs hr
        simp only [Bool.and_eq_true, beq_iff_eq, decide_eq_true_eq, Bool.or_eq_true, bne_iff_ne, ne_eq] at h
        obtain ⟨⟨⟨⟨⟨h1, h2⟩, h3⟩, h4⟩, h5⟩, h6⟩ := h
        subst h1 h6
        obtain ⟨r1, r2⟩ := evalSrc_range ops a hv src lo hi hr
        refine ⟨w, src, hw', hs, ?_⟩
        exact interp_wrap ty bytes _ h4 h5 (by omega) (by omega)
      · cases h

end TinyVerif.Sqe
