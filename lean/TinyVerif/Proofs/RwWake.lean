import TinyVerif.Proofs.RwStep
namespace TinyVerif.RwLock

/-- reader-queue invariant: whenever a reader is parked on `state`, the readers-waiting bit is still set in the
word, or a thread is about to issue the wake-all (`futex_wake(&state, i32::MAX)`) -/
def RQ (s : St) : Prop :=
  (∃ i, parkedOn (s.ths i) 0 = true) → hasRW s.state = true ∨ ∃ j, (s.ths j).pc = .kWakeR

def rparked (pc : Pc) : Bool := match pc with | .rParked _ => true | _ => false

theorem parkedOn0_eq (t : Th) : parkedOn t 0 = rparked t.pc := by
  unfold parkedOn rparked; cases t.pc <;> simp

theorem init_rq (progs : List (List Txn)) : RQ (init progs) := by
  rintro ⟨i, hi⟩; simp [init, parkedOn] at hi

/-- a step of thread `i`, which is not the waker, to `pc'`: the RW bit survives or `i` becomes the waker, and `i`
parks only under the bit -/
theorem rq_upd (s s' : St) (i : Nat) (pc' : Pc)
    (hths : ∀ j, j ≠ i → s'.ths j = s.ths j) (hpc : (s'.ths i).pc = pc')
    (h : RQ s) (hk : (s.ths i).pc ≠ .kWakeR)
    (hbit : hasRW s.state = true → hasRW s'.state = true ∨ pc' = .kWakeR)
    (hpark : rparked pc' = true → hasRW s'.state = true ∨ rparked (s.ths i).pc = true) :
    RQ s' := by
  rintro ⟨j, hj⟩
  rw [parkedOn0_eq] at hj
  -- someone was parked before, or `i` itself just parked
  have hprev : (∃ k, parkedOn (s.ths k) 0 = true) ∨ hasRW s'.state = true := by
    by_cases hji : j = i
    · subst hji
      rw [hpc] at hj
      exact (hpark hj).symm.imp_left fun h1 => ⟨j, (parkedOn0_eq _).trans h1⟩
    · rw [hths j hji] at hj
      exact Or.inl ⟨j, (parkedOn0_eq _).trans hj⟩
  rcases hprev with hprev | hnow
  · rcases h hprev with hb | ⟨k, hk'⟩
    · exact (hbit hb).imp_right fun h1 => ⟨i, hpc.trans h1⟩
    · have hki : k ≠ i := fun hh => hk (hh ▸ hk')
      exact Or.inr ⟨k, by rw [hths k hki]; exact hk'⟩
  · exact Or.inl hnow

/-- the expected value a reader sleeps on always has the readers-waiting bit -/
def RWf : Pc → Prop
  | .rWaitLoad e => hasRW e = true
  | .rWaitSys e => hasRW e = true
  | .rParked e => hasRW e = true
  | _ => True

/-- the reader-queue invariant as it is proved: `RQ`, and every reader about to sleep or asleep does so on a value
that carries the readers-waiting bit (which is what makes `RQ` inductive at the park step) -/
structure RQ2 (s : St) : Prop where
  rq : RQ s
  wf : ∀ i, RWf (s.ths i).pc

theorem init_rq2 (progs : List (List Txn)) : RQ2 (init progs) :=
  ⟨init_rq progs, by intro i; simp [init, RWf]⟩

theorem hasRW_orRW (x : Nat) : hasRW (orRW x) = true := by
  unfold orRW
  split
  · assumption
  · rename_i h
    simp only [hasRW, RW, beq_iff_eq] at *
    omega

theorem kwake_rNext (v : Nat) : rNext v ≠ .kWakeR := by
  unfold rNext
  repeat' split
  all_goals simp

theorem RQ2.wf_at {s : St} (hq : RQ2 s) {i : Nat} {p : Pc} (hpc : (s.ths i).pc = p) : RWf p := hpc ▸ hq.wf i

theorem rq2_step {s s' : St} {i : Nat} {p p' : Pc} (hq : RQ2 s) (hpc : (s.ths i).pc = p) (hk : p ≠ .kWakeR)
    (hoth : ∀ j, j ≠ i → s'.ths j = s.ths j) (hpc' : (s'.ths i).pc = p') (hwf : RWf p')
    (hbit : hasRW s.state = true → hasRW s'.state = true ∨ p' = .kWakeR)
    (hpark : rparked p' = true → hasRW s'.state = true ∨ rparked p = true) : RQ2 s' := by
  refine ⟨rq_upd s s' i p' hoth hpc' hq.rq (hpc ▸ hk) hbit (hpc ▸ hpark), fun j => ?_⟩
  by_cases hj : j = i
  · subst hj; rw [hpc']; exact hwf
  · rw [hoth j hj]; exact hq.wf j

/-! which RMWs keep the readers-waiting bit -/

theorem hasRW_add_WL (x : Nat) (h : x % 1073741824 = 0) : hasRW (x + WRITE_LOCKED) = hasRW x := by
  simp only [hasRW, RW, WRITE_LOCKED]
  have : (x + 1073741823) / 1073741824 = x / 1073741824 := by omega
  rw [this]

theorem hasRW_add_one (x : Nat) (h : x % 1073741824 < 1073741822) : hasRW (x + 1) = hasRW x := by
  simp only [hasRW, RW]
  have : (x + 1) / 1073741824 = x / 1073741824 := by omega
  rw [this]

theorem hasRW_orWW (x : Nat) : hasRW (orWW x) = hasRW x := by
  unfold orWW
  split
  · rfl
  · simp only [hasRW, RW, WW]
    have : (x + 2147483648) / 1073741824 = x / 1073741824 + 2 := by omega
    rw [this]
    have : (x / 1073741824 + 2) % 2 = x / 1073741824 % 2 := by omega
    rw [this]

theorem hasRW_orWL (x : Nat) (o : Bool) (h : x % 1073741824 = 0) : hasRW (orWL x o) = hasRW x := by
  unfold orWL
  simp only [cnt, RW, h, Nat.sub_zero]
  cases o
  · simp only [Bool.false_eq_true, if_false]; exact hasRW_add_WL x h
  · simp only [if_true]; rw [hasRW_orWW]; exact hasRW_add_WL x h

theorem hasRW_sub_one (x : Nat) (h : 1 ≤ cnt x) (hlt : x < TWO32) : hasRW (wsub x 1) = hasRW x := by
  simp only [cnt, RW, TWO32] at h hlt
  have : wsub x 1 = x - 1 := by unfold wsub; simp only [TWO32]; omega
  rw [this]
  simp only [hasRW, RW]
  have : (x - 1) / 1073741824 = x / 1073741824 := by omega
  rw [this]

theorem hasRW_sub_WL (x : Nat) (h : cnt x = WRITE_LOCKED) (hlt : x < TWO32) :
    hasRW (wsub x WRITE_LOCKED) = hasRW x := by
  simp only [cnt, RW, WRITE_LOCKED, TWO32] at h hlt
  have : wsub x WRITE_LOCKED = x - 1073741823 := by unfold wsub; simp only [TWO32, WRITE_LOCKED]; omega
  rw [this]
  simp only [hasRW, RW]
  have : (x - 1073741823) / 1073741824 = x / 1073741824 := by omega
  rw [this]

theorem not_hasRW_of_lockable (x : Nat) (h : isReadLockable x = true) : hasRW x = false := by
  obtain ⟨_, h2, _⟩ := (readLockable_iff x).mp h
  simp only [hasRW, RW, beq_eq_false_iff_ne, ne_eq]; exact h2


/-- a continuation that is not a parked reader and whose sleep value (if any) carries the RW bit -/
def Quiet (pc : Pc) : Prop := RWf pc ∧ rparked pc = false

theorem quiet_callPc (k : Kind) : Quiet (callPc k) := by cases k <;> exact ⟨trivial, rfl⟩

theorem quiet_rNext (v : Nat) : Quiet (rNext v) := by
  unfold rNext
  exact ite_pred Quiet (fun _ => ⟨trivial, rfl⟩) fun _ => ite_pred Quiet (fun _ => ⟨trivial, rfl⟩) fun _ =>
    ite_pred Quiet (fun _ => ⟨trivial, rfl⟩) fun _ => ⟨hasRW_orRW v, rfl⟩

theorem quiet_wNext (v : Nat) (o : Bool) : Quiet (wNext v o) := by
  unfold wNext
  exact ite_pred Quiet (fun _ => ⟨trivial, rfl⟩) fun _ => ite_pred Quiet (fun _ => ⟨trivial, rfl⟩) fun _ => ⟨trivial, rfl⟩

theorem quiet_tNext (w : Bool) (v : Nat) : Quiet (tNext w v) :=
  ite_pred Quiet (fun _ => ⟨trivial, rfl⟩) fun _ => ⟨trivial, rfl⟩

theorem quiet_wakeEntry (v : Nat) : Quiet (wakeEntry v) := by
  unfold wakeEntry
  exact ite_pred Quiet (fun _ => ⟨trivial, rfl⟩) fun _ => ite_pred Quiet (fun _ => ⟨trivial, rfl⟩) fun _ =>
    ite_pred Quiet (fun _ => ⟨trivial, rfl⟩) fun _ => ite_pred Quiet (fun _ => ⟨trivial, rfl⟩) fun _ => ⟨trivial, rfl⟩

theorem quiet_wakeAfterA (v : Nat) : Quiet (wakeAfterA v) := by
  unfold wakeAfterA
  exact ite_pred Quiet (fun _ => ⟨trivial, rfl⟩) fun _ => ite_pred Quiet (fun _ => ⟨trivial, rfl⟩) fun _ => ⟨trivial, rfl⟩

theorem quiet_unlockPc (w : Bool) (x : Nat) : Quiet (unlockPc w x) :=
  ite_pred Quiet (fun _ => quiet_wakeEntry x) fun _ => ⟨trivial, rfl⟩

theorem rq2_setth {s : St} {i : Nat} {p : Pc} (t' : Th) (hq : RQ2 s) (hpc : (s.ths i).pc = p) (hk : p ≠ .kWakeR)
    (hwf : RWf t'.pc) (hpark : rparked t'.pc = true → hasRW s.state = true ∨ rparked p = true) : RQ2 (setTh s i t') :=
  rq2_step hq hpc hk (fun j hj => by simp [setTh_ths, hj]) (by simp) hwf Or.inl hpark

theorem rq2_move {s : St} {i : Nat} {p p' : Pc} (hq : RQ2 s) (hpc : (s.ths i).pc = p) (hk : p ≠ .kWakeR)
    (h : Quiet p') : RQ2 (setPc s i p') :=
  rq2_setth _ hq hpc hk h.1 (fun hp => by rw [h.2] at hp; cases hp)

/-- RMW on the word by a thread that is not the waker, to a quiet pc -/
theorem rq2_rmw {s : St} {i : Nat} {p p' : Pc} (acq rel : Bool) (new : Nat) (hq : RQ2 s) (hpc : (s.ths i).pc = p)
    (hk : p ≠ .kWakeR) (h : Quiet p') (hbit : hasRW s.state = true → hasRW new = true ∨ p' = .kWakeR) :
    RQ2 (rmwState s i acq rel new p') :=
  rq2_step hq hpc hk (fun j hj => by simp [rmwState, setTh_ths, hj]) (by simp [rmwState]) h.1 hbit
    (fun hp => by rw [h.2] at hp; cases hp)

theorem unlock_hasRW (c : Cfg) {s : St} {i : Nat} {w : Bool} (hinv : RInv s) (hpc : (s.ths i).pc = .unlock w) :
    hasRW (unlockSt c s i w).state = hasRW s.state := by
  rw [unlockSt_state]
  cases w
  · exact hasRW_sub_one _ (reader_word hinv (by rw [hpc]; rfl)).2 hinv.lt32
  · exact hasRW_sub_WL _ (writer_word hinv (by rw [hpc]; rfl)) hinv.lt32

theorem wakeOne_state (c : Cfg) (s : St) (j : Nat) : (wakeOne c s j).state = s.state := rfl

theorem rparked_wokenPc (c : Cfg) (p : Pc) : rparked (wokenPc c p) = false := by
  cases p <;> simp [wokenPc, rparked]

theorem wokenPc_kWakeR (c : Cfg) (p : Pc) : wokenPc c p = .kWakeR ↔ p = .kWakeR := by
  cases p <;> simp [wokenPc]

theorem rwf_wokenPc (c : Cfg) (p : Pc) (h : RWf p) : RWf (wokenPc c p) := by
  cases p <;> simp_all [wokenPc, RWf]

/-- waking never parks anybody -/
theorem wakeAll_rparked_mono (c : Cfg) (s : St) (l : List Nat) (j : Nat)
    (h : rparked ((wakeAll c s l).ths j).pc = true) : rparked (s.ths j).pc = true := by
  rw [wakeAll_ths] at h
  split at h
  · rw [rparked_wokenPc] at h; cases h
  · exact h

/-- a listed thread is not parked on `state` afterwards -/
theorem wakeAll_clears (c : Cfg) (s : St) (l : List Nat) (j : Nat) (hm : j ∈ l) :
    rparked ((wakeAll c s l).ths j).pc = false := by
  rw [wakeAll_ths, if_pos hm]; exact rparked_wokenPc c _

theorem wakeAll_kWakeR (c : Cfg) (s : St) (l : List Nat) (j : Nat) :
    ((wakeAll c s l).ths j).pc = .kWakeR ↔ (s.ths j).pc = .kWakeR := by
  rw [wakeAll_ths]
  split
  · exact wokenPc_kWakeR c _
  · exact Iff.rfl

theorem wakeAll_rwf (c : Cfg) (s : St) (l : List Nat) (h : ∀ j, RWf (s.ths j).pc) : ∀ j, RWf ((wakeAll c s l).ths j).pc := by
  intro j
  rw [wakeAll_ths]
  split
  · exact rwf_wokenPc c _ (h j)
  · exact h j

theorem parkedList_mem (s : St) (loc j : Nat) : j ∈ parkedList s loc ↔ j < s.n ∧ parkedOn (s.ths j) loc = true := by
  simp [parkedList, List.mem_filter]

/-- moving the waker `i` on after `wakeAll`: generic RQ2 preservation when the word is unchanged -/
theorem rq2_after_wake (c : Cfg) (s : St) (i : Nat) (l : List Nat) (pc' : Pc) (hq : RQ2 s)
    (hwf : RWf pc') (hp : rparked pc' = false)
    (hcases : (s.ths i).pc ≠ .kWakeR ∨ (∀ j, rparked ((wakeAll c s l).ths j).pc = false)) :
    RQ2 (setPc (wakeAll c s l) i pc') := by
  constructor
  · rintro ⟨j, hj⟩
    rw [parkedOn0_eq] at hj
    have hji : j ≠ i := by
      intro h; subst h; simp [setPc, hp] at hj
    have hj' : rparked ((wakeAll c s l).ths j).pc = true := by simpa [setPc, setTh_ths, hji] using hj
    rcases hcases with hk | hall
    · have hjs := wakeAll_rparked_mono c s l j hj'
      rcases hq.rq ⟨j, by rw [parkedOn0_eq]; exact hjs⟩ with hb | ⟨k, hk'⟩
      · left; simpa [setPc, wakeAll_state] using hb
      · right
        have hki : k ≠ i := by intro h; subst h; exact hk hk'
        exact ⟨k, by simp [setPc, setTh_ths, hki]; exact (wakeAll_kWakeR c s l k).mpr hk'⟩
    · rw [hall j] at hj'; cases hj'
  · intro j
    by_cases hji : j = i
    · subst hji; simpa [setPc] using hwf
    · simp [setPc, setTh_ths, hji]; exact wakeAll_rwf c s l hq.wf j

/-- **every step preserves the reader-queue invariant** (given the safety invariant) -/
theorem step_rq (c : Cfg) (s s' : St) (i : Nat) (e : Ev) (h : step c s i e = some s') (hinv : RInv s) (hq : RQ2 s) : RQ2 s' := by
  obtain ⟨hi, hs⟩ := step_sound h
  generalize hpc : (s.ths i).pc = p at hs
  cases hs with
  | call => exact rq2_move hq hpc nofun (quiet_callPc _)
  | rLoad _ | wWaitLoad _ | wParked _ | kWakeNone =>
    exact rq2_move hq hpc nofun (ite_pred Quiet (fun _ => ⟨trivial, rfl⟩) fun _ => ⟨trivial, rfl⟩)
  | rFastOk hst | rCasOk hst =>
    subst hst
    exact rq2_rmw _ _ _ hq hpc nofun ⟨trivial, rfl⟩ fun hb =>
      absurd hb (by rw [not_hasRW_of_lockable _ (hinv.wf_at hpc)]; nofun)
  | rFastFail | rNoPark | tryFailed | wFastFail | wSeqLoad _ | wPark | wNoPark | acquired
  | rel | kCasBFail | kCasCFail => exact rq2_setth _ hq hpc nofun trivial nofun
  | rSpin v => exact rq2_move hq hpc nofun (ite_pred Quiet (fun _ => quiet_rNext v) fun _ => ⟨trivial, rfl⟩)
  | rCasFail | rSetWaitFail => exact rq2_move hq hpc nofun (quiet_rNext _)
  | rSetWaitOk => exact rq2_rmw _ _ _ hq hpc nofun ⟨hasRW_orRW _, rfl⟩ fun _ => Or.inl (hasRW_orRW _)
  | @rWaitLoad ex _ =>
    have hw : hasRW ex = true := hq.wf_at hpc
    exact rq2_move hq hpc nofun (ite_pred Quiet (fun _ => ⟨trivial, rfl⟩) fun _ => ⟨hw, rfl⟩)
  | @rPark ex hst =>
    -- the kernel compared the word with the expected value, which carries the bit
    have hw : hasRW ex = true := hq.wf_at hpc
    exact rq2_setth _ hq hpc nofun hw fun _ => Or.inl (hst ▸ hw)
  | @rParked ex _ =>
    have hw : hasRW ex = true := hq.wf_at hpc
    exact rq2_move hq hpc nofun (ite_pred Quiet (fun _ => ⟨hw, rfl⟩) fun _ => ⟨trivial, rfl⟩)
  | tLoad _ | tCasFail => exact rq2_move hq hpc nofun (quiet_tNext _ _)
  | @tCasOk w st hst =>
    subst hst
    have hwf := hinv.wf_at hpc
    refine rq2_rmw _ _ _ hq hpc nofun ⟨trivial, rfl⟩ fun hb => ?_
    cases w
    · exact absurd hb (by rw [not_hasRW_of_lockable _ hwf]; nofun)
    · exact Or.inl ((hasRW_add_WL _ ((unlocked_iff _).mp hwf)).trans hb)
  | wFastOk hst => exact rq2_rmw _ _ _ hq hpc nofun ⟨trivial, rfl⟩ fun hb => absurd (hst ▸ hb) (by decide)
  | wSpin v | wStateLoad v =>
    exact rq2_move hq hpc nofun (ite_pred Quiet (fun _ => quiet_wNext v _) fun _ => ⟨trivial, rfl⟩)
  | wCasOk hst =>
    subst hst
    exact rq2_rmw _ _ _ hq hpc nofun ⟨trivial, rfl⟩ fun hb =>
      Or.inl ((hasRW_orWL _ _ ((unlocked_iff _).mp (hinv.wf_at hpc))).trans hb)
  | wCasFail | wSetWaitFail => exact rq2_move hq hpc nofun (quiet_wNext _ _)
  | wSetWaitOk hst =>
    subst hst; exact rq2_rmw _ _ _ hq hpc nofun ⟨trivial, rfl⟩ fun hb => Or.inl ((hasRW_orWW _).trans hb)
  | data => exact rq2_move (s := { s with raced := _ }) ⟨hq.rq, hq.wf⟩ hpc nofun ⟨trivial, rfl⟩
  | @unlock w =>
    have hqt := quiet_unlockPc w (unlockSt c s i w).state
    exact rq2_step hq hpc nofun (fun j hj => unlockSt_other c s w hj) (by rw [unlockSt_self]) hqt.1
      (fun hb => Or.inl ((unlock_hasRW c hinv hpc).trans hb)) (fun hp => by rw [hqt.2] at hp; cases hp)
  | kCasAOk hst =>
    subst hst
    exact rq2_rmw _ _ _ hq hpc nofun ⟨trivial, rfl⟩ fun hb =>
      absurd hb (by rw [(hinv.wf_at hpc : s.state = WW)]; decide)
  | kCasAFail => exact rq2_move hq hpc nofun (quiet_wakeAfterA _)
  | kCasBOk => exact rq2_rmw _ _ _ hq hpc nofun ⟨trivial, rfl⟩ fun _ => Or.inl (by decide)
  | kNotify => exact rq2_move (s := { s with notify := _ }) ⟨hq.rq, hq.wf⟩ hpc nofun ⟨trivial, rfl⟩
  | kWakeOne => exact rq2_after_wake c s i _ _ hq trivial rfl (Or.inl (by rw [hpc]; nofun))
  | kCasCOk => exact rq2_rmw _ _ _ hq hpc nofun ⟨trivial, rfl⟩ fun _ => Or.inr rfl
  | @kWakeR woken _ _ hsup =>
    -- every parked reader is in the list, and a listed thread is not parked afterwards
    refine rq2_after_wake c s i woken _ hq trivial rfl (Or.inr fun j => ?_)
    cases hr : rparked ((wakeAll c s woken).ths j).pc with
    | false => rfl
    | true =>
      have hjs := wakeAll_rparked_mono c s woken j hr
      have hjn : j < s.n := Nat.lt_of_not_le fun hh => by rw [hinv.outside j hh] at hjs; cases hjs
      have hmem : j ∈ parkedList s 0 := (parkedList_mem s 0 j).mpr ⟨hjn, (parkedOn0_eq _).trans hjs⟩
      have hw : j ∈ woken := by simpa using List.all_eq_true.mp hsup j hmem
      rw [wakeAll_clears c s woken j hw] at hr; cases hr

end TinyVerif.RwLock
