/-
C17, draining.  Repeated `get_next_cqe` delivers every posted-and-unreaped completion, in order, with
its content, and then reports the ring empty; the kernel consuming without bound takes every published
submission.  Lemmas over the invariant of Proofs/RingInv.lean; the property statements are in Props/C17.lean.
-/
import TinyVerif.Proofs.RingInv
namespace TinyVerif.Ring

section
variable {k kc c cc : Nat}
theorem run_cons (cd : Code) (s : St) (op : Op) (ops : List Op) :
    run cd s (op :: ops) = ((run cd (step cd s op).1 ops).1, (step cd s op).2 :: (run cd (step cd s op).1 ops).2) := rfl

theorem drain_inv {inq unpub : List Ent} : ∀ (cinq : List Ent) {s : St} {hold : List Ent},
    Inv k kc c cc s inq unpub cinq hold →
    (run .fixed s (List.replicate cinq.length .reap)).1.reaped = s.reaped ++ cinq ∧
    (run .fixed s (List.replicate cinq.length .reap)).2 = cinq.map (fun e => Out.cqe e.val) ∧
    (run .fixed s (List.replicate cinq.length .reap)).1.posted = s.posted ∧
    ∃ hold', Inv k kc c cc (run .fixed s (List.replicate cinq.length .reap)).1 inq unpub [] hold' := by
  intro cinq
  induction cinq with
  | nil =>
    intro s hold h
    exact ⟨by simp [run], by simp [run], by simp [run], hold, by simpa [run] using h⟩
  | cons e rest ih =>
    intro s hold h
    obtain ⟨hout, hreap, _, hinv⟩ := (inv_reap h).2 e rest rfl
    obtain ⟨i1, i2, i3, i4⟩ := ih hinv
    have hp : (step .fixed s .reap).1.posted = s.posted := by
      rw [hinv.posted_eq, hreap, h.posted_eq]; simp
    simp only [List.length_cons, List.replicate_succ, run_cons, List.map_cons]
    refine ⟨?_, ?_, ?_, i4⟩
    · rw [i1, hreap]; simp
    · rw [i2, hout]
    · rw [i3, hp]

/-- the kernel consuming with a bound of at least the number of published-and-unconsumed submissions takes all of
them, in order -/
theorem consume_all {unpub cinq hold : List Ent} (n : Nat) {s : St} {inq : List Ent}
    (h : Inv k kc c cc s inq unpub cinq hold) (hn : inq.length ≤ n) :
    (kConsume n s).2 = inq ∧ (kConsume n s).1.consumed = s.consumed ++ inq ∧
    (kConsume n s).1.flushed = s.flushed ∧ Inv k kc c cc (kConsume n s).1 [] unpub cinq hold := by
  obtain ⟨a, b, _, d, e⟩ := inv_consume_take n h
  rw [List.take_of_length_le hn] at a b
  rw [List.drop_eq_nil_of_le hn] at e
  exact ⟨a, b, d, e⟩

end
end TinyVerif.Ring
