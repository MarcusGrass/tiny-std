import TinyVerif.Proofs.DlIndStep
import TinyVerif.Proofs.DlIndMalloc2
import TinyVerif.Proofs.DlIndFree2
import TinyVerif.Proofs.DlIndMemalign
import TinyVerif.Proofs.DlIndSys
import TinyVerif.Proofs.DlInvCheck
/-!
# The inductiveness proof, assembled

Every leaf interface theorem of `Proofs/DlIndSpec.lean` discharged by the file that proves it.  The step and run
theorems of `Proofs/DlIndStep.lean` are instantiated with them in `Props/C03Ind.lean`.
-/
namespace TinyVerif.Dl

theorem all_malloc_nosys : malloc_nosys_Spec := mn_malloc_nosys_spec
theorem all_dispose_chunk : dispose_chunk_Spec := fr_dispose_chunk_spec
theorem all_free_heap : free_heap_Spec := fr_free_heap_spec
theorem all_split_inuse : split_inuse_Spec := ra_split_inuse_spec
theorem all_try_realloc_chunk : try_realloc_chunk_Spec := ra_try_realloc_chunk_spec all_dispose_chunk
theorem all_memalign_fix : memalign_fix_Spec := ma_memalign_fix_spec all_dispose_chunk
theorem all_release_unused_segments : release_unused_segments_Spec := sg_release_unused_segments_spec
theorem all_sys_trim : sys_trim_Spec := sg_sys_trim_spec
theorem all_sys_alloc : sys_alloc_Spec := sg_sys_alloc_spec

end TinyVerif.Dl
