import TinyVerif.Proofs.DlIndBase
/-!
# `malloc_dv_top` preserves `WFS`

The three branches of the `dv` / `top` tail of `inner_malloc`, on the foundation of
`Proofs/DlIndBase.lean`.  Each branch proof has the same four steps:

1. name the headers involved (`WFS.dv_parts` + `WFS.freeAt`, or `WFS.top_parts`);
2. compute the final heap as an equation (`split_free_inuse_at`, `set_inuse_and_pinuse_at`, `top_split_eq`)
   and `subst` it;
3. table: `split_table` / `exhaust_table`, or `struct_window_run` (a run of headers and the boundary
   header after it) as in `top_carve_wfs`;
4. bookkeeping: `freeListOk_replace`, `bins_window`, `dvOk_window` / `topOk_window` or a direct
   computation for the field that moved.
-/
namespace TinyVerif.Dl

/-- the only free header of the window `[x, y]` is `x` -/
theorem FreeAt.free_mid {s : St} {pre post : List Ent} {x y : Ent} {g : Seg} (fa : FreeAt s pre post x y g)
    {P : Ent → Prop} (hx : P x) : ∀ e ∈ [x, y], isFree e = true → P e := by
  intro e he hf
  simp only [List.mem_cons, List.not_mem_nil, or_false] at he
  rcases he with rfl | rfl
  · exact hx
  · simp [isFree, fa.yc] at hf

/-- neither `top` nor its foot word is in the window `[x, y]` of a `FreeAt` -/
theorem FreeAt.top_mid {s : St} {pre post : List Ent} {x y : Ent} {g : Seg} (fa : FreeAt s pre post x y g) :
    ∀ e ∈ [x, y], (isFree e = true → e.addr ≠ s.h.top) ∧ (e.cin = true ∨ e.pin = true) := by
  intro e he
  simp only [List.mem_cons, List.not_mem_nil, or_false] at he
  rcases he with rfl | rfl
  · exact ⟨fun _ => fa.ntop, Or.inr (isFree_iff.1 fa.free).2⟩
  · exact ⟨fun h => by simp [isFree, fa.yc] at h, Or.inl fa.yc⟩

/-- `struct_window` for a window made of a run `a :: as` and the header `b` after it: the run becomes
`c :: cs`, and `b` becomes `b'`, which keeps address, size and CINUSE and is not free.  If the `top` the
table is checked against moves, the old and the new one both lie inside the window. -/
theorem struct_window_run {segs : List Seg} {top top' : Nat} {pre post as cs : List Ent} {a b c b' : Ent}
    (h : StructOk (pre ++ (a :: (as ++ [b])) ++ post) segs top) (hd : segsDisjoint segs = true)
    {g : Seg} (hg : g ∈ segs) (hgm : ∀ e ∈ a :: (as ++ [b]), inSeg g e = true)
    (hc : contig (c :: (cs ++ [b'])) a.addr = true) (hshape : shapeOk (c :: (cs ++ [b'])) = true)
    (hba : b'.addr = b.addr) (hbs : b'.size = b.size) (hbc : b'.cin = b.cin) (hbf : isFree b' = false)
    (htop : top' = top ∨ (a.addr ≤ top ∧ top < b.addr ∧ a.addr ≤ top' ∧ top' < b.addr))
    (hhead : HeadEq a c) (hloc : tagsFrom top' c (cs ++ [b']) = true) :
    StructOk (pre ++ (c :: (cs ++ [b'])) ++ post) segs top' := by
  obtain ⟨b1, b2⟩ := entsOk_window_bounds h.ents
  have hl : lastE a (as ++ [b]) = b := lastE_append a as b []
  have hl' : lastE c (cs ++ [b']) = b' := lastE_append c cs b' []
  refine struct_window h hd hg hgm hc ?_ hshape ?_ ?_ hhead ?_ hloc
  · simp only [endE, hl, hl', hba, hbs]
  · rw [hl, hl']
    simp only [isTrailerEnd, isFree, hbs, hbc] at hbf ⊢
    cases hcn : b.cin
    · rw [hcn] at hbf
      simp only [Bool.not_false, Bool.true_and] at hbf
      simp [hbf]
    · exact id
  · intro e he
    rcases htop with rfl | ⟨t1, t2, t3, t4⟩
    · exact Iff.rfl
    · rcases List.mem_append.1 he with he | he
      · have := b1 e he
        have := entsOk_pos h.ents e (by simp [he])
        constructor <;> intro <;> omega
      · have := b2 e he
        simp only [endE, hl] at this
        constructor <;> intro <;> omega
  · rw [hl, hl']
    exact ⟨hbc, fun hf => by rw [hbf] at hf; cases hf⟩

theorem mod16_add {a b : Nat} (ha : a % 16 = 0) (hb : b % 16 = 0) : (a + b) % 16 = 0 := by omega

theorem mod16_of_add {a b c : Nat} (h : a + b = c) (ha : a % 16 = 0) (hc : c % 16 = 0) : b % 16 = 0 := by omega

theorem le16_of_mod {a : Nat} (ha : a % 16 = 0) (h0 : 0 < a) : 16 ≤ a := by omega

theorem mod16_mod8 {a : Nat} (ha : a % 16 = 0) : a % 8 = 0 := by omega

theorem mod16_sub {a b : Nat} (ha : a % 16 = 0) (hb : b % 16 = 0) : (a - b) % 16 = 0 := by omega

theorem shapeOk_cons_chunk {e : Ent} {l : List Ent} (h1 : e.addr % 16 = 0) (h2 : e.size % 16 = 0) (h3 : 16 ≤ e.size)
    (hl : shapeOk l = true) : shapeOk (e :: l) = true := by
  simp only [shapeOk, List.all_cons, Bool.and_eq_true, Bool.or_eq_true, decide_eq_true_eq]
  exact ⟨Or.inr ⟨⟨h1, h2⟩, h3⟩, hl⟩

theorem topOk_cons_iff {s : St} {g : Seg} {rest : List Seg} (hsegs : s.segs = g :: rest) :
    topOk s = true ↔ s.h.top ≠ 0 ∧ 0 < s.h.topsize ∧ g.base ≤ s.h.top ∧
      s.h.top + s.h.topsize + 80 = g.base + g.size ∧ g.recAt = 0 ∧
      (∃ x, findEnt s.h.ents s.h.top = some x ∧ isFree x = true ∧ x.size = s.h.topsize) ∧
      ∃ f, findEnt s.h.ents (s.h.top + s.h.topsize) = some f ∧ f.cin = false ∧ f.pin = false ∧ f.size = 80 := by
  unfold topOk
  simp only [hsegs, top_foot_size_eq, Bool.and_eq_true, decide_eq_true_eq]
  cases findEnt s.h.ents s.h.top <;> cases findEnt s.h.ents (s.h.top + s.h.topsize) <;>
    simp [and_assoc]

theorem freeListOk_moved {s : St} (w : WFS s) {H : Heap} {pre mid mid' post : List Ent}
    (hes : s.h.ents = pre ++ mid ++ post) (hH : H.ents = pre ++ mid' ++ post) (hok' : entsOk H.ents = true)
    {A B : List Nat} {c c' : Nat} (fs1 : freeSet mid = [c]) (fs2 : freeSet mid' = [c'])
    (hfl0 : freeList s.h = A ++ ([c] ++ B)) (hfl1 : freeList H = A ++ ([c'] ++ B))
    (hfresh : ∀ e ∈ s.h.ents, e.addr ≠ c') : freeListOk H = true := by
  refine freeListOk_replace w hes hH hok' (fs1 ▸ hfl0) (fs2 ▸ hfl1) (by rw [fs2]; simp) ?_
  intro a ha
  rw [fs2, List.mem_singleton] at ha
  exact not_mem_mid (hfl0 ▸ ha ▸ w.not_listed hfresh)

/-- **carving from `top`**: the run `a :: as` ends in `top` (its only free header) and is followed by the
foot word `f`; it becomes the in-use chunk `np` of `nb` bytes and the new `top` header `nr` at `T`, which
lies strictly inside the old `top` chunk.  (`top-split`: the run is `top` alone; `realloc-into-top`: the
user chunk and `top`.) -/
theorem top_carve_wfs {s : St} (w : WFS s) {pre post as : List Ent} {a f np nr : Ent} {g : Seg} {rest : List Seg}
    (hsegs : s.segs = g :: rest) (hes : s.h.ents = pre ++ (a :: (as ++ [f])) ++ post)
    (hgm : ∀ e ∈ a :: (as ++ [f]), inSeg g e = true)
    (fs1 : freeSet (a :: (as ++ [f])) = [s.h.top]) (hlo : a.addr ≤ s.h.top) (ha16 : a.addr % 16 = 0)
    (hfa : f.addr = s.h.top + s.h.topsize) (hfc : f.cin = false) (hfp : f.pin = false)
    {nb T TS : Nat} (hnb16 : nb % 16 = 0) (hnb : 16 ≤ nb)
    (hT : T = a.addr + nb) (hin : s.h.top < T) (hTS : T + TS = s.h.top + s.h.topsize) (hTS0 : 0 < TS)
    {H : Heap} (hi : HeapIs H (pre ++ (np :: ([nr] ++ [f])) ++ post) s.h.sbins s.h.tbins s.h.dv s.h.dvsize T TS)
    (np1 : np.addr = a.addr) (np2 : np.size = nb) (np3 : np.cin = true) (hhead : HeadEq a np)
    (nr1 : nr.addr = T) (nr2 : nr.size = TS) (nr3 : nr.cin = false) (nr4 : nr.pin = true) :
    WFS { s with h := H } := by
  have hg : g ∈ s.segs := by rw [hsegs]; exact List.mem_cons_self
  obtain ⟨t1, t2, t3, t4, t5, ⟨x, hfx, hxf, hxs⟩, t7⟩ := (topOk_cons_iff hsegs).1 w.top
  obtain ⟨hxm, hxa⟩ := findEnt_some hfx
  have hfm : f ∈ s.h.ents := by rw [hes]; simp
  obtain ⟨hf16, hfs16, hfs⟩ := shapeOk_free w.shape hfm hfc
  have hT0 : T ≠ 0 := Nat.ne_of_gt (Nat.zero_lt_of_lt hin)
  have hTf : T + TS = f.addr := hTS.trans hfa.symm
  have hT16 : T % 16 = 0 := hT ▸ mod16_add ha16 hnb16
  have hTS16 : TS % 16 = 0 := mod16_of_add hTf hT16 hf16
  have hinside : ∀ e ∈ s.h.ents, e.addr ≠ T :=
    entsOk_no_inside w.ents hxm (by rw [hxa]; exact hin) (by rw [hxa, hxs, ← hTS]; exact Nat.lt_add_of_pos_right hTS0)
  have hst0 : StructOk (pre ++ (a :: (as ++ [f])) ++ post) s.segs s.h.top := by
    have := w.struct; rw [hes] at this; exact this
  have hst : StructOk (pre ++ (np :: ([nr] ++ [f])) ++ post) s.segs T :=
    struct_window_run hst0 w.segsDisjoint hg hgm
      (by
        simp only [List.cons_append, List.nil_append, contig, Bool.and_eq_true, decide_eq_true_eq, Bool.and_true]
        exact ⟨np1, by rw [nr1, np2, hT], by rw [np2, nr2, ← hT, hTf]⟩)
      (shapeOk_cons_chunk (np1 ▸ ha16) (np2 ▸ hnb16) (np2 ▸ hnb) (shapeOk_cons_chunk (nr1 ▸ hT16) (nr2 ▸ hTS16)
        (nr2 ▸ le16_of_mod hTS16 hTS0) (shapeOk_cons_chunk hf16 hfs16 hfs rfl)))
      rfl rfl rfl (by simp [isFree, hfp])
      (Or.inr ⟨hlo, hfa ▸ Nat.lt_add_of_pos_right t2, hT ▸ Nat.le_add_right _ _, hTf ▸ Nat.lt_add_of_pos_right hTS0⟩) hhead
      (by simp [tagsFrom, linkOk, isFree, np3, nr1, nr3, nr4, hfc, hfp])
  have hok' : entsOk H.ents = true := by rw [hi.ents]; exact hst.ents
  have hmid : ∀ e ∈ a :: (as ++ [f]), isFree e = true → e.addr = s.h.top := fun e he hf => by
    have : e.addr ∈ freeSet (a :: (as ++ [f])) := mem_freeSet.2 ⟨e, he, hf, rfl⟩
    rw [fs1] at this; exact List.mem_singleton.1 this
  have fs2 : freeSet (np :: ([nr] ++ [f])) = [T] := by
    simp [freeSet, List.filter, isFree, np3, nr3, nr4, hfp, nr1]
  have hfnr : findEnt H.ents T = some nr := by
    rw [hi.ents, ← nr1]; exact entsOk_find nr (by simp) hst.ents
  have hff : findEnt H.ents (s.h.top + s.h.topsize) = some f := by
    rw [hi.ents, ← hfa]; exact entsOk_find f (by simp) hst.ents
  have hbins := bins_window w hes hi.ents hok' hi.sbins hi.tbins (fun e he hf => Or.inl (hmid e he hf))
  refine wfs_of_parts w (by rw [hi.ents, hi.top]; exact hst) ?_ hbins.1 hbins.2 ?_ ?_
  · exact freeListOk_moved w hes hi.ents hok' fs1 fs2 (freeList_top t1)
      (by rw [freeList_top (hi.top ▸ hT0), hi.top, hi.dv, binned_congr hi.sbins hi.tbins]) hinside
  · exact dvOk_window w hes hi.ents hok' hi.dv hi.dvsize
      (fun e he hf h => w.dv_ne_top t1 (h.symm.trans (hmid e he hf)))
  · refine (topOk_cons_iff (s := { s with h := H }) hsegs).2 ?_
    show H.top ≠ 0 ∧ 0 < H.topsize ∧ g.base ≤ H.top ∧ H.top + H.topsize + 80 = g.base + g.size ∧ g.recAt = 0 ∧
      (∃ x, findEnt H.ents H.top = some x ∧ _) ∧ ∃ f, findEnt H.ents (H.top + H.topsize) = some f ∧ _
    rw [hi.top, hi.topsize, hTS]
    obtain ⟨f', hff', hf'⟩ := t7
    have : f' = f := by
      rw [← hfa, entsOk_find f hfm w.ents] at hff'; injection hff' with h; exact h.symm
    subst this
    exact ⟨hT0, hTS0, Nat.le_trans t3 (Nat.le_of_lt hin), t4, t5, ⟨nr, hfnr, isFree_iff.2 ⟨nr3, nr4⟩, nr2⟩, f', hff, hf'⟩

/-! ### `dv-split` -/

theorem dv_split_wfs {s : St} (w : WFS s) {nb : Nat} (hnb16 : nb % 16 = 0) (hnb32 : 32 ≤ nb)
    (hle : nb ≤ s.h.dvsize) (hge : 32 ≤ s.h.dvsize - nb) {h1 h2 : Heap}
    (e1 : set_size_and_pinuse_of_free_chunk { s.h with dv := s.h.dv + nb, dvsize := s.h.dvsize - nb }
      (s.h.dv + nb) (s.h.dvsize - nb) = .ok h1)
    (e2 : set_size_and_pinuse_of_inuse_chunk h1 s.h.dv nb = .ok h2) (t : String) :
    WFS { s with h := h2.tag t } ∧ AllocAt s.h.ents (h2.tag t).ents nb s.h.dv := by
  -- 1. the headers
  have hnb0 : 0 < nb := Nat.lt_of_lt_of_le (by decide) hnb32
  have hrs0 : 0 < s.h.dvsize - nb := Nat.lt_of_lt_of_le (by decide) hge
  obtain ⟨x, hxm, hxa, hxf, hxs, hd32, hdv0, hdvtop⟩ := w.dv_parts (Nat.ne_of_gt (Nat.lt_of_lt_of_le hnb0 hle))
  obtain ⟨pre, y, post, g, fa⟩ := w.freeAt hxm hxf (by rw [hxa]; exact hdvtop)
  -- 2. the final heap
  have r := split_free_inuse_at e1 e2 (pre := pre) (post := post) (x := x) (y := y) fa.hes w.ents hxa
    hnb0 (by rw [hxs, Nat.add_sub_cancel' hle]) hrs0 fa.ya
  have hi : HeapIs (h2.tag t) (pre ++ [{ addr := s.h.dv, size := nb, cin := true, pin := true, pfoot := x.pfoot },
      { addr := s.h.dv + nb, size := s.h.dvsize - nb, cin := false, pin := true, pfoot := 0 },
      { y with pfoot := s.h.dvsize - nb }] ++ post) s.h.sbins s.h.tbins (s.h.dv + nb) (s.h.dvsize - nb)
      s.h.top s.h.topsize := by
    rw [r]; exact ⟨rfl, rfl, rfl, rfl, rfl, rfl, rfl⟩
  generalize h2.tag t = H at hi ⊢
  -- 3. the table
  obtain ⟨hst, hal, fs1, fs2, hfnr, hins⟩ := split_table w fa hnb16 (Nat.le_trans (by decide) hnb32)
    (hxs ▸ Nat.lt_of_sub_pos hrs0)
    (np := { addr := s.h.dv, size := nb, cin := true, pin := true, pfoot := x.pfoot })
    (nr := { addr := s.h.dv + nb, size := s.h.dvsize - nb, cin := false, pin := true, pfoot := 0 })
    (ny := { y with pfoot := s.h.dvsize - nb })
    hxa.symm rfl rfl rfl (by rw [hxa]) (by rw [hxs]) rfl rfl rfl rfl fa.yc fa.yp (by rw [hxs])
  rw [hxa] at hal fs1 fs2 hfnr hins
  have hok' : entsOk H.ents = true := by rw [hi.ents]; exact hst.ents
  -- 4. bookkeeping
  have hbins := bins_window w fa.hes hi.ents hok' hi.sbins hi.tbins (fa.free_mid (Or.inr hxa))
  refine ⟨wfs_of_parts w (by rw [hi.ents, hi.top]; exact hst) ?_ hbins.1 hbins.2 ?_ ?_, by rw [hi.ents]; exact hal⟩
  · exact freeListOk_moved w fa.hes hi.ents hok' fs1 fs2 (freeList_dv hdv0)
      (by rw [freeList_dv (hi.dv ▸ Nat.ne_of_gt (Nat.add_pos_right _ hnb0)), hi.top, hi.dv, binned_congr hi.sbins hi.tbins])
      hins
  · unfold dvOk
    rw [hi.dv, hi.dvsize, hi.ents, if_neg (Nat.ne_of_gt (Nat.add_pos_right _ hnb0)), hfnr]
    simp [isFree, hge]
  · exact topOk_window w fa.hes hi.ents hok' (List.ne_nil_of_mem fa.hg)
      hi.top hi.topsize fa.top_mid

/-! ### `dv-exhaust` -/

theorem dv_exhaust_wfs {s : St} (w : WFS s) {nb : Nat} (hnb32 : 32 ≤ nb) (hle : nb ≤ s.h.dvsize) {h1 : Heap}
    (e1 : set_inuse_and_pinuse { s.h with dvsize := 0, dv := 0 } s.h.dv s.h.dvsize = .ok h1) (t : String) :
    WFS { s with h := h1.tag t } ∧ AllocAt s.h.ents (h1.tag t).ents nb s.h.dv := by
  obtain ⟨x, hxm, hxa, hxf, hxs, hd32, hdv0, hdvtop⟩ := w.dv_parts (by omega)
  obtain ⟨pre, y, post, g, fa⟩ := w.freeAt hxm hxf (by rw [hxa]; exact hdvtop)
  have r := set_inuse_and_pinuse_at e1 (pre := pre) (post := post) (x := x) (y := y) fa.hes w.ents hxa hxs fa.ya
  have hi : HeapIs (h1.tag t) (pre ++ [{ x with cin := true, pin := true }, { y with pin := true }] ++ post)
      s.h.sbins s.h.tbins 0 0 s.h.top s.h.topsize := by
    rw [r]; exact ⟨rfl, rfl, rfl, rfl, rfl, rfl, rfl⟩
  generalize h1.tag t = H at hi ⊢
  obtain ⟨hst, hal, fs1, fs2⟩ := exhaust_table w fa (nb := nb)
    (nx := { x with cin := true, pin := true }) (ny := { y with pin := true })
    rfl rfl rfl rfl rfl rfl fa.yc rfl (by omega)
  rw [hxa] at fs1
  have hok' : entsOk H.ents = true := by rw [hi.ents]; exact hst.ents
  have hbins := bins_window w fa.hes hi.ents hok' hi.sbins hi.tbins (fa.free_mid (Or.inr hxa))
  refine ⟨wfs_of_parts w (by rw [hi.ents, hi.top]; exact hst) ?_ hbins.1 hbins.2 ?_ ?_, by rw [hi.ents, ← hxa]; exact hal⟩
  · refine freeListOk_replace w fa.hes hi.ents hok' (A := if s.h.top = 0 then [] else [s.h.top]) (B := binned s.h)
      ?_ ?_ (by rw [fs2]; simp) (by rw [fs2]; simp)
    · rw [fs1]; exact freeList_dv hdv0
    · rw [fs2, freeList_nodv hi.dv, hi.top, binned_congr hi.sbins hi.tbins]
  · unfold dvOk; rw [hi.dv, hi.dvsize]; rfl
  · exact topOk_window w fa.hes hi.ents hok' (List.ne_nil_of_mem fa.hg)
      hi.top hi.topsize fa.top_mid

/-! ### `top-split` (also the tail of `sys_alloc`) -/

/-- the table after carving `nb` bytes from `top`: `[x, f]` (the old `top`, its foot word) became
`[np, nr, f]` (allocated chunk, remainder = new `top`, the same foot word) -/
theorem top_split_core {s : St} (w : WFS s) {nb : Nat} (hnb16 : nb % 16 = 0) (hnb32 : 32 ≤ nb)
    (hlt : nb < s.h.topsize)
    {pre post : List Ent} {x f : Ent} {g : Seg} {rest : List Seg} (hsegs : s.segs = g :: rest)
    (hes2 : s.h.ents = pre ++ [x, f] ++ post)
    (hxa : x.addr = s.h.top) (hxf : isFree x = true) (hxs : x.size = s.h.topsize)
    (hfa : f.addr = s.h.top + s.h.topsize) (hfc : f.cin = false) (hfp : f.pin = false)
    (hgx : inSeg g x = true) (hgf : inSeg g f = true) (htop0 : s.h.top ≠ 0)
    {H : Heap} {np nr : Ent}
    (hi : HeapIs H (pre ++ [np, nr, f] ++ post) s.h.sbins s.h.tbins s.h.dv s.h.dvsize (s.h.top + nb) (s.h.topsize - nb))
    (np1 : np.addr = s.h.top) (np2 : np.size = nb) (np3 : np.cin = true) (np4 : np.pin = true)
    (nr1 : nr.addr = s.h.top + nb) (nr2 : nr.size = s.h.topsize - nb) (nr3 : nr.cin = false) (nr4 : nr.pin = true) :
    WFS { s with h := H } ∧ AllocAt s.h.ents H.ents nb s.h.top := by
  have hxm : x ∈ s.h.ents := by rw [hes2]; simp
  obtain ⟨hxc, hxp⟩ := isFree_iff.1 hxf
  obtain ⟨hx16, _, _⟩ := shapeOk_free w.shape hxm hxc
  have w' : WFS { s with h := H } :=
    top_carve_wfs w (as := []) hsegs hes2
      (by
        intro e he
        simp only [List.nil_append, List.mem_cons, List.not_mem_nil, or_false] at he
        rcases he with rfl | rfl <;> assumption)
      (by simp [freeSet, List.filter, isFree, hxc, hxp, hfp, hxa]) (Nat.le_of_eq hxa) hx16 hfa hfc hfp
      hnb16 (Nat.le_trans (by decide) hnb32) (by rw [hxa]) (Nat.lt_add_of_pos_right (Nat.lt_of_lt_of_le (by decide) hnb32))
      (by rw [Nat.add_assoc, Nat.add_sub_cancel' (Nat.le_of_lt hlt)]) (Nat.sub_pos_of_lt hlt) hi
      (np1.trans hxa.symm) np2 np3 ⟨by rw [np4, hxp], fun h => by rw [hxp] at h; cases h⟩ nr1 nr2 nr3 nr4
  have hok' : entsOk (pre ++ [np, nr, f] ++ post) = true := hi.ents ▸ w'.ents
  have hle : nb ≤ x.size := hxs ▸ Nat.le_of_lt hlt
  refine ⟨w', ⟨x, hxm, hxa, hxf, hle, np, ?_, np3, Nat.le_of_eq np2.symm, np2 ▸ hle⟩, ?_, ?_⟩
  · rw [hi.ents, ← np1]; exact entsOk_find np (by simp) hok'
  · intro a
    rw [hi.ents, hes2]
    simp only [cinSet_append, List.mem_append]
    have c1 : cinSet [x, f] = [] := by simp [cinSet, List.filter, hxc, hfc]
    have c2 : cinSet [np, nr, f] = [s.h.top] := by simp [cinSet, List.filter, np3, nr3, hfc, np1]
    rw [c1, c2]
    simp only [List.mem_cons, List.not_mem_nil, or_false]
    constructor
    · rintro ((h | h) | h)
      · exact Or.inr (Or.inl h)
      · exact Or.inl h
      · exact Or.inr (Or.inr h)
    · rintro (h | h | h)
      · exact Or.inl (Or.inr h)
      · exact Or.inl (Or.inl h)
      · exact Or.inr h
  · rw [hi.ents, hes2]
    refine inusePreserved_window hok' ?_
    intro e he hc
    simp only [List.mem_cons, List.not_mem_nil, or_false] at he
    rcases he with rfl | rfl
    · rw [hxc] at hc; cases hc
    · rw [hfc] at hc; cases hc

/-- the two header writes of `top-split` / of the tail of `sys_alloc` as an equation on the table: `[x, f]`
(`top` and its foot word) became `[np, nr, f]` -/
theorem top_split_eq {s : St} (w : WFS s) {nb : Nat} (hnb32 : 32 ≤ nb) (hlt : nb < s.h.topsize) {h1 h2 : Heap}
    (e1 : writeHead { s.h with topsize := s.h.topsize - nb, top := s.h.top + nb } (s.h.top + nb) (s.h.topsize - nb) false true = .ok h1)
    (e2 : set_size_and_pinuse_of_inuse_chunk h1 s.h.top nb = .ok h2) :
    ∃ g rest pre x f post, s.segs = g :: rest ∧ s.h.ents = pre ++ [x, f] ++ post ∧ x.addr = s.h.top ∧
      isFree x = true ∧ x.size = s.h.topsize ∧ f.addr = s.h.top + s.h.topsize ∧ f.cin = false ∧ f.pin = false ∧
      f.size = 80 ∧ g.base ≤ s.h.top ∧ s.h.top + s.h.topsize + 80 = g.base + g.size ∧ s.h.top ≠ 0 ∧
      inSeg g x = true ∧ inSeg g f = true ∧
      h2 = { s.h with topsize := s.h.topsize - nb, top := s.h.top + nb,
                      ents := pre ++ [{ addr := s.h.top, size := nb, cin := true, pin := true, pfoot := x.pfoot },
                        { addr := s.h.top + nb, size := s.h.topsize - nb, cin := false, pin := true, pfoot := 0 }, f] ++ post } := by
  obtain ⟨g, rest, pre, x, f, post, hsegs, hes, hxa, hxf, hxs, hfa, hfc, hfp, hfs, hgb, hgt, htop0, hgx, hgf⟩ :=
    w.top_parts (Nat.ne_of_gt (Nat.zero_lt_of_lt hlt))
  have hok := w.ents
  rw [hes] at hok
  obtain ⟨o1, _, _, _, o5⟩ := entsOk_mid2 hok
  have hxm : x ∈ s.h.ents := by rw [hes]; simp
  have hnb0 : 0 < nb := Nat.lt_of_lt_of_le (by decide) hnb32
  have hxr : x.addr < s.h.top + nb := hxa ▸ Nat.lt_add_of_pos_right hnb0
  have hrf : s.h.top + nb + (s.h.topsize - nb) = f.addr := by
    rw [Nat.add_assoc, Nat.add_sub_cancel' (Nat.le_of_lt hlt), hfa]
  have hrf' : s.h.top + nb < f.addr := hrf ▸ Nat.lt_add_of_pos_right (Nat.sub_pos_of_lt hlt)
  have hpre : ∀ q ∈ pre, q.addr < s.h.top := fun q hq => hxa ▸ (o1 q hq).2
  have hpost : ∀ q ∈ post, f.addr < q.addr := fun q hq => (o5 q hq).2
  have hrnone : findEnt s.h.ents (s.h.top + nb) = none :=
    findEnt_none (entsOk_no_inside w.ents hxm hxr (by rw [hxa, hxs, ← hfa]; exact hrf'))
  -- the header of the remainder (the new `top`), strictly inside the old one
  have r1 := writeHead_window_ok e1 (pre := pre ++ [x]) (ms := []) (post := f :: post)
    (by show s.h.ents = _; rw [hes]; simp)
    (by
      intro q hq
      rcases List.mem_append.1 hq with hq | hq
      · exact Nat.lt_trans (hpre q hq) (Nat.lt_add_of_pos_right hnb0)
      · rw [List.mem_singleton.1 hq]; exact hxr)
    (by simp)
    (by
      intro q hq
      rw [hrf]
      rcases List.mem_cons.1 hq with rfl | hq
      · exact ⟨hrf', Nat.le_refl _⟩
      · exact ⟨Nat.lt_trans hrf' (hpost q hq), Nat.le_of_lt (hpost q hq)⟩)
  dsimp only at r1
  rw [pfootAt_none hrnone] at r1
  subst r1
  -- the header of the allocated chunk over the old `top` header
  unfold set_size_and_pinuse_of_inuse_chunk at e2
  have r2 := writeHead_window_ok e2 (pre := pre) (ms := [x])
    (post := { addr := s.h.top + nb, size := s.h.topsize - nb, cin := false, pin := true, pfoot := 0 } :: f :: post)
    (by simp) hpre
    (by intro q hq; rw [List.mem_singleton.1 hq]; exact ⟨Nat.le_of_eq hxa.symm, Or.inl hxa⟩)
    (by
      intro q hq
      rcases List.mem_cons.1 hq with rfl | hq
      · exact ⟨Nat.lt_add_of_pos_right hnb0, Nat.le_refl _⟩
      · have : s.h.top + nb < q.addr := by
          rcases List.mem_cons.1 hq with rfl | hq
          · exact hrf'
          · exact Nat.lt_trans hrf' (hpost q hq)
        exact ⟨Nat.lt_trans (Nat.lt_add_of_pos_right hnb0) this, Nat.le_of_lt this⟩)
  have hpf2 : pfootAt (pre ++ [x] ++ { addr := s.h.top + nb, size := s.h.topsize - nb, cin := false, pin := true, pfoot := 0 } :: f :: post)
      s.h.top = x.pfoot := by
    apply pfootAt_some
    rw [List.append_assoc, findEnt_skip (fun q hq => Nat.ne_of_lt (hpre q hq)), ← hxa]
    exact findEnt_head
  dsimp only at r2
  rw [hpf2] at r2
  subst r2
  exact ⟨g, rest, pre, x, f, post, hsegs, by rw [hes]; simp, hxa, hxf, hxs, hfa, hfc, hfp, hfs, hgb, hgt, htop0, hgx, hgf,
    by simp⟩

/-- `top-split` / the tail of `sys_alloc`, from any well-formed state whose `top` is larger than the request;
`tr` is the ghost branch trace stored with the heap (`Heap.tag` appends to it, `sys_alloc` leaves it alone) -/
theorem top_split_wfs {s : St} (w : WFS s) {nb : Nat} (hnb16 : nb % 16 = 0) (hnb32 : 32 ≤ nb)
    (hlt : nb < s.h.topsize) {h1 h2 : Heap}
    (e1 : writeHead { s.h with topsize := s.h.topsize - nb, top := s.h.top + nb } (s.h.top + nb) (s.h.topsize - nb) false true = .ok h1)
    (e2 : set_size_and_pinuse_of_inuse_chunk h1 s.h.top nb = .ok h2) (tr : List String) :
    WFS { s with h := { h2 with tr := tr } } ∧ AllocAt s.h.ents h2.ents nb s.h.top := by
  obtain ⟨g, rest, pre, x, f, post, hsegs, hes, hxa, hxf, hxs, hfa, hfc, hfp, _, _, _, htop0, hgx, hgf, r⟩ :=
    top_split_eq w hnb32 hlt e1 e2
  subst r
  exact top_split_core (pre := pre) (post := post) (x := x) (f := f) w hnb16 hnb32 hlt hsegs hes
    hxa hxf hxs hfa hfc hfp hgx hgf htop0
    (np := { addr := s.h.top, size := nb, cin := true, pin := true, pfoot := x.pfoot })
    (nr := { addr := s.h.top + nb, size := s.h.topsize - nb, cin := false, pin := true, pfoot := 0 })
    ⟨rfl, rfl, rfl, rfl, rfl, rfl, rfl⟩ rfl rfl rfl rfl rfl rfl rfl rfl

/-- **`malloc_dv_top` preserves state-level well-formedness** (all three branches: `dv-split`,
`dv-exhaust`, `top-split`), and describes the chunk handed out (`AllocFacts`: `mem = p + 16` for a
header address `p` that was free — `dv` or `top` —, now in use with at least `nb` bytes; the in-use
addresses are the old ones plus `p`; every old in-use header keeps address, size and CINUSE).
`nb` is the padded request: a multiple of 16 and at least `MIN_CHUNK_SIZE` — true at every call site
in `malloc_nosys` (`request2size_aligned`, `request2size_ge_min`, `pad_request_aligned`, `pad_request_ge`). -/
theorem malloc_dv_top_wfs {s : St} (hw : WFS s) {nb : Nat} (hnb16 : nb % 16 = 0) (hnb32 : 32 ≤ nb)
    {h' : Heap} {mem : Nat} (hh : malloc_dv_top s.h nb = .ok (.done h' mem)) :
    WFS { s with h := h' } ∧ AllocFacts s.h.ents h'.ents nb mem := by
  unfold malloc_dv_top at hh
  dsimp only at hh
  split at hh
  · rename_i hle
    split at hh
    · rename_i hge
      msimp at hh
      obtain ⟨h1, e1, h2, e2, hh⟩ := hh
      injection hh with hh1 hh2
      subst hh1; subst hh2
      rw [MIN_CHUNK_SIZE_eq] at hge
      obtain ⟨r1, r2⟩ := dv_split_wfs hw hnb16 hnb32 hle hge e1 e2 "dv-split"
      exact ⟨r1, s.h.dv, by rw [MEM_OFFSET_eq], r2⟩
    · msimp at hh
      obtain ⟨h1, e1, hh⟩ := hh
      injection hh with hh1 hh2
      subst hh1; subst hh2
      obtain ⟨r1, r2⟩ := dv_exhaust_wfs hw hnb32 hle e1 "dv-exhaust"
      exact ⟨r1, s.h.dv, by rw [MEM_OFFSET_eq], r2⟩
  · split at hh
    · rename_i hlt
      msimp at hh
      obtain ⟨h1, e1, h2, e2, hh⟩ := hh
      injection hh with hh1 hh2
      subst hh1; subst hh2
      obtain ⟨r1, r2⟩ := top_split_wfs hw hnb16 hnb32 hlt e1 e2 (h2.tr ++ ["top-split"])
      exact ⟨r1, s.h.top, by rw [MEM_OFFSET_eq], r2⟩
    · msimp at hh
      cases hh

/-! ### non-vacuity: a reachable state on which each of the three branches is taken -/

/-- three small blocks, the middle one freed (small bin), then an 8-byte request served from that bin
with a split (`small-next-split`), whose 80-byte remainder becomes `dv` -/
def pilotOps : List (Op × List OsDir) :=
  [(.malloc 1 100 8, [.m (some 1048576)]), (.malloc 2 100 8, []), (.malloc 3 100 8, []), (.free 2, []),
   (.malloc 5 8 8, [])]

def pilotState : Hist := match Hist.init.run pilotOps with
  | .ok (hs, _) => hs
  | .error _ => Hist.init

/-- `malloc_dv_top h nb` succeeds with a chunk and its last branch tag is `tag` -/
def branchIs (h : Heap) (nb : Nat) (tag : String) : Bool :=
  match malloc_dv_top h nb with
  | .ok (.done h' _) => h'.tr.getLast? == some tag
  | _ => false

set_option maxRecDepth 40000 in
/-- the hypotheses of `malloc_dv_top_wfs` hold on `pilotState` (80 bytes in `dv`) for requests that take
the `dv-split`, `dv-exhaust` and `top-split` branches -/
example : WFS pilotState.st ∧ pilotState.st.h.dvsize = 80 ∧
    branchIs pilotState.st.h 48 "dv-split" = true ∧ branchIs pilotState.st.h 64 "dv-exhaust" = true ∧
    branchIs pilotState.st.h 4096 "top-split" = true :=
  ⟨((wf_iff_wfs pilotState).1 (by unfold WF; decide +kernel)).1, by decide +kernel⟩

end TinyVerif.Dl
