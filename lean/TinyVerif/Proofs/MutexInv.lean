import TinyVerif.Model.Mutex
namespace TinyVerif.Mutex

/-- the inductive invariant of the mutex protocol (any number of threads) -/
structure MInv (s : St) : Prop where
  outside : ∀ i, s.n ≤ i → (s.ths i).pc = .idle
  wle : s.wval ≤ 2
  free : s.wval = 0 → ∀ i, holds (s.ths i) = false
  held : s.wval ≠ 0 → ∃ i, holds (s.ths i) = true
  uniq : ∀ i j, holds (s.ths i) = true → holds (s.ths j) = true → i = j
  nrace : s.raced = false
  dvle : ∀ i, (s.ths i).dv ≤ s.dlatest
  hdv : ∀ i, holds (s.ths i) = true → (s.ths i).dv = s.dlatest
  wvle : s.wview ≤ s.dlatest
  wv0 : s.wval = 0 → s.wview = s.dlatest
  nolost : (∃ i, isParked (s.ths i) = true) →
    s.wval = 2 ∨ (∃ i, wakePending (s.ths i) = true) ∨ (∃ i, contender (s.ths i) = true)

@[simp] theorem setTh_ths_same (s : St) (i : Nat) (t : Th) : (setTh s i t).ths i = t := by simp [setTh]
theorem setTh_ths (s : St) (i j : Nat) (t : Th) : (setTh s i t).ths j = if j = i then t else s.ths j := rfl
@[simp] theorem setTh_wval (s : St) (i : Nat) (t : Th) : (setTh s i t).wval = s.wval := rfl
@[simp] theorem setTh_wview (s : St) (i : Nat) (t : Th) : (setTh s i t).wview = s.wview := rfl
@[simp] theorem setTh_dlatest (s : St) (i : Nat) (t : Th) : (setTh s i t).dlatest = s.dlatest := rfl
@[simp] theorem setTh_raced (s : St) (i : Nat) (t : Th) : (setTh s i t).raced = s.raced := rfl
@[simp] theorem setTh_n (s : St) (i : Nat) (t : Th) : (setTh s i t).n = s.n := rfl

abbrev setPc (s : St) (i : Nat) (p : Pc) : St := setTh s i { s.ths i with pc := p }

inductive Step (c : Cfg) (s : St) (i : Nat) : Pc → Ev → St → Prop
  | callLock {tx rest} : (s.ths i).prog = tx :: rest → tx.try_ = false →
      Step c s i .idle .callLock (setPc s i (.fastCas false))
  | callTry {tx rest} : (s.ths i).prog = tx :: rest → tx.try_ = true →
      Step c s i .idle .callTry (setPc s i (.fastCas true))
  | fastOk {tr} : s.wval = 0 →
      Step c s i (.fastCas tr) (.cas true s.wval) (rmw s i (s.ths i) (if tr then c.tryAcq else c.lockAcq) false 1 .acquired)
  | fastFail {tr} : s.wval ≠ 0 →
      Step c s i (.fastCas tr) (.cas false s.wval) (setPc s i (if tr then .tryFailed else .spin c.spinMax true))
  | tryfail : Step c s i .tryFailed .tryfail (setTh s i { s.ths i with pc := .idle, prog := popTxn (s.ths i) })
  | spinStop {n first} (v) : v ≠ 1 ∨ n = 0 →
      Step c s i (.spin n first) (.load v) (setPc s i (if first ∧ v = 0 then .casAfterSpin else loopTop v))
  | spinOn {n first} (v) : ¬ (v ≠ 1 ∨ n = 0) →
      Step c s i (.spin n first) (.load v) (setPc s i (.spin (n - 1) first))
  | cas2Ok : s.wval = 0 →
      Step c s i .casAfterSpin (.cas true s.wval) (rmw s i (s.ths i) c.cas2Acq false 1 .acquired)
  | cas2Fail : s.wval ≠ 0 →
      Step c s i .casAfterSpin (.cas false s.wval) (setPc s i (loopTop s.wval))
  | swap2 : Step c s i .swap2 (.swap 2 s.wval)
      (rmw s i (s.ths i) c.swap2Acq false 2 (if s.wval = 0 then .acquired else .waitLoad))
  | waitLoad (v) : Step c s i .waitLoad (.load v) (setPc s i (if v ≠ 2 then .spin c.spinMax false else .waitSys))
  | park : s.wval = 2 → Step c s i .waitSys (.fwait 2 true) (setPc s i .parked)
  | noPark : s.wval ≠ 2 → Step c s i .waitSys (.fwait 2 false) (setPc s i (.spin c.spinMax false))
  | spur (eintr) : Step c s i .parked (.spur eintr) (setPc s i (if eintr then .waitLoad else .spin c.spinMax false))
  | acq {tx rest} : (s.ths i).prog = tx :: rest → Step c s i .acquired .acq (setPc s i (.hold tx.acc))
  | data {k} : Step c s i (.hold (k + 1)) .data
      (setTh { s with raced := s.raced || ((s.ths i).dv != s.dlatest), dlatest := s.dlatest + 1 } i
        { s.ths i with pc := .hold k, dv := s.dlatest + 1 })
  | rel : Step c s i (.hold 0) .rel (setPc s i .unlockSwap)
  | unlock : Step c s i .unlockSwap (.swap 0 s.wval)
        (rmw s i { s.ths i with prog := if s.wval = 2 then (s.ths i).prog else popTxn (s.ths i) } false c.unlockRel 0
          (if s.wval = 2 then .wake else .idle))
  | wakeNone : anyParked s = false →
      Step c s i .wake (.fwake 1 none) (setTh s i { s.ths i with pc := .idle, prog := popTxn (s.ths i) })
  | wakeOne {j} : j < s.n → j ≠ i → (s.ths j).pc = .parked →
      Step c s i .wake (.fwake 1 (some j))
        (setTh (setTh s j { s.ths j with pc := .spin c.spinMax false }) i { s.ths i with pc := .idle, prog := popTxn (s.ths i) })

theorem Step.accepted {c : Cfg} {s s' : St} {i : Nat} {p : Pc} {e : Ev} (hi : i < s.n) (hpc : (s.ths i).pc = p)
    (h : Step c s i p e s') : step c s i e = some s' := by
  have hn : ¬ i ≥ s.n := by omega
  cases h <;> simp [Mutex.step, setPc, *]

theorem step_sound {c : Cfg} {s s' : St} {i : Nat} {e : Ev} (h : step c s i e = some s') :
    i < s.n ∧ Step c s i (s.ths i).pc e s' := by
  rw [step, Option.ite_none_left_eq_some] at h
  obtain ⟨hi, h⟩ := h
  refine ⟨by omega, ?_⟩
  simp only [] at h
  split at h
  · rename_i hpc
    split at h
    · rename_i hpr
      rw [Option.ite_none_left_eq_some] at h
      obtain ⟨htr, h⟩ := h
      cases h; exact hpc ▸ .callLock hpr (Bool.eq_false_iff.mpr htr)
    · cases h
  · rename_i hpc
    split at h
    · rename_i hpr
      rw [Option.ite_none_right_eq_some] at h
      obtain ⟨htr, h⟩ := h
      cases h; exact hpc ▸ .callTry hpr htr
    · cases h
  · rename_i tr ok old hpc
    rw [Option.ite_none_left_eq_some] at h
    obtain ⟨ho, h⟩ := h
    obtain rfl : old = s.wval := Decidable.not_not.mp ho
    cases ok
    · rw [if_neg Bool.false_ne_true, Option.ite_none_left_eq_some] at h
      obtain ⟨h0, h⟩ := h
      cases h; exact hpc ▸ .fastFail h0
    · rw [if_pos rfl, Option.ite_none_right_eq_some] at h
      obtain ⟨h0, h⟩ := h
      cases h; exact hpc ▸ .fastOk h0
  · rename_i hpc; cases h; exact hpc ▸ .tryfail
  · rename_i n first v hpc
    by_cases hv : v ≠ 1 ∨ n = 0
    · rw [if_pos hv] at h; cases h; exact hpc ▸ .spinStop v hv
    · rw [if_neg hv] at h; cases h; exact hpc ▸ .spinOn v hv
  · rename_i ok old hpc
    rw [Option.ite_none_left_eq_some] at h
    obtain ⟨ho, h⟩ := h
    obtain rfl : old = s.wval := Decidable.not_not.mp ho
    cases ok
    · rw [if_neg Bool.false_ne_true, Option.ite_none_left_eq_some] at h
      obtain ⟨h0, h⟩ := h
      cases h; exact hpc ▸ .cas2Fail h0
    · rw [if_pos rfl, Option.ite_none_right_eq_some] at h
      obtain ⟨h0, h⟩ := h
      cases h; exact hpc ▸ .cas2Ok h0
  · rename_i new old hpc
    rw [Option.ite_none_left_eq_some] at h
    obtain ⟨hc, h⟩ := h
    obtain ⟨rfl, rfl⟩ : new = 2 ∧ old = s.wval := by simpa using hc
    cases h; exact hpc ▸ .swap2
  · rename_i v hpc; cases h; exact hpc ▸ .waitLoad v
  · rename_i expect park hpc
    rw [Option.ite_none_left_eq_some] at h
    obtain ⟨he, h⟩ := h
    obtain rfl : expect = 2 := Decidable.not_not.mp he
    cases park
    · rw [if_neg Bool.false_ne_true, Option.ite_none_left_eq_some] at h
      obtain ⟨h2, h⟩ := h
      cases h; exact hpc ▸ .noPark h2
    · rw [if_pos rfl, Option.ite_none_right_eq_some] at h
      obtain ⟨h2, h⟩ := h
      cases h; exact hpc ▸ .park h2
  · rename_i eintr hpc; cases h; exact hpc ▸ .spur eintr
  · rename_i hpc
    split at h
    · cases h; exact hpc ▸ .acq ‹_›
    · cases h
  · rename_i k hpc; cases h; exact hpc ▸ .data
  · rename_i hpc; cases h; exact hpc ▸ .rel
  · rename_i new old hpc
    rw [Option.ite_none_left_eq_some] at h
    obtain ⟨hc, h⟩ := h
    obtain ⟨rfl, rfl⟩ : new = 0 ∧ old = s.wval := by simpa using hc
    cases h; exact hpc ▸ .unlock
  · rename_i num woken hpc
    rw [Option.ite_none_left_eq_some] at h
    obtain ⟨hn, h⟩ := h
    obtain rfl : num = 1 := Decidable.not_not.mp hn
    cases woken <;> simp only [Option.ite_none_left_eq_some] at h
    · obtain ⟨hp, h⟩ := h
      cases h; exact hpc ▸ .wakeNone (Bool.eq_false_iff.mpr hp)
    · obtain ⟨hj, hp, h⟩ := h
      cases h; exact hpc ▸ .wakeOne (by omega) (by omega) (Decidable.not_not.mp hp)
  · cases h

theorem init_inv (progs : List (List Txn)) : MInv (init progs) := by
  constructor <;> simp [init, holds, isParked, wakePending, contender]

/-- a thread that keeps a parked waiter from being forgotten: an awake contender, or a holder about to issue the wake -/
def witness (t : Th) : Bool := contender t || wakePending t

/-- thread `i` gets a new record with the same view and guard status, memory untouched.  It may park only on a word
that is 2 (`hp`); if it was a witness (`hw`) it stays one, or another thread is one, or nobody is parked afterwards,
or the word is 2. -/
theorem inv_setpc_gen (s : St) (i : Nat) (t' : Th) (hinv : MInv s) (hi : i < s.n)
    (hdv : t'.dv = (s.ths i).dv) (hh : holds t' = holds (s.ths i))
    (hp : isParked t' = true → s.wval = 2)
    (hw : witness (s.ths i) = true → witness t' = true ∨ (∃ k, k ≠ i ∧ witness (s.ths k) = true) ∨
            (isParked t' = false ∧ ∀ k, k ≠ i → isParked (s.ths k) = false) ∨ s.wval = 2) :
    MInv (setTh s i t') := by
  obtain ⟨o, wle, free, held, uniq, nrace, dvle, hdv', wvle, wv0, nolost⟩ := hinv
  refine ⟨?_, wle, ?_, ?_, ?_, nrace, ?_, ?_, wvle, wv0, ?_⟩
  · intro j hj
    have : j ≠ i := by simp at hj; omega
    simp [setTh_ths, this]; exact o j hj
  · intro h0 j
    by_cases hj : j = i
    · subst hj; simp [hh]; exact free h0 j
    · simp [setTh_ths, hj]; exact free h0 j
  · intro h0
    obtain ⟨j, hj⟩ := held h0
    refine ⟨j, ?_⟩
    by_cases hji : j = i
    · subst hji; simp [hh, hj]
    · simp [setTh_ths, hji, hj]
  · intro a b ha hb
    have ha' : holds (s.ths a) = true := by
      by_cases h : a = i
      · subst h; simpa [hh] using ha
      · simpa [setTh_ths, h] using ha
    have hb' : holds (s.ths b) = true := by
      by_cases h : b = i
      · subst h; simpa [hh] using hb
      · simpa [setTh_ths, h] using hb
    exact uniq a b ha' hb'
  · intro j
    by_cases hj : j = i
    · subst hj; simp [hdv]; exact dvle j
    · simp [setTh_ths, hj]; exact dvle j
  · intro j hj
    by_cases hji : j = i
    · subst hji; simp [hh] at hj; simp [hdv]; exact hdv' j hj
    · simp [setTh_ths, hji] at hj ⊢; exact hdv' j hj
  · rintro ⟨j, hj⟩
    have wit_of : ∀ k, witness ((setTh s i t').ths k) = true →
        (∃ k, wakePending ((setTh s i t').ths k) = true) ∨ (∃ k, contender ((setTh s i t').ths k) = true) := by
      intro k hk
      simp only [witness, Bool.or_eq_true] at hk
      rcases hk with h | h
      · exact Or.inr ⟨k, h⟩
      · exact Or.inl ⟨k, h⟩
    have keep : ∀ k, k ≠ i → witness (s.ths k) = true → witness ((setTh s i t').ths k) = true := by
      intro k hk h; simpa [setTh_ths, hk] using h
    have fromOld : witness (s.ths i) = true →
        s.wval = 2 ∨ (∃ k, wakePending ((setTh s i t').ths k) = true) ∨ (∃ k, contender ((setTh s i t').ths k) = true) := by
      intro hwi
      rcases hw hwi with h | ⟨k, hk, h⟩ | ⟨hnp, hall⟩ | h
      · exact Or.inr (wit_of i (by simpa using h))
      · exact Or.inr (wit_of k (keep k hk h))
      · exfalso
        by_cases hji : j = i
        · subst hji; simp [hnp] at hj
        · have := hall j hji; simp [setTh_ths, hji, this] at hj
      · exact Or.inl h
    by_cases hji : j = i
    · subst hji; simp at hj; exact Or.inl (hp hj)
    · simp [setTh_ths, hji] at hj
      rcases nolost ⟨j, hj⟩ with h | ⟨k, hk⟩ | ⟨k, hk⟩
      · exact Or.inl h
      · by_cases hki : k = i
        · subst hki; exact fromOld (by simp [witness, hk])
        · exact Or.inr (wit_of k (keep k hki (by simp [witness, hk])))
      · by_cases hki : k = i
        · subst hki; exact fromOld (by simp [witness, hk])
        · exact Or.inr (wit_of k (keep k hki (by simp [witness, hk])))

theorem inv_setpc (s : St) (i : Nat) (t' : Th) (hinv : MInv s) (hi : i < s.n)
    (hdv : t'.dv = (s.ths i).dv) (hh : holds t' = holds (s.ths i))
    (hp : isParked t' = true → s.wval = 2)
    (hw : witness (s.ths i) = true → witness t' = true) :
    MInv (setTh s i t') :=
  inv_setpc_gen s i t' hinv hi hdv hh hp (fun h => Or.inl (hw h))


theorem witness_of_nolost {s : St} (hinv : MInv s) (j : Nat) (hj : isParked (s.ths j) = true) :
    s.wval = 2 ∨ ∃ k, witness (s.ths k) = true := by
  rcases hinv.nolost ⟨j, hj⟩ with h | ⟨k, hk⟩ | ⟨k, hk⟩
  · exact Or.inl h
  · exact Or.inr ⟨k, by simp [witness, hk]⟩
  · exact Or.inr ⟨k, by simp [witness, hk]⟩

theorem nolost_of_witness {s : St} (k : Nat) (hk : witness (s.ths k) = true) :
    s.wval = 2 ∨ (∃ i, wakePending (s.ths i) = true) ∨ (∃ i, contender (s.ths i) = true) := by
  simp only [witness, Bool.or_eq_true] at hk
  rcases hk with h | h
  · exact Or.inr (Or.inr ⟨k, h⟩)
  · exact Or.inr (Or.inl ⟨k, h⟩)

/-- winning the lock: an acquire RMW on an unlocked word (`0 → 1` by CAS, `0 → 2` by swap) -/
theorem inv_acquire (s : St) (i : Nat) (new : Nat) (hinv : MInv s) (hi : i < s.n)
    (h0 : s.wval = 0) (hnew : new = 1 ∨ new = 2)
    (hw : witness (s.ths i) = true → new = 2) :
    MInv (rmw s i (s.ths i) true false new .acquired) := by
  have hfree := hinv.free h0
  have hwv := hinv.wv0 h0
  obtain ⟨o, wle, free, held, uniq, nrace, dvle, hdv', wvle, wv0, nolost⟩ := hinv
  unfold rmw
  simp only [if_true]
  refine ⟨?_, ?_, ?_, ?_, ?_, ?_, ?_, ?_, ?_, ?_, ?_⟩
  · intro j hj
    have : j ≠ i := by simp at hj; omega
    simp [setTh_ths, this]; exact o j hj
  · simp; omega
  · intro h; simp at h; omega
  · intro _; exact ⟨i, by simp [holds]⟩
  · intro a b ha hb
    by_cases h1 : a = i
    · by_cases h2 : b = i
      · omega
      · simp [setTh_ths, h2, hfree b] at hb
    · simp [setTh_ths, h1, hfree a] at ha
  · simpa using nrace
  · intro j
    by_cases hj : j = i
    · subst hj; simp; have := dvle j; omega
    · simp [setTh_ths, hj]; exact dvle j
  · intro j hj
    by_cases hji : j = i
    · subst hji; simp; have := dvle j; omega
    · simp [setTh_ths, hji, hfree j] at hj
  · simpa using wvle
  · intro h; simp at h; omega
  · rintro ⟨j, hj⟩
    by_cases hji : j = i
    · subst hji; simp [isParked] at hj
    · simp [setTh_ths, hji] at hj
      rcases nolost ⟨j, hj⟩ with h | ⟨k, hk⟩ | ⟨k, hk⟩
      · omega
      · by_cases hki : k = i
        · subst hki; left; simp; exact hw (by simp [witness, hk])
        · exact Or.inr (Or.inl ⟨k, by simp [setTh_ths, hki, hk]⟩)
      · by_cases hki : k = i
        · subst hki; left; simp; exact hw (by simp [witness, hk])
        · exact Or.inr (Or.inr ⟨k, by simp [setTh_ths, hki, hk]⟩)

/-- `swap(2)` on a word that is held by someone else: mark contended, go wait -/
theorem inv_swap2_busy (s : St) (i : Nat) (acq : Bool) (hinv : MInv s) (hi : i < s.n)
    (h0 : s.wval ≠ 0) (hh : holds (s.ths i) = false) :
    MInv (rmw s i (s.ths i) acq false 2 .waitLoad) := by
  obtain ⟨o, wle, free, held, uniq, nrace, dvle, hdv', wvle, wv0, nolost⟩ := hinv
  unfold rmw
  simp only [Bool.false_eq_true, if_false]
  refine ⟨?_, ?_, ?_, ?_, ?_, ?_, ?_, ?_, ?_, ?_, ?_⟩
  · intro j hj
    have : j ≠ i := by simp at hj; omega
    simp [setTh_ths, this]; exact o j hj
  · simp
  · intro h; simp at h
  · intro _
    obtain ⟨j, hj⟩ := held h0
    have : j ≠ i := by intro h; subst h; simp [hh] at hj
    exact ⟨j, by simp [setTh_ths, this, hj]⟩
  · intro a b ha hb
    have ha' : holds (s.ths a) = true := by
      by_cases h : a = i
      · subst h; simp [holds] at ha
      · simpa [setTh_ths, h] using ha
    have hb' : holds (s.ths b) = true := by
      by_cases h : b = i
      · subst h; simp [holds] at hb
      · simpa [setTh_ths, h] using hb
    exact uniq a b ha' hb'
  · simpa using nrace
  · intro j
    by_cases hj : j = i
    · subst hj; simp; split <;> (have := dvle j; omega)
    · simp [setTh_ths, hj]; exact dvle j
  · intro j hj
    by_cases hji : j = i
    · subst hji; simp [holds] at hj
    · simp [setTh_ths, hji] at hj ⊢; exact hdv' j hj
  · simpa using wvle
  · intro h; simp at h
  · intro _; left; simp

/-- unlocking: the holder's release `swap(0)`; wake pending iff the old value was 2 -/
theorem inv_unlock (s : St) (i : Nat) (pr : List Txn) (hinv : MInv s) (hi : i < s.n)
    (hpc : (s.ths i).pc = .unlockSwap) :
    MInv (rmw s i { s.ths i with prog := pr } false true 0 (if s.wval = 2 then .wake else .idle)) := by
  have hhold : holds (s.ths i) = true := by simp [holds, hpc]
  have hdvi := hinv.hdv i hhold
  obtain ⟨o, wle, free, held, uniq, nrace, dvle, hdv', wvle, wv0, nolost⟩ := hinv
  unfold rmw
  simp only [Bool.false_eq_true, if_false, if_true]
  have hnh : ∀ j, j ≠ i → holds (s.ths j) = false := by
    intro j hj
    cases h : holds (s.ths j) with
    | false => rfl
    | true => exact absurd (uniq j i h hhold) hj
  have hpcs : ∀ p : Pc, (p = .wake ∨ p = .idle) → holds { pc := p, dv := (s.ths i).dv, prog := pr } = false := by
    intro p hp; rcases hp with h | h <;> simp [holds, h]
  have hsplit : (if s.wval = 2 then Pc.wake else Pc.idle) = .wake ∨ (if s.wval = 2 then Pc.wake else Pc.idle) = .idle := by
    split <;> simp
  refine ⟨?_, ?_, ?_, ?_, ?_, ?_, ?_, ?_, ?_, ?_, ?_⟩
  · intro j hj
    have : j ≠ i := by simp at hj; omega
    simp [setTh_ths, this]; exact o j hj
  · simp
  · intro _ j
    by_cases hj : j = i
    · subst hj; simp; exact hpcs _ hsplit
    · simp [setTh_ths, hj]; exact hnh j hj
  · intro h; simp at h
  · intro a b ha hb
    by_cases h1 : a = i
    · subst h1; simp [hpcs _ hsplit] at ha
    · simp [setTh_ths, h1, hnh a h1] at ha
  · simpa using nrace
  · intro j
    by_cases hj : j = i
    · subst hj; simp; exact dvle j
    · simp [setTh_ths, hj]; exact dvle j
  · intro j hj
    by_cases hji : j = i
    · subst hji; simp [hpcs _ hsplit] at hj
    · simp [setTh_ths, hji, hnh j hji] at hj
  · simp; omega
  · intro _; simp; omega
  · rintro ⟨j, hj⟩
    by_cases hji : j = i
    · subst hji
      rcases hsplit with h | h <;> simp [isParked, h] at hj
    · simp [setTh_ths, hji] at hj
      rcases nolost ⟨j, hj⟩ with h | ⟨k, hk⟩ | ⟨k, hk⟩
      · right; left; exact ⟨i, by simp [wakePending, h]⟩
      · have hki : k ≠ i := by intro h; subst h; simp [wakePending, hpc] at hk
        exact Or.inr (Or.inl ⟨k, by simp [setTh_ths, hki, hk]⟩)
      · have hki : k ≠ i := by intro h; subst h; simp [contender, hpc] at hk
        exact Or.inr (Or.inr ⟨k, by simp [setTh_ths, hki, hk]⟩)

/-- a guarded data access by the holder -/
theorem inv_data (s : St) (i k : Nat) (hinv : MInv s) (hi : i < s.n) (hpc : (s.ths i).pc = .hold (k + 1)) :
    MInv (setTh { s with raced := s.raced || ((s.ths i).dv != s.dlatest), dlatest := s.dlatest + 1 } i
          { s.ths i with pc := .hold k, dv := s.dlatest + 1 }) := by
  have hhold : holds (s.ths i) = true := by simp [holds, hpc]
  have hdvi := hinv.hdv i hhold
  have hw0 : s.wval ≠ 0 := by
    intro h; have := hinv.free h i; simp [hhold] at this
  obtain ⟨o, wle, free, held, uniq, nrace, dvle, hdv', wvle, wv0, nolost⟩ := hinv
  have hnh : ∀ j, j ≠ i → holds (s.ths j) = false := by
    intro j hj
    cases h : holds (s.ths j) with
    | false => rfl
    | true => exact absurd (uniq j i h hhold) hj
  refine ⟨?_, ?_, ?_, ?_, ?_, ?_, ?_, ?_, ?_, ?_, ?_⟩
  · intro j hj
    have : j ≠ i := by simp at hj; omega
    simp [setTh_ths, this]; exact o j hj
  · simpa using wle
  · intro h; simp at h; exact absurd h hw0
  · intro _; exact ⟨i, by simp [holds]⟩
  · intro a b ha hb
    by_cases h1 : a = i
    · by_cases h2 : b = i
      · omega
      · simp [setTh_ths, h2, hnh b h2] at hb
    · simp [setTh_ths, h1, hnh a h1] at ha
  · simp [nrace, hdvi]
  · intro j
    by_cases hj : j = i
    · subst hj; simp
    · simp [setTh_ths, hj]; have := dvle j; omega
  · intro j hj
    by_cases hji : j = i
    · subst hji; simp
    · simp [setTh_ths, hji, hnh j hji] at hj
  · simp; omega
  · intro h; simp at h; exact absurd h hw0
  · rintro ⟨j, hj⟩
    have hji : j ≠ i := by intro h; subst h; simp [isParked] at hj
    simp [setTh_ths, hji] at hj
    rcases nolost ⟨j, hj⟩ with h | ⟨k', hk⟩ | ⟨k', hk⟩
    · left; simpa using h
    · have hki : k' ≠ i := by intro h; subst h; simp [wakePending, hpc] at hk
      exact Or.inr (Or.inl ⟨k', by simp [setTh_ths, hki, hk]⟩)
    · have hki : k' ≠ i := by intro h; subst h; simp [contender, hpc] at hk
      exact Or.inr (Or.inr ⟨k', by simp [setTh_ths, hki, hk]⟩)

theorem anyParked_false {s : St} (hinv : MInv s) (h : anyParked s = false) : ∀ j, isParked (s.ths j) = false := by
  intro j
  by_cases hj : j < s.n
  · simp only [anyParked, List.any_eq_false, List.mem_range] at h
    have := h j hj
    simpa using this
  · have := hinv.outside j (by omega)
    simp [isParked, this]

theorem inv_move (s : St) (i : Nat) (p' : Pc) (hinv : MInv s) (hi : i < s.n)
    (h : holds { s.ths i with pc := p' } = holds (s.ths i) ∧ (p' = .parked → s.wval = 2) ∧
      (witness (s.ths i) = true → witness { s.ths i with pc := p' } = true)) : MInv (setPc s i p') :=
  inv_setpc s i _ hinv hi rfl h.1 (fun hp => h.2.1 (by simpa [isParked] using hp)) h.2.2

macro "setpc_case" hpc:ident : tactic => `(tactic|
  (refine inv_setpc _ _ _ (by assumption) (by assumption) ?_ ?_ ?_ ?_ <;>
    simp (config := {decide := true}) [holds, isParked, witness, contender, wakePending, loopTop, $hpc:ident] <;>
    (try (repeat' split) <;> simp_all (config := {decide := true}) [holds, isParked, witness, contender, wakePending, loopTop])))

theorem step_inv (c : Cfg) (hc : c.Good) (s s' : St) (i : Nat) (e : Ev)
    (h : step c s i e = some s') (hinv : MInv s) : MInv s' := by
  obtain ⟨hc1, hc2, hc3, hc4, hc5⟩ := hc
  obtain ⟨hi, hs⟩ := step_sound h
  generalize hpc : (s.ths i).pc = p at hs
  cases hs with
  | callLock | callTry | acq | rel | noPark =>
    exact inv_move s i _ hinv hi (by simp [holds, witness, contender, wakePending, hpc])
  | @fastOk tr h0 =>
    have : (if tr = true then c.tryAcq else c.lockAcq) = true := by split <;> assumption
    rw [this]
    exact inv_acquire s i 1 hinv hi h0 (Or.inl rfl) (by simp [witness, contender, wakePending, hpc])
  | @fastFail tr =>
    cases tr <;> exact inv_move s i _ hinv hi (by simp [holds, witness, contender, wakePending, hpc])
  | tryfail =>
    exact inv_setpc s i _ hinv hi rfl (by simp [holds, hpc]) (by simp [isParked]) (by simp [witness, contender, wakePending, hpc])
  | @spinOn n first v =>
    cases first <;> exact inv_move s i _ hinv hi (by simp [holds, witness, contender, wakePending, hpc])
  | @spinStop n first v =>
    refine inv_move s i _ hinv hi ?_
    -- a contender (`first = false`) goes on to `swap2` or `waitLoad`, both contenders; the first spin is no witness
    cases first <;> unfold loopTop <;> (repeat' split) <;> simp_all [holds, witness, contender, wakePending]
  | cas2Ok h0 =>
    rw [hc3]
    exact inv_acquire s i 1 hinv hi h0 (Or.inl rfl) (by simp [witness, contender, wakePending, hpc])
  | cas2Fail =>
    refine inv_move s i _ hinv hi ?_
    unfold loopTop; split <;> simp [holds, witness, contender, wakePending, hpc]
  | swap2 =>
    rw [hc4]
    by_cases hw0 : s.wval = 0
    · rw [if_pos hw0]
      exact inv_acquire s i 2 hinv hi hw0 (Or.inr rfl) (fun _ => rfl)
    · rw [if_neg hw0]
      exact inv_swap2_busy s i true hinv hi hw0 (by simp [holds, hpc])
  | waitLoad v | spur v =>
    refine inv_move s i _ hinv hi ?_
    split <;> simp [holds, witness, contender, wakePending, hpc]
  | park h2 =>
    exact inv_setpc_gen s i _ hinv hi rfl (by simp [holds, hpc]) (fun _ => h2) (fun _ => Or.inr (Or.inr (Or.inr h2)))
  | data => exact inv_data s i _ hinv hi hpc
  | unlock => rw [hc5]; exact inv_unlock s i _ hinv hi hpc
  | wakeNone hnp =>
    have hall := anyParked_false hinv hnp
    exact inv_setpc_gen s i _ hinv hi rfl (by simp [holds, hpc]) (by simp [isParked])
      (fun _ => Or.inr (Or.inr (Or.inl ⟨by simp [isParked], fun k _ => hall k⟩)))
  | @wakeOne j hj hji hjp =>
    have h1 : MInv (setPc s j (.spin c.spinMax false)) :=
      inv_move s j _ hinv hj (by simp [holds, witness, contender, wakePending, hjp])
    have hti : (setPc s j (.spin c.spinMax false)).ths i = s.ths i := by simp [setTh_ths, Ne.symm hji]
    refine inv_setpc_gen _ i _ h1 hi ?_ ?_ ?_ ?_
    · simp [hti]
    · simp [hti, holds, hpc]
    · simp [isParked]
    · exact fun _ => Or.inr (Or.inl ⟨j, hji, by simp [witness, contender]⟩)

theorem step_fastCas {c : Cfg} {s s' : St} {i : Nat} {e : Ev} {tr : Bool} (hpc : (s.ths i).pc = .fastCas tr)
    (h : step c s i e = some s') :
    (s.wval = 0 ∧ (s'.ths i).pc = .acquired) ∨
    (s.wval ≠ 0 ∧ (s'.ths i).pc = if tr then .tryFailed else .spin c.spinMax true) := by
  have hs := (step_sound h).2
  rw [hpc] at hs
  cases hs with
  | fastOk h0 => exact Or.inl ⟨h0, by simp [rmw]⟩
  | fastFail h0 => exact Or.inr ⟨h0, by simp⟩

theorem run_preserves {P : St → Prop} (c : Cfg) (hstep : ∀ s s' i e, step c s i e = some s' → P s → P s') :
    ∀ s s' evs, run c s evs = some s' → P s → P s' := by
  intro s s' evs
  induction evs generalizing s with
  | nil => intro h hp; cases h; exact hp
  | cons x rest ih =>
    intro h hp
    rw [run] at h
    split at h
    · exact ih _ h (hstep _ _ _ _ ‹_› hp)
    · cases h

end TinyVerif.Mutex
