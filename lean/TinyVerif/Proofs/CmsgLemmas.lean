/- Lemmas for C16 part 3 (control messages).
The chains of `if`s of the model are taken apart with `by_cases` and `rw [if_pos ..]`: `split` on them is slow to check. -/
import TinyVerif.Model.Cmsg
namespace TinyVerif.Cmsg

theorem le_length (k n : Nat) : (le k n).length = k := by
  induction k generalizing n with
  | zero => rfl
  | succ k ih => simp [le, ih]

theorem unle_le (k n : Nat) (h : n < 256 ^ k) : unle (le k n) = n := by
  induction k generalizing n with
  | zero => simp at h; simp [le, unle, h]
  | succ k ih =>
    simp only [le, unle]
    rw [ih (n / 256) (by rw [Nat.pow_succ] at h; omega)]
    omega

theorem align_ge (n : Nat) : n ≤ cmsgAlign n := by simp only [cmsgAlign]; omega
theorem align_lt (n : Nat) : cmsgAlign n < n + 8 := by simp only [cmsgAlign]; omega
theorem align_hdr : cmsgAlign HDR = 16 := by decide
theorem space_eq (n : Nat) : cmsgSpace (FD * n) = cmsgAlign (HDR + FD * n) := by
  simp only [cmsgSpace, cmsgAlign, HDR, FD]; omega
theorem len_eq (n : Nat) : cmsgLen (FD * n) = HDR + FD * n := by
  simp only [cmsgLen, cmsgAlign, HDR, FD]

theorem encFds_length (fds : List Nat) : (encFds fds).length = FD * fds.length := by
  induction fds with
  | nil => rfl
  | cons f t ih => simp only [encFds, List.length_append, le_length, ih, List.length_cons, FD]; omega

theorem encHdr_length (l a b : Nat) : (encHdr l a b).length = HDR := by
  simp [encHdr, le_length]

theorem decHdr_enc (l a b : Nat) (rest : List Nat) (hl : l < 256 ^ 8) (ha : a < 256 ^ 4) (hb : b < 256 ^ 4) :
    decHdr (encHdr l a b ++ rest) = some ⟨l, a, b⟩ := by
  have h8 := le_length 8 l
  have h4 := le_length 4 a
  unfold decHdr encHdr
  rw [if_neg (by simp only [List.length_append, le_length, HDR]; omega)]
  simp only [List.append_assoc]
  rw [show (12 : Nat) = 8 + 4 from rfl, ← List.drop_drop, List.drop_left' h8, List.take_left' h8, List.take_left' h4,
    List.drop_left' h4, List.take_left' (le_length 4 b), unle_le 8 l hl, unle_le 4 a ha, unle_le 4 b hb]

theorem groups4_enc (fds rest : List Nat) (hf : ∀ f ∈ fds, f < 256 ^ 4) :
    groups4 fds.length (encFds fds ++ rest) = fds := by
  induction fds with
  | nil => rfl
  | cons f t ih =>
    have h4 := le_length 4 f
    simp only [List.length_cons, groups4, encFds, List.append_assoc]
    rw [List.take_left' h4, List.drop_left' h4]
    rw [unle_le 4 f (hf f (by simp)), ih (fun x hx => hf x (by simp [hx]))]


theorem cmsgOk_iff (ctl off : Nat) (h : Hdr) : cmsgOk ctl off h = true ↔ HDR ≤ h.len ∧ h.len ≤ ctl - off := by
  simp only [cmsgOk, Bool.and_eq_true, decide_eq_true_eq]

theorem cmsgOk_le {ctl off : Nat} {h : Hdr} (hok : cmsgOk ctl off h = true) (hoff : off ≤ ctl) :
    16 ≤ h.len ∧ off + h.len ≤ ctl := by
  rw [cmsgOk_iff] at hok; simp only [HDR] at hok; omega

theorem isRights_iff (h : Hdr) : isRights h = true ↔ (h.typ = SCM_RIGHTS ∧ h.level = SOL_SOCKET) := by
  simp only [isRights, Bool.and_eq_true, decide_eq_true_eq]

theorem nxthdr_spec (base ctl off : Nat) (h : Hdr) :
    (nxthdr base ctl off h = .error .panic ∧ HDR ≤ h.len ∧ (U64 ≤ cmsgAlign h.len + HDR ∨ U64 ≤ base + ctl ∨ ctl < off)) ∨
    (nxthdr base ctl off h = .ok none ∧ (h.len < HDR ∨ ctl - off ≤ cmsgAlign h.len + HDR)) ∨
    (nxthdr base ctl off h = .ok (some (cmsgAlign h.len)) ∧ HDR ≤ h.len ∧ cmsgAlign h.len + HDR < ctl - off) := by
  have := align_ge h.len
  unfold nxthdr
  by_cases h0 : h.len < HDR
  · rw [if_pos h0]; exact .inr (.inl ⟨rfl, .inl h0⟩)
  rw [if_neg h0]
  by_cases h1 : U64 ≤ h.len + 8
  · rw [if_pos h1]; exact .inl ⟨rfl, by omega, .inl (by simp only [U64, HDR] at *; omega)⟩
  rw [if_neg h1]
  by_cases h2 : U64 ≤ cmsgAlign h.len + HDR
  · rw [if_pos h2]; exact .inl ⟨rfl, by omega, .inl h2⟩
  rw [if_neg h2]
  by_cases h3 : U64 ≤ base + ctl
  · rw [if_pos h3]; exact .inl ⟨rfl, by omega, .inr (.inl h3)⟩
  rw [if_neg h3]
  by_cases h4 : ctl < off
  · rw [if_pos h4]; exact .inl ⟨rfl, by omega, .inr (.inr h4)⟩
  rw [if_neg h4]
  by_cases h5 : cmsgAlign h.len + HDR ≥ ctl - off
  · rw [if_pos h5]; exact .inr (.inl ⟨rfl, .inr h5⟩)
  · rw [if_neg h5]; exact .inr (.inr ⟨rfl, by omega, by omega⟩)

theorem nxthdr_ok (base ctl off : Nat) (h : Hdr) (hok : cmsgOk ctl off h = true) (hoff : off + HDR ≤ ctl)
    (hctl : ctl < 2 ^ 63) (hb : base + ctl < U64) :
    nxthdr base ctl off h = .ok (if ctl ≤ off + cmsgAlign h.len + HDR then none else some (cmsgAlign h.len)) := by
  rw [cmsgOk_iff] at hok
  have := align_lt h.len
  have sp := nxthdr_spec base ctl off h
  simp only [HDR, U64] at *
  rcases sp with ⟨_, _, c⟩ | ⟨e, c⟩ | ⟨e, _, c⟩
  · omega
  · rw [e, if_pos (by omega)]
  · rw [e, if_neg (by omega)]

theorem nxthdr_malformed (base ctl off : Nat) (h : Hdr) (hnok : cmsgOk ctl off h = false) (hoff : off ≤ ctl)
    (hb : base + ctl < U64) (hsmall : h.len < HDR ∨ h.len + 24 ≤ U64) : nxthdr base ctl off h = .ok none := by
  have hn : ¬ (HDR ≤ h.len ∧ h.len ≤ ctl - off) := by rw [← cmsgOk_iff, hnok]; exact Bool.false_ne_true
  have := align_ge h.len
  have := align_lt h.len
  have sp := nxthdr_spec base ctl off h
  simp only [HDR, U64] at *
  rcases sp with ⟨_, _, c⟩ | ⟨e, _⟩ | ⟨_, _, c⟩
  · omega
  · exact e
  · omega

theorem isRights_false {h : Hdr} (hr : ¬ (h.typ = SCM_RIGHTS ∧ h.level = SOL_SOCKET)) : isRights h = false :=
  Bool.eq_false_iff.mpr (mt (isRights_iff h).mp hr)

theorem hdrStepOrig_cases (base ctl off : Nat) (m : List Nat) (h : Hdr) :
    (∃ rd b, hdrStepOrig base ctl off m h = .error ⟨[], rd, some b⟩ ∧ b ≠ .fuel) ∨
    (∃ item rd nx, hdrStepOrig base ctl off m h = .ok (item, rd, nx) ∧ item.isSome = isRights h ∧
      nxthdr base ctl off h = .ok nx) := by
  have hb : ∀ b, nxthdr base ctl off h = .error b → b ≠ .fuel := by
    intro b hn
    rcases nxthdr_spec base ctl off h with ⟨e, _⟩ | ⟨e, _⟩ | ⟨e, _⟩ <;> rw [e] at hn <;> cases hn
    nofun
  unfold hdrStepOrig
  by_cases hr : h.typ = SCM_RIGHTS ∧ h.level = SOL_SOCKET
  · rw [if_pos hr]
    by_cases c1 : U64 ≤ base + off + h.len
    · rw [if_pos c1]; exact .inl ⟨_, _, rfl, nofun⟩
    rw [if_neg c1]
    by_cases c2 : h.len < HDR
    · rw [if_pos c2]; exact .inl ⟨_, _, rfl, nofun⟩
    rw [if_neg c2]
    cases hn : nxthdr base ctl off h with
    | error b => exact .inl ⟨_, _, rfl, hb b hn⟩
    | ok nx =>
      simp only
      by_cases c3 : ISIZE_MAX < FD * ((h.len - HDR) / FD)
      · rw [if_pos c3]; exact .inl ⟨_, _, rfl, nofun⟩
      rw [if_neg c3]
      by_cases c4 : (m.drop HDR).length < FD * ((h.len - HDR) / FD)
      · rw [if_pos c4]; exact .inl ⟨_, _, rfl, nofun⟩
      · rw [if_neg c4]; exact .inr ⟨_, _, _, rfl, ((isRights_iff h).mpr hr).symm, rfl⟩
  · rw [if_neg hr]
    cases hn : nxthdr base ctl off h with
    | error b => exact .inl ⟨_, _, rfl, hb b hn⟩
    | ok nx => exact .inr ⟨_, _, _, rfl, (isRights_false hr).symm, rfl⟩

theorem hdrStep_false (base ctl off : Nat) (m : List Nat) (h : Hdr) :
    hdrStep false base ctl off m h = hdrStepOrig base ctl off m h := by
  simp only [hdrStep, Bool.false_eq_true, if_false]

theorem hdrStep_repair (fixed : Bool) (base ctl off : Nat) (m : List Nat) (h : Hdr) :
    hdrStep fixed base ctl off m h = hdrStepOrig base ctl off m h ∨
    hdrStep fixed base ctl off m h = .error ⟨[], [(off, HDR)], some .panic⟩ ∨
    hdrStep fixed base ctl off m h = .ok (none, [(off, HDR)], none) := by
  unfold hdrStep
  cases fixed with
  | false => exact .inl (if_neg Bool.false_ne_true)
  | true =>
    rw [if_pos rfl]
    by_cases c1 : U64 ≤ base + ctl
    · rw [if_pos c1]; exact .inr (.inl rfl)
    rw [if_neg c1]
    by_cases c2 : h.len < HDR ∨ ctl - off < h.len
    · rw [if_pos c2]; exact .inr (.inr rfl)
    · rw [if_neg c2]; exact .inl rfl

/-- a call of `next` that goes on advances by at least 16 and stays inside the buffer: what termination rests on -/
theorem hdrStep_cases (fixed : Bool) (base ctl off : Nat) (m : List Nat) (h : Hdr) :
    (∃ rd b, hdrStep fixed base ctl off m h = .error ⟨[], rd, some b⟩ ∧ b ≠ .fuel) ∨
    (∃ item rd, hdrStep fixed base ctl off m h = .ok (item, rd, none)) ∨
    (∃ item rd, hdrStep fixed base ctl off m h = .ok (item, rd, some (cmsgAlign h.len)) ∧
      HDR ≤ h.len ∧ cmsgAlign h.len + HDR < ctl - off) := by
  rcases hdrStep_repair fixed base ctl off m h with e | e | e <;> rw [e]
  · rcases hdrStepOrig_cases base ctl off m h with c | ⟨item, rd, nx, e, _, hn⟩
    · exact .inl c
    · rcases nxthdr_spec base ctl off h with ⟨e', _⟩ | ⟨e', _⟩ | ⟨e', c⟩ <;> rw [e'] at hn <;> cases hn
      · exact .inr (.inl ⟨_, _, e⟩)
      · exact .inr (.inr ⟨_, _, e, c⟩)
  · exact .inl ⟨_, _, rfl, nofun⟩
  · exact .inr (.inl ⟨_, _, rfl⟩)


/-! ### one call of `next` on a header that is CMSG_OK -/

/-- what `next` yields for a header that is CMSG_OK (`m`: the memory from the header on) -/
def hdrItem (m : List Nat) (h : Hdr) : Option (List Nat) :=
  if isRights h then some (groups4 ((h.len - HDR) / FD) (m.drop HDR)) else none

/-- and what it reads, the consumer of the slice included -/
def hdrReads (off : Nat) (h : Hdr) : List (Nat × Nat) :=
  if isRights h then [(off, HDR), (off + HDR, FD * ((h.len - HDR) / FD))] else [(off, HDR)]

theorem hdrReads_bounds (ctl off : Nat) (h : Hdr) (hok : cmsgOk ctl off h = true) :
    ∀ x ∈ hdrReads off h, off ≤ x.1 ∧ x.1 + x.2 ≤ off + h.len := by
  rw [cmsgOk_iff] at hok
  intro x hx
  unfold hdrReads at hx
  simp only [HDR, FD] at *
  by_cases hr : isRights h = true
  · rw [if_pos hr, List.mem_cons, List.mem_singleton] at hx
    rcases hx with rfl | rfl
    · exact ⟨Nat.le_refl _, by omega⟩
    · exact ⟨by omega, by omega⟩
  · rw [if_neg hr, List.mem_singleton] at hx
    subst hx; exact ⟨Nat.le_refl _, by omega⟩

theorem rightsOf_cons (mem : List Nat) (off : Nat) (h : Hdr) (t : List (Nat × Hdr)) :
    rightsOf mem ((off, h) :: t) = (hdrItem (mem.drop off) h).toList ++ rightsOf mem t := by
  rw [rightsOf, hdrItem]
  by_cases hr : isRights h = true
  · rw [if_pos hr, if_pos hr, List.drop_drop]; rfl
  · rw [if_neg hr, if_neg hr]; rfl

/-- on a header that is CMSG_OK the repaired code does what the code did before -/
theorem hdrStep_of_ok (fixed : Bool) (base ctl off : Nat) (m : List Nat) (h : Hdr) (hok : cmsgOk ctl off h = true)
    (hb : base + ctl < U64) : hdrStep fixed base ctl off m h = hdrStepOrig base ctl off m h := by
  rw [cmsgOk_iff] at hok
  cases fixed with
  | false => exact hdrStep_false base ctl off m h
  | true =>
    unfold hdrStep
    rw [if_pos rfl, if_neg (by omega), if_neg (by simp only [HDR] at *; omega)]

theorem hdrStep_ok (fixed : Bool) (base ctl off : Nat) (m : List Nat) (h : Hdr) (hok : cmsgOk ctl off h = true)
    (hoff : off + HDR ≤ ctl) (hm : ctl ≤ off + m.length) (hctl : ctl < 2 ^ 63) (hb : base + ctl < U64) :
    hdrStep fixed base ctl off m h =
      .ok (hdrItem m h, hdrReads off h, if ctl ≤ off + cmsgAlign h.len + HDR then none else some (cmsgAlign h.len)) := by
  rw [hdrStep_of_ok fixed base ctl off m h hok hb]
  unfold hdrStepOrig hdrItem hdrReads
  rw [nxthdr_ok base ctl off h hok hoff hctl hb]
  rw [cmsgOk_iff] at hok
  by_cases hr : h.typ = SCM_RIGHTS ∧ h.level = SOL_SOCKET
  · rw [if_pos hr, (isRights_iff h).mpr hr, if_pos rfl, if_pos rfl]
    simp only [HDR, FD, U64, ISIZE_MAX, List.length_drop] at *
    rw [if_neg (by omega), if_neg (by omega), if_neg (by omega), if_neg (by omega)]
  · rw [if_neg hr, isRights_false hr]; rfl

/-! ### the iterator against the CMSG_OK walk, for EVERY memory content -/

/-- what the iterator does with the header `h` at `o` when `cmsg_nxthdr!` ends the walk there -/
def lastStep (fixed : Bool) (base ctl o : Nat) (m : List Nat) (h : Hdr) : IterOut :=
  match hdrStep fixed base ctl o m h with
  | .error out => out
  | .ok (item, rd, _) => ⟨item.toList, rd, none⟩

theorem decHdr_some (m : List Nat) (h : HDR ≤ m.length) : ∃ hd, decHdr m = some hd := by
  simp only [decHdr, if_neg (by omega : ¬ m.length < HDR)]
  exact ⟨_, rfl⟩

theorem iterFrom_malformed (fixed : Bool) (fuel base ctl off : Nat) (m : List Nat) (h : Hdr) (hdec : decHdr m = some h)
    (hnok : cmsgOk ctl off h = false) :
    iterFrom fixed (fuel + 1) base ctl off m = lastStep fixed base ctl off m h := by
  have hn : ¬ (HDR ≤ h.len ∧ h.len ≤ ctl - off) := by rw [← cmsgOk_iff, hnok]; exact Bool.false_ne_true
  have := align_ge h.len
  simp only [iterFrom, hdec, lastStep]
  rcases hdrStep_cases fixed base ctl off m h with ⟨_, _, e, _⟩ | ⟨_, _, e⟩ | ⟨_, _, _, c⟩
  · rw [e]
  · rw [e]; simp only [List.append_nil]
  · omega

/-- where the walk `w` ended: at the end of the buffer, or at the first header that is not CMSG_OK -/
def stopAt (ctl : Nat) : Stop → Nat
  | .malformed o _ => o
  | _ => ctl

/-- what the iterator does where the walk ended -/
def stopOut (fixed : Bool) (base : Nat) (mem : List Nat) (ctl : Nat) : Stop → IterOut
  | .malformed o h => lastStep fixed base ctl o (mem.drop o) h
  | _ => ⟨[], [], none⟩

theorem wfWalk_stop (mem : List Nat) (ctl : Nat) (hmem : ctl ≤ mem.length) :
    ∀ (fuel off : Nat), off + HDR ≤ ctl → ctl < off + fuel →
      (wfWalk uNext fuel mem ctl off).2 = .done ∨
      ∃ o h, (wfWalk uNext fuel mem ctl off).2 = .malformed o h ∧ o + HDR ≤ ctl ∧ decHdr (mem.drop o) = some h ∧
        cmsgOk ctl o h = false := by
  intro fuel
  induction fuel with
  | zero => intro off _ h; omega
  | succ fuel ih =>
    intro off hoff hf
    obtain ⟨h, hdec⟩ := decHdr_some (mem.drop off) (by rw [List.length_drop]; omega)
    unfold wfWalk
    simp only [hdec]
    cases hok : cmsgOk ctl off h with
    | false => exact .inr ⟨off, h, rfl, hoff, hdec, hok⟩
    | true =>
      have := cmsgOk_le hok (Nat.le_of_add_right_le hoff)
      have := align_ge h.len
      rw [if_pos rfl, uNext]
      by_cases hc : ctl ≤ off + cmsgAlign h.len + HDR
      · rw [if_pos hc]; exact .inl rfl
      · rw [if_neg hc]; exact ih _ (by omega) (by omega)

theorem iter_walk (fixed : Bool) (base : Nat) (mem : List Nat) (ctl : Nat) (hmem : ctl ≤ mem.length) (hctl : ctl < 2 ^ 63)
    (hb : base + ctl < U64) : ∀ (fuel fuel' off : Nat), off + HDR ≤ ctl → ctl < off + fuel → ctl < off + fuel' →
    ∃ pre, iterFrom fixed fuel base ctl off (mem.drop off) =
        ⟨rightsOf mem (wfWalk uNext fuel' mem ctl off).1 ++ (stopOut fixed base mem ctl (wfWalk uNext fuel' mem ctl off).2).msgs,
         pre ++ (stopOut fixed base mem ctl (wfWalk uNext fuel' mem ctl off).2).reads,
         (stopOut fixed base mem ctl (wfWalk uNext fuel' mem ctl off).2).bad⟩ ∧
      off ≤ stopAt ctl (wfWalk uNext fuel' mem ctl off).2 ∧
      ∀ x ∈ pre, off ≤ x.1 ∧ x.1 + x.2 ≤ stopAt ctl (wfWalk uNext fuel' mem ctl off).2 := by
  intro fuel
  induction fuel with
  | zero => intro fuel' off _ h; omega
  | succ fuel ih =>
    intro fuel' off hoff hf hf'
    obtain ⟨fuel', rfl⟩ : ∃ f, fuel' = f + 1 := ⟨fuel' - 1, by omega⟩
    obtain ⟨h, hdec⟩ := decHdr_some (mem.drop off) (by rw [List.length_drop]; omega)
    cases hok : cmsgOk ctl off h with
    | false =>
      rw [iterFrom_malformed fixed fuel base ctl off _ h hdec hok]
      simp only [wfWalk, hdec, hok, Bool.false_eq_true, if_false]
      exact ⟨[], rfl, Nat.le_refl _, nofun⟩
    | true =>
      have hoff' : off ≤ ctl := Nat.le_of_add_right_le hoff
      have hlen := cmsgOk_le hok hoff'
      have ha1 := align_ge h.len
      have hrd := hdrReads_bounds ctl off h hok
      have hs := hdrStep_ok fixed base ctl off (mem.drop off) h hok hoff (by rw [List.length_drop]; omega) hctl hb
      by_cases hc : ctl ≤ off + cmsgAlign h.len + HDR
      · -- the walk ends with this header
        simp only [wfWalk, hdec, hok, if_true, uNext, iterFrom, hs, if_pos hc, stopAt, stopOut]
        refine ⟨hdrReads off h, ?_, hoff', fun x hx => ?_⟩
        · rw [rightsOf_cons]; simp only [rightsOf, List.append_nil]
        · have := hrd x hx; omega
      · -- a further header follows
        simp only [wfWalk, hdec, hok, if_true, uNext, iterFrom, hs, if_neg hc]
        obtain ⟨pre, e, hlo, hin⟩ := ih fuel' (off + cmsgAlign h.len) (by omega) (by omega) (by omega)
        refine ⟨hdrReads off h ++ pre, ?_, by omega, ?_⟩
        · simp only [List.drop_drop, e, rightsOf_cons, List.append_assoc]
        · intro x hx
          rcases List.mem_append.mp hx with hx | hx
          · have := hrd x hx; omega
          · have := hin x hx; omega

theorem iterate_walk (fixed : Bool) (base : Nat) (mem : List Nat) (ctl : Nat) (hmem : ctl ≤ mem.length)
    (hctl : ctl < 2 ^ 63) (hb : base + ctl < U64) :
    ∃ pre, iterate fixed base mem ctl =
        ⟨rightsOf mem (wfPrefix uNext mem ctl).1 ++ (stopOut fixed base mem ctl (wfPrefix uNext mem ctl).2).msgs,
         pre ++ (stopOut fixed base mem ctl (wfPrefix uNext mem ctl).2).reads,
         (stopOut fixed base mem ctl (wfPrefix uNext mem ctl).2).bad⟩ ∧
      ∀ x ∈ pre, x.1 + x.2 ≤ stopAt ctl (wfPrefix uNext mem ctl).2 := by
  unfold iterate wfPrefix
  by_cases h16 : ctl < HDR
  · rw [if_pos h16, if_pos h16]; exact ⟨[], rfl, nofun⟩
  · rw [if_neg h16, if_neg h16]
    obtain ⟨pre, e, _, hin⟩ := iter_walk fixed base mem ctl hmem hctl hb (ctl + 1) (ctl + 1) 0 (by omega) (by omega)
      (by omega)
    exact ⟨pre, e, fun x hx => (hin x hx).2⟩

theorem wfPrefix_stop (mem : List Nat) (ctl : Nat) (hmem : ctl ≤ mem.length) :
    (wfPrefix uNext mem ctl).2 = .done ∨
    ∃ o h, (wfPrefix uNext mem ctl).2 = .malformed o h ∧ o + HDR ≤ ctl ∧ decHdr (mem.drop o) = some h ∧
      cmsgOk ctl o h = false := by
  unfold wfPrefix
  by_cases h16 : ctl < HDR
  · rw [if_pos h16]; exact .inl rfl
  · rw [if_neg h16]; exact wfWalk_stop mem ctl hmem (ctl + 1) 0 (by omega) (by omega)

/-! ### termination, for every memory content, control length and address -/

theorem iterFrom_no_fuel (fixed : Bool) (base ctl : Nat) : ∀ (fuel off : Nat) (m : List Nat), ctl - off < fuel →
    (iterFrom fixed fuel base ctl off m).bad ≠ some .fuel := by
  intro fuel
  induction fuel with
  | zero => intro off m h; omega
  | succ fuel ih =>
    intro off m hf
    unfold iterFrom
    cases hdec : decHdr m with
    | none => nofun
    | some h =>
      have := align_ge h.len
      rcases hdrStep_cases fixed base ctl off m h with ⟨_, b, e, hb⟩ | ⟨_, _, e⟩ | ⟨_, _, e, c1, c2⟩ <;> simp only [e]
      · exact fun hx => hb (Option.some.inj hx)
      · nofun
      · exact ih _ _ (by simp only [HDR] at *; omega)

/-! ### what happened at the first header that is not CMSG_OK BEFORE the repair (`fixed = false`) -/

/-- a malformed header NOT tagged SOL_SOCKET/SCM_RIGHTS: the iterator stops there, cleanly — unless `cmsg_len` is within
23 of 2^64, where the alignment arithmetic of `cmsg_nxthdr!` overflows -/
theorem lastStep_foreign (base ctl o : Nat) (m : List Nat) (h : Hdr) (hr : isRights h = false)
    (hnok : cmsgOk ctl o h = false) (ho : o + HDR ≤ ctl) (hb : base + ctl < U64)
    (hsmall : h.len < HDR ∨ h.len + 24 ≤ U64) : lastStep false base ctl o m h = ⟨[], [(o, HDR)], none⟩ := by
  have hr' : ¬ (h.typ = SCM_RIGHTS ∧ h.level = SOL_SOCKET) := fun hc => by rw [(isRights_iff h).mpr hc] at hr; cases hr
  simp only [lastStep, hdrStep_false, hdrStepOrig, if_neg hr',
    nxthdr_malformed base ctl o h hnok (Nat.le_of_add_right_le ho) hb hsmall, Option.toList]

theorem lastStep_foreign_overflow (base ctl o : Nat) (m : List Nat) (h : Hdr) (hr : isRights h = false)
    (hbig : U64 ≤ h.len + 23) : lastStep false base ctl o m h = ⟨[], [(o, HDR)], some .panic⟩ := by
  have hr' : ¬ (h.typ = SCM_RIGHTS ∧ h.level = SOL_SOCKET) := fun hc => by rw [(isRights_iff h).mpr hc] at hr; cases hr
  have h2 : cmsgAlign h.len % 8 = 0 := by simp only [cmsgAlign]; omega
  have := align_ge h.len
  have hnx : nxthdr base ctl o h = .error .panic := by
    unfold nxthdr
    simp only [HDR, U64] at *
    rw [if_neg (by omega)]
    by_cases hl : 18446744073709551616 ≤ h.len + 8
    · rw [if_pos hl]
    · rw [if_neg hl, if_pos (by omega)]
  simp only [lastStep, hdrStep_false, hdrStepOrig, if_neg hr', hnx]

/-- a malformed header tagged SOL_SOCKET/SCM_RIGHTS with `cmsg_len < 16`: arithmetic panic -/
theorem lastStep_rights_short (base ctl o : Nat) (m : List Nat) (h : Hdr) (hr : isRights h = true)
    (hshort : h.len < HDR) : lastStep false base ctl o m h = ⟨[], [(o, HDR)], some .panic⟩ := by
  rw [isRights_iff] at hr
  by_cases hov : U64 ≤ base + o + h.len
  · simp only [lastStep, hdrStep_false, hdrStepOrig, if_pos hr, if_pos hov]
  · simp only [lastStep, hdrStep_false, hdrStepOrig, if_pos hr, if_neg hov, if_pos hshort]

/-- a malformed header tagged SOL_SOCKET/SCM_RIGHTS with `cmsg_len` larger than what is left of the buffer (no
overflow): a slice of `(cmsg_len - 16) / 4` descriptors is handed out — whatever the buffer length — and its consumer
faults if the payload is not (entirely) mapped -/
theorem lastStep_rights_long (base ctl o : Nat) (m : List Nat) (h : Hdr) (hr : isRights h = true)
    (hnok : cmsgOk ctl o h = false) (hlong : HDR ≤ h.len) (ho : o + HDR ≤ ctl) (hb : base + ctl < U64)
    (hov : base + o + h.len < U64) (hb24 : 24 ≤ base + o) (hsz : FD * ((h.len - HDR) / FD) ≤ ISIZE_MAX) :
    lastStep false base ctl o m h =
      if (m.drop HDR).length < FD * ((h.len - HDR) / FD) then
        ⟨[], [(o, HDR), (o + HDR, FD * ((h.len - HDR) / FD))], some .fault⟩
      else ⟨[groups4 ((h.len - HDR) / FD) (m.drop HDR)], [(o, HDR), (o + HDR, FD * ((h.len - HDR) / FD))], none⟩ := by
  have hnx := nxthdr_malformed base ctl o h hnok (Nat.le_of_add_right_le ho) hb
    (.inr (by simp only [U64] at *; omega))
  rw [isRights_iff] at hr
  simp only [lastStep, hdrStep_false, hdrStepOrig, if_pos hr, hnx]
  rw [if_neg (by omega), if_neg (by omega), if_neg (by omega)]
  by_cases hmap : (m.drop HDR).length < FD * ((h.len - HDR) / FD)
  · rw [if_pos hmap, if_pos hmap]
  · rw [if_neg hmap, if_neg hmap]; rfl

/-- a malformed SCM_RIGHTS header never ends the run silently with nothing handed out: crash, or an item built from
the malformed header -/
theorem lastStep_rights_never_clean (base ctl o : Nat) (m : List Nat) (h : Hdr) (hr : isRights h = true) :
    (lastStep false base ctl o m h).bad ≠ none ∨ (lastStep false base ctl o m h).msgs.length = 1 := by
  rw [lastStep, hdrStep_false]
  rcases hdrStepOrig_cases base ctl o m h with ⟨_, _, e, _⟩ | ⟨item, _, _, e, hi, _⟩ <;> rw [e]
  · exact .inl nofun
  · rw [hr] at hi
    obtain ⟨x, rfl⟩ := Option.isSome_iff_exists.mp hi
    exact .inr rfl

/-! ### and since the repair (`fixed = true`): the iterator simply stops there -/

theorem lastStep_fixed (base ctl o : Nat) (m : List Nat) (h : Hdr) (hnok : cmsgOk ctl o h = false)
    (hb : base + ctl < U64) : lastStep true base ctl o m h = ⟨[], [(o, HDR)], none⟩ := by
  have hn : ¬ (HDR ≤ h.len ∧ h.len ≤ ctl - o) := by rw [← cmsgOk_iff, hnok]; exact Bool.false_ne_true
  unfold lastStep hdrStep
  rw [if_pos rfl, if_neg (by omega), if_pos (by simp only [HDR] at *; omega)]; rfl

def FdsOk (msgs : List (List Nat)) : Prop := ∀ fds ∈ msgs, ∀ f ∈ fds, f < 256 ^ 4

theorem kfill_skip (fds : List Nat) (t : List (List Nat)) (rem : Nat) (g : List Nat)
    (h : rem < HDR ∨ min fds.length ((rem - HDR) / FD) = 0) :
    kfill (fds :: t) rem g = kfill t rem g ∧ delivered (fds :: t) rem = delivered t rem := by
  rw [kfill, delivered]
  by_cases h16 : rem < HDR
  · rw [if_pos h16, if_pos h16]; exact ⟨rfl, rfl⟩
  · have hk := h.resolve_left h16
    rw [if_neg h16, if_neg h16]; simp only [if_pos hk, and_self]

/-- `adv = min(CMSG_SPACE(4k), rem)`; the facts about it are stated without `min` and `-`, which `omega` handles slowly -/
theorem kfill_cons (fds : List Nat) (t : List (List Nat)) (rem : Nat) (g : List Nat) (hg : rem ≤ g.length)
    (h16 : ¬ rem < HDR) (hk : min fds.length ((rem - HDR) / FD) ≠ 0) :
    ∃ k adv pad, 1 ≤ k ∧ (fds.take k).length = k ∧ adv ≤ rem ∧ adv ≤ cmsgAlign (16 + 4 * k) ∧
      (adv < rem → adv = cmsgAlign (16 + 4 * k)) ∧ 16 + 4 * k + pad.length = adv ∧
      kfill (fds :: t) rem g =
        (encHdr (16 + 4 * k) SOL_SOCKET SCM_RIGHTS ++ (encFds (fds.take k) ++ (pad ++ (kfill t (rem - adv) (g.drop adv)).1)),
          adv + (kfill t (rem - adv) (g.drop adv)).2) ∧
      delivered (fds :: t) rem = fds.take k :: delivered t (rem - adv) := by
  obtain ⟨k, hkd⟩ : ∃ k, k = min fds.length ((rem - HDR) / FD) := ⟨_, rfl⟩
  obtain ⟨adv, hadv⟩ : ∃ adv, adv = min (cmsgSpace (FD * k)) rem := ⟨_, rfl⟩
  have hk' : k ≠ 0 := hkd ▸ hk
  rw [kfill, delivered, if_neg h16, if_neg h16]
  simp only [← hkd, if_neg hk', ← hadv, len_eq, List.append_assoc, List.length_append, encHdr_length, encFds_length]
  rw [space_eq] at hadv
  have hal := align_ge (HDR + FD * k)
  simp only [HDR, FD] at *
  have hk1 : k ≤ fds.length ∧ 16 + 4 * k ≤ rem := by omega
  clear hkd hk h16
  have htk : (fds.take k).length = k := by rw [List.length_take]; exact Nat.min_eq_left hk1.1
  have hge : 16 + 4 * k ≤ adv := hadv ▸ Nat.le_min.mpr ⟨hal, hk1.2⟩
  have hrem : adv ≤ rem := hadv ▸ Nat.min_le_right _ _
  rw [htk]
  refine ⟨k, adv, _, Nat.pos_of_ne_zero hk', htk, hrem, hadv ▸ Nat.min_le_left _ _, fun h => by omega, ?_, rfl, rfl⟩
  clear hadv
  rw [List.length_take, List.length_drop]; omega

theorem kfill_facts (msgs : List (List Nat)) : ∀ (rem : Nat) (g : List Nat), rem ≤ g.length →
    (kfill msgs rem g).2 ≤ rem ∧ ((kfill msgs rem g).2 = 0 ∨ 20 ≤ (kfill msgs rem g).2) ∧
    ((kfill msgs rem g).2 = 0 → delivered msgs rem = []) ∧ (kfill msgs rem g).1.length = g.length := by
  induction msgs with
  | nil => intro rem g _; exact ⟨Nat.zero_le _, .inl rfl, fun _ => rfl, rfl⟩
  | cons fds t ih =>
    intro rem g hg
    by_cases hs : rem < HDR ∨ min fds.length ((rem - HDR) / FD) = 0
    · rw [(kfill_skip fds t rem g hs).1, (kfill_skip fds t rem g hs).2]; exact ih rem g hg
    · rw [not_or] at hs
      obtain ⟨k, adv, pad, hk, htk, h1, _, _, hpad, e1, e2⟩ := kfill_cons fds t rem g hg hs.1 hs.2
      clear hs
      have hgl : adv + (g.drop adv).length = g.length := by rw [List.length_drop]; omega
      obtain ⟨i1, _, _, i4⟩ := ih (rem - adv) (g.drop adv) (by omega)
      have i1 : adv + (kfill t (rem - adv) (g.drop adv)).2 ≤ rem := by omega
      rw [e1, e2]
      simp only [List.length_append, encHdr_length, encFds_length, htk, i4, HDR, FD]
      exact ⟨i1, .inr (by omega), fun h => by omega, by omega⟩

theorem kfill_walk (msgs : List (List Nat)) : ∀ (rem : Nat) (g mem : List Nat) (off fuel : Nat), rem ≤ g.length →
    rem < 2 ^ 63 → FdsOk msgs → mem.drop off = (kfill msgs rem g).1 → 0 < (kfill msgs rem g).2 →
    (kfill msgs rem g).2 < fuel →
    ∃ l, wfWalk uNext fuel mem (off + (kfill msgs rem g).2) off = (l, .done) ∧ rightsOf mem l = delivered msgs rem := by
  induction msgs with
  | nil => intro rem g mem off fuel _ _ _ _ h; cases h
  | cons fds t ih =>
    intro rem g mem off fuel hg hrem hfd hmem hpos hfuel
    by_cases hs : rem < HDR ∨ min fds.length ((rem - HDR) / FD) = 0
    · rw [(kfill_skip fds t rem g hs).1] at hmem hpos hfuel ⊢
      rw [(kfill_skip fds t rem g hs).2]
      exact ih rem g mem off fuel hg hrem (fun x hx => hfd x (List.mem_cons_of_mem _ hx)) hmem hpos hfuel
    · rw [not_or] at hs
      obtain ⟨k, adv, pad, hk, htk, h1, h2, h3, hpad, e1, e2⟩ := kfill_cons fds t rem g hg hs.1 hs.2
      clear hs
      have hgd : rem - adv ≤ (g.drop adv).length := by rw [List.length_drop]; omega
      obtain ⟨f1, f2, f3, _⟩ := kfill_facts t (rem - adv) (g.drop adv) hgd
      have f1 : adv + (kfill t (rem - adv) (g.drop adv)).2 ≤ rem := by omega
      rw [e1] at hmem hpos hfuel ⊢
      rw [e2]
      dsimp only at hmem hpos hfuel ⊢
      obtain ⟨fuel, rfl⟩ : ∃ f, fuel = f + 1 := ⟨fuel - 1, Nat.succ_pred_eq_of_pos (Nat.zero_lt_of_lt hfuel) ▸ rfl⟩
      have hal := align_ge (16 + 4 * k)
      obtain ⟨hd, hhd⟩ : ∃ hd : Hdr, hd = ⟨16 + 4 * k, SOL_SOCKET, SCM_RIGHTS⟩ := ⟨_, rfl⟩
      have hl : hd.len = 16 + 4 * k := by rw [hhd]
      have hdec : decHdr (mem.drop off) = some hd := by
        rw [hmem, hhd]; exact decHdr_enc _ _ _ _ (by omega) (by decide) (by decide)
      have hgr : groups4 ((hd.len - HDR) / FD) (mem.drop (off + HDR)) = fds.take k := by
        rw [← List.drop_drop, hmem, List.drop_left' (encHdr_length _ _ _),
          show (hd.len - HDR) / FD = (fds.take k).length by rw [htk, hl]; simp only [HDR, FD]; omega]
        exact groups4_enc _ _ fun f hf => hfd fds List.mem_cons_self f (List.mem_of_mem_take hf)
      have hok : cmsgOk (off + (adv + (kfill t (rem - adv) (g.drop adv)).2)) off hd = true := by
        rw [cmsgOk_iff, hl]; simp only [HDR]; omega
      have hr : isRights hd = true := by rw [hhd]; exact (isRights_iff _).mpr ⟨rfl, rfl⟩
      simp only [wfWalk, hdec, hok, if_true, uNext, hl, HDR]
      rcases f2 with f2 | f2
      · -- nothing follows
        rw [if_pos (by omega)]
        exact ⟨_, rfl, by simp only [rightsOf, hr, if_true, hgr, f3 f2]⟩
      · -- a further message follows, exactly CMSG_SPACE further on
        have hadv : cmsgAlign (16 + 4 * k) = adv := (h3 (by omega)).symm
        rw [if_neg (by omega), hadv]
        obtain ⟨l, hw, hl⟩ := ih (rem - adv) (g.drop adv) mem (off + adv) fuel hgd (by omega)
          (fun x hx => hfd x (List.mem_cons_of_mem _ hx))
          (by rw [← List.drop_drop, hmem, ← List.append_assoc, ← List.append_assoc]
              exact List.drop_left' (by
                simp only [List.length_append, encHdr_length, encFds_length, htk, HDR, FD]; omega))
          (by omega) (by omega)
        rw [Nat.add_assoc] at hw
        exact ⟨(off, hd) :: l, by simp only [hw], by simp only [rightsOf, hr, if_true, hgr, hl]⟩

theorem createSend_layout (fds : List Nat) :
    createSend fds =
      (encHdr (cmsgLen (FD * fds.length)) SOL_SOCKET SCM_RIGHTS ++ encFds fds ++
        List.replicate (cmsgSpace (FD * fds.length) - (HDR + FD * fds.length)) 0, cmsgSpace (FD * fds.length)) := by
  have hh := encHdr_length (cmsgLen (FD * fds.length)) SOL_SOCKET SCM_RIGHTS
  have he := encFds_length fds
  have hsp : HDR + FD * fds.length ≤ cmsgSpace (FD * fds.length) := by
    rw [space_eq]; exact align_ge _
  simp only [createSend, writeAt, List.take_zero, List.nil_append, Nat.zero_add, hh, List.drop_replicate]
  rw [List.take_left' hh]
  have : HDR + (encFds fds).length = (encHdr (cmsgLen (FD * fds.length)) SOL_SOCKET SCM_RIGHTS).length + (encFds fds).length := by rw [hh]
  rw [this, ← List.drop_drop, List.drop_left' rfl, List.drop_replicate, he]
  congr 3
  omega

/-! ### userland CMSG_NXTHDR against the kernel's `__cmsg_nxthdr`: only the trailing 16-byte slot differs -/

theorem trailing_slot_len (ctl off : Nat) (h : Hdr) (hoff : off + HDR = ctl) (hok : cmsgOk ctl off h = true) :
    h.len = HDR := by
  rw [cmsgOk_iff] at hok
  simp only [HDR] at *; omega

/-- the header only the kernel's walk visits: if it is CMSG_OK its `cmsg_len` is 16, so it carries no descriptor -/
theorem trailing_slot_rights (mem : List Nat) (ctl off : Nat) (hoff : off + HDR = ctl) (fuel : Nat) :
    (rightsOf mem (wfWalk kNext fuel mem ctl off).1).flatten = [] := by
  cases fuel with
  | zero => rfl
  | succ fuel =>
    unfold wfWalk
    cases decHdr (mem.drop off) with
    | none => rfl
    | some h =>
      simp only
      cases hok : cmsgOk ctl off h with
      | false => rfl
      | true =>
        have hl := trailing_slot_len ctl off h hoff hok
        have := align_ge h.len
        rw [if_pos rfl, kNext, if_pos (by simp only [HDR] at *; omega)]
        simp only [hl, Nat.sub_self, Nat.zero_div, groups4, rightsOf]
        cases isRights h <;> rfl

theorem walk_slot (mem : List Nat) (ctl : Nat) (hmem : ctl ≤ mem.length) : ∀ (fuel off : Nat), off + HDR ≤ ctl →
    ctl < off + fuel →
    (rightsOf mem (wfWalk kNext fuel mem ctl off).1).flatten = (rightsOf mem (wfWalk uNext fuel mem ctl off).1).flatten := by
  intro fuel
  induction fuel with
  | zero => intro off _ h; omega
  | succ fuel ih =>
    intro off hoff hf
    obtain ⟨h, hdec⟩ := decHdr_some (mem.drop off) (by rw [List.length_drop]; omega)
    cases hok : cmsgOk ctl off h with
    | false => simp only [wfWalk, hdec, hok, Bool.false_eq_true, if_false]
    | true =>
      have hlen := cmsgOk_le hok (Nat.le_of_add_right_le hoff)
      have ha1 := align_ge h.len
      simp only [wfWalk, hdec, hok, if_true, uNext, kNext]
      by_cases hc : ctl < off + cmsgAlign h.len + HDR
      · rw [if_pos hc, if_pos (Nat.le_of_lt hc)]
      · rw [if_neg hc]
        by_cases he : ctl = off + cmsgAlign h.len + HDR
        · -- the next header would sit in the trailing slot: userland stops, the kernel looks at it
          rw [if_pos (Nat.le_of_eq he), rightsOf_cons, rightsOf_cons, List.flatten_append, List.flatten_append,
            trailing_slot_rights mem ctl _ he.symm]
          rfl
        · rw [if_neg (by omega), rightsOf_cons, rightsOf_cons, List.flatten_append, List.flatten_append,
            ih (off + cmsgAlign h.len) (by omega) (by omega)]

/-! ### the send side is well-formed for the kernel and carries exactly the descriptors -/

theorem createSend_decHdr (fds : List Nat) (hn : 16 + 4 * fds.length < 256 ^ 8) :
    decHdr (createSend fds).1 = some ⟨16 + 4 * fds.length, SOL_SOCKET, SCM_RIGHTS⟩ := by
  rw [createSend_layout, len_eq, List.append_assoc]
  exact decHdr_enc _ _ _ _ (by simp only [HDR, FD]; exact hn) (by decide) (by decide)

theorem createSend_ctl (fds : List Nat) : (createSend fds).2 = cmsgAlign (16 + 4 * fds.length) := by
  rw [createSend_layout]; exact space_eq fds.length

theorem createSend_walk (next : Nat → Nat → Hdr → Option Nat) (fds : List Nat) (hn : 16 + 4 * fds.length < 256 ^ 8)
    (hnext : next (createSend fds).2 0 ⟨16 + 4 * fds.length, SOL_SOCKET, SCM_RIGHTS⟩ = none) :
    wfPrefix next (createSend fds).1 (createSend fds).2 = ([(0, ⟨16 + 4 * fds.length, SOL_SOCKET, SCM_RIGHTS⟩)], .done) := by
  have hc := createSend_ctl fds
  have ha := align_ge (16 + 4 * fds.length)
  have hok : cmsgOk (createSend fds).2 0 ⟨16 + 4 * fds.length, SOL_SOCKET, SCM_RIGHTS⟩ = true := by
    rw [cmsgOk_iff]; simp only [HDR]; omega
  simp only [wfPrefix]
  rw [if_neg (by simp only [HDR]; omega)]
  simp only [wfWalk, List.drop_zero, createSend_decHdr fds hn, hok, hnext, if_true]

theorem createSend_rights (fds : List Nat) (hf : ∀ f ∈ fds, f < 256 ^ 4) :
    rightsOf (createSend fds).1 [(0, ⟨16 + 4 * fds.length, SOL_SOCKET, SCM_RIGHTS⟩)] = [fds] := by
  have hr : isRights ⟨16 + 4 * fds.length, SOL_SOCKET, SCM_RIGHTS⟩ = true := by rw [isRights_iff]; exact ⟨rfl, rfl⟩
  simp only [rightsOf, hr, if_true]
  rw [createSend_layout, List.append_assoc, Nat.zero_add, List.drop_left' (encHdr_length _ _ _)]
  have : (16 + 4 * fds.length - HDR) / FD = fds.length := by simp only [HDR, FD]; omega
  rw [this, groups4_enc fds _ hf]

end TinyVerif.Cmsg
