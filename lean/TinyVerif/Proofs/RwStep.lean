import TinyVerif.Proofs.RwInv
namespace TinyVerif.RwLock

/-- `Step c s i e s'`: thread `i` at its current pc accepts event `e` and the state becomes `s'`.  A failed CAS (`r ≠ .ok`,
spurious only if weak) has read the current value of `state` and continues with it. -/
inductive Step (c : Cfg) (s : St) (i : Nat) : Pc → Ev → St → Prop
  | call {tx rest} : (s.ths i).prog = tx :: rest →
      Step c s i .idle (.call tx.kind) (setPc s i (callPc tx.kind))
  | rLoad (v) : Step c s i .rLoad (.load 0 v) (setPc s i (if isReadLockable v then .rFastCas v else .rSpin c.spinMax))
  | rFastOk {st} : s.state = st →
      Step c s i (.rFastCas st) (.cas 0 true st (st + 1) .ok) (rmwState s i c.readAcq false (st + 1) (.acquired false))
  | rFastFail {st r} : casConsistent s.state st true r = true → r ≠ .ok →
      Step c s i (.rFastCas st) (.cas 0 true st (st + 1) r) (setPc s i (.rSpin c.spinMax))
  | rSpin {n} (v) : Step c s i (.rSpin n) (.load 0 v) (setPc s i (if spinStopR v ∨ n = 0 then rNext v else .rSpin (n - 1)))
  | rCasOk {st} : s.state = st →
      Step c s i (.rCas st) (.cas 0 true st (st + 1) .ok) (rmwState s i c.readAcq false (st + 1) (.acquired false))
  | rCasFail {st r} : casConsistent s.state st true r = true → r ≠ .ok →
      Step c s i (.rCas st) (.cas 0 true st (st + 1) r) (setPc s i (rNext s.state))
  | rSetWaitOk {st} : s.state = st →
      Step c s i (.rSetWait st) (.cas 0 false st (orRW st) .ok) (rmwState s i false false (orRW st) (.rWaitLoad (orRW st)))
  | rSetWaitFail {st} : s.state ≠ st →
      Step c s i (.rSetWait st) (.cas 0 false st (orRW st) (.fail s.state)) (setPc s i (rNext s.state))
  | rWaitLoad {ex} (v) : Step c s i (.rWaitLoad ex) (.load 0 v) (setPc s i (if v ≠ ex then .rSpin c.spinMax else .rWaitSys ex))
  | rPark {ex} : s.state = ex → Step c s i (.rWaitSys ex) (.fwait 0 ex true) (setPc s i (.rParked ex))
  | rNoPark {ex} : s.state ≠ ex →
      Step c s i (.rWaitSys ex) (.fwait 0 ex false) (setPc s i (.rSpin c.spinMax))
  | rParked {ex} (eintr) : Step c s i (.rParked ex) (.spur eintr) (setPc s i (if eintr then .rWaitLoad ex else .rSpin c.spinMax))
  | tLoad {w} (v) : Step c s i (.tLoad w) (.load 0 v) (setPc s i (tNext w v))
  | tCasOk {w st} : s.state = st →
      Step c s i (.tCas w st) (.cas 0 true st (if w then st + WRITE_LOCKED else st + 1) .ok)
        (rmwState s i (if w then c.writeAcq else c.readAcq) false (if w then st + WRITE_LOCKED else st + 1) (.acquired w))
  | tCasFail {w st r} : casConsistent s.state st true r = true → r ≠ .ok →
      Step c s i (.tCas w st) (.cas 0 true st (if w then st + WRITE_LOCKED else st + 1) r) (setPc s i (tNext w s.state))
  | tryFailed : Step c s i .tryFailed .tryfail (setTh s i { s.ths i with pc := .idle, prog := popTxn (s.ths i) })
  | wFastOk : s.state = 0 →
      Step c s i .wFastCas (.cas 0 true 0 WRITE_LOCKED .ok) (rmwState s i c.writeAcq false WRITE_LOCKED (.acquired true))
  | wFastFail {r} : casConsistent s.state 0 true r = true → r ≠ .ok →
      Step c s i .wFastCas (.cas 0 true 0 WRITE_LOCKED r) (setPc s i (.wSpin c.spinMax false))
  | wSpin {n oww} (v) : Step c s i (.wSpin n oww) (.load 0 v) (setPc s i (if spinStopW v ∨ n = 0 then wNext v oww else .wSpin (n - 1) oww))
  | wCasOk {st oww} : s.state = st →
      Step c s i (.wCas st oww) (.cas 0 true st (orWL st oww) .ok) (rmwState s i c.writeAcq false (orWL st oww) (.acquired true))
  | wCasFail {st oww r} : casConsistent s.state st true r = true → r ≠ .ok →
      Step c s i (.wCas st oww) (.cas 0 true st (orWL st oww) r) (setPc s i (wNext s.state oww))
  | wSetWaitOk {st oww} : s.state = st →
      Step c s i (.wSetWait st oww) (.cas 0 false st (orWW st) .ok) (rmwState s i false false (orWW st) .wSeqLoad)
  | wSetWaitFail {st oww} : s.state ≠ st →
      Step c s i (.wSetWait st oww) (.cas 0 false st (orWW st) (.fail s.state)) (setPc s i (wNext s.state oww))
  | wSeqLoad (v) : Step c s i .wSeqLoad (.load 1 v) (setPc s i (.wStateLoad v))
  | wStateLoad {seq} (v) : Step c s i (.wStateLoad seq) (.load 0 v) (setPc s i (if isUnlocked v ∨ !hasWW v then wNext v true else .wWaitLoad seq))
  | wWaitLoad {seq} (v) : Step c s i (.wWaitLoad seq) (.load 1 v) (setPc s i (if v ≠ seq then .wSpin c.spinMax true else .wWaitSys seq))
  | wPark {seq} : s.notify = seq → Step c s i (.wWaitSys seq) (.fwait 1 seq true) (setPc s i (.wParked seq))
  | wNoPark {seq} : s.notify ≠ seq →
      Step c s i (.wWaitSys seq) (.fwait 1 seq false) (setPc s i (.wSpin c.spinMax true))
  | wParked {seq} (eintr) : Step c s i (.wParked seq) (.spur eintr) (setPc s i (if eintr then .wWaitLoad seq else .wSpin c.spinMax true))
  | acquired {w tx rest} : (s.ths i).prog = tx :: rest →
      Step c s i (.acquired w) .acq (setPc s i (.hold w tx.acc))
  | data {w k} : Step c s i (.hold w (k + 1)) .data (setPc { s with raced := s.raced ||
        (if w then decide ((s.ths i).seen < s.nrel) else decide ((s.ths i).seen < s.lastWrel)) } i (.hold w k))
  | rel {w} : Step c s i (.hold w 0) .rel (setPc s i (.unlock w))
  | unlock {w} : Step c s i (.unlock w) (.fsub 0 (if w then WRITE_LOCKED else 1) s.state) (unlockSt c s i w)
  | kCasAOk {st} : s.state = st →
      Step c s i (.kCasA st) (.cas 0 false st 0 .ok) (rmwState s i false false 0 (.kNotify false))
  | kCasAFail {st} : s.state ≠ st →
      Step c s i (.kCasA st) (.cas 0 false st 0 (.fail s.state)) (setPc s i (wakeAfterA s.state))
  | kCasBOk {st} : s.state = st →
      Step c s i (.kCasB st) (.cas 0 false st RW .ok) (rmwState s i false false RW (.kNotify true))
  | kCasBFail {st} : s.state ≠ st →
      Step c s i (.kCasB st) (.cas 0 false st RW (.fail s.state)) (setPc s i .idle)
  | kNotify {fb} : Step c s i (.kNotify fb) (.fadd 1 1 s.notify) (setPc { s with notify := wadd s.notify 1 } i (.kWakeW fb))
  | kWakeNone {fb} : parkedList s 1 = [] →
      Step c s i (.kWakeW fb) (.fwake 1 1 []) (setPc s i (if fb then .kCasC else .idle))
  | kWakeOne {fb j} : j ∈ parkedList s 1 →
      Step c s i (.kWakeW fb) (.fwake 1 1 [j]) (setPc (wakeAll c s [j]) i .idle)
  | kCasCOk : s.state = RW →
      Step c s i .kCasC (.cas 0 false RW 0 .ok) (rmwState s i false false 0 .kWakeR)
  | kCasCFail : s.state ≠ RW →
      Step c s i .kCasC (.cas 0 false RW 0 (.fail s.state)) (setPc s i .idle)
  | kWakeR {woken} : woken.length = (parkedList s 0).length →
      woken.all (parkedList s 0).contains = true → (parkedList s 0).all woken.contains = true →
      Step c s i .kWakeR (.fwake 0 2147483647 woken) (setPc (wakeAll c s woken) i .idle)

theorem casConsistent_ok {cur exp : Nat} {w : Bool} (h : casConsistent cur exp w .ok = true) : cur = exp := by
  simpa [casConsistent] using h

theorem resOld_eq {cur exp : Nat} {w : Bool} {r : CasRes} (h : casConsistent cur exp w r = true) (hr : r ≠ .ok) :
    resOld r exp = cur := by
  cases r <;> simp_all [casConsistent, resOld]

theorem casConsistent_strong {cur exp : Nat} {r : CasRes} (h : casConsistent cur exp false r = true) (hr : r ≠ .ok) :
    r = .fail cur ∧ cur ≠ exp := by
  cases r <;> simp_all [casConsistent]

theorem Step.accepted {c : Cfg} {s s' : St} {i : Nat} {p : Pc} {e : Ev} (hi : i < s.n) (hpc : (s.ths i).pc = p)
    (h : Step c s i p e s') : step c s i e = some s' := by
  rw [RwLock.step, if_neg (Nat.not_le.mpr hi)]
  cases h <;> simp only [hpc]
  case rFastFail hcc hr | rCasFail hcc hr | tCasFail hcc hr | wFastFail hcc hr | wCasFail hcc hr =>
    rename_i r
    cases r <;> simp_all [step_rFastCas, step_rCas, step_tCas, step_wFastCas, step_wCas, casConsistent, resOld, tNext]
  case call hpr => simp only [step_idle, hpr, ne_eq, not_true, if_false]; rfl
  all_goals simp [*, step_rLoad, step_rFastCas, step_rSpin, step_rCas, step_rSetWait,
    step_rWaitLoad, step_rWaitSys, step_rParked, step_tLoad, step_tCas, step_tryFailed, step_wFastCas, step_wSpin,
    step_wCas, step_wSetWait, step_wSeqLoad, step_wStateLoad, step_wWaitLoad, step_wWaitSys, step_wParked,
    step_acquired, step_hold, step_unlock, step_kCasA, step_kCasB, step_kNotify, step_kWakeW, step_kCasC, step_kWakeR,
    tNext, unlockSt, unlockPc, casConsistent, resOld]

theorem cas_guard {exp st new nw cur : Nat} {weak : Bool} {r : CasRes} {x s' : St}
    (h : (if exp ≠ st ∨ new ≠ nw ∨ (!casConsistent cur exp weak r) = true then none else some x) = some s') :
    exp = st ∧ new = nw ∧ casConsistent cur st weak r = true ∧ x = s' := by
  rw [Option.ite_none_left_eq_some] at h
  obtain ⟨hc, h⟩ := h
  simp only [not_or, Decidable.not_not, Bool.not_eq_true', Bool.not_eq_false] at hc
  obtain ⟨rfl, rfl, hcc⟩ := hc
  exact ⟨rfl, rfl, hcc, Option.some.inj h⟩

theorem step_sound {c : Cfg} {s s' : St} {i : Nat} {e : Ev} (h : step c s i e = some s') :
    i < s.n ∧ Step c s i (s.ths i).pc e s' := by
  rw [step, Option.ite_none_left_eq_some] at h
  obtain ⟨hi, h⟩ := h
  refine ⟨by omega, ?_⟩
  simp only [] at h
  cases hpc : (s.ths i).pc <;> simp only [hpc] at h
  case idle =>
    unfold step_idle at h
    split at h
    · split at h
      · rename_i hpr
        rw [Option.ite_none_left_eq_some] at h
        obtain ⟨hk, h⟩ := h
        obtain rfl := Decidable.not_not.mp hk
        cases h; exact .call hpr
      · cases h
    · cases h
  case rLoad => unfold step_rLoad at h; split at h <;> cases h; exact .rLoad _
  case rFastCas st =>
    unfold step_rFastCas at h
    split at h
    · rename_i exp new r
      cases r <;> obtain ⟨rfl, rfl, hcc, rfl⟩ := cas_guard h
      · exact .rFastOk (casConsistent_ok hcc)
      · exact .rFastFail hcc nofun
      · exact .rFastFail hcc nofun
    · cases h
  case rSpin n => unfold step_rSpin at h; split at h <;> cases h; exact .rSpin _
  case rCas st =>
    unfold step_rCas at h
    split at h
    · rename_i exp new r
      cases r <;> obtain ⟨rfl, rfl, hcc, rfl⟩ := cas_guard h
      · exact .rCasOk (casConsistent_ok hcc)
      · rw [resOld_eq hcc nofun]; exact .rCasFail hcc nofun
      · rw [resOld_eq hcc nofun]; exact .rCasFail hcc nofun
    · cases h
  case rSetWait st =>
    unfold step_rSetWait at h
    split at h
    · rename_i exp new r
      cases r <;> obtain ⟨rfl, rfl, hcc, rfl⟩ := cas_guard h
      · exact .rSetWaitOk (casConsistent_ok hcc)
      · obtain ⟨ho, hne⟩ := casConsistent_strong hcc nofun; cases ho; exact .rSetWaitFail hne
      · cases (casConsistent_strong hcc nofun).1
    · cases h
  case rWaitLoad ex => unfold step_rWaitLoad at h; split at h <;> cases h; exact .rWaitLoad _
  case rWaitSys ex =>
    unfold step_rWaitSys at h
    split at h
    · rename_i expect park
      rw [Option.ite_none_left_eq_some] at h
      obtain ⟨he, h⟩ := h
      obtain rfl := Decidable.not_not.mp he
      cases park
      · rw [if_neg Bool.false_ne_true, Option.ite_none_left_eq_some] at h
        obtain ⟨hs, h⟩ := h; cases h; exact .rNoPark hs
      · rw [if_pos rfl, Option.ite_none_right_eq_some] at h
        obtain ⟨hs, h⟩ := h; cases h; exact .rPark hs
    · cases h
  case rParked ex => unfold step_rParked at h; split at h <;> cases h; exact .rParked _
  case tLoad w => unfold step_tLoad at h; split at h <;> cases h; exact .tLoad _
  case tCas w st =>
    unfold step_tCas at h
    split at h
    · rename_i exp new r
      cases r <;> obtain ⟨rfl, rfl, hcc, rfl⟩ := cas_guard h
      · exact .tCasOk (casConsistent_ok hcc)
      · rw [resOld_eq hcc nofun]; exact .tCasFail hcc nofun
      · rw [resOld_eq hcc nofun]; exact .tCasFail hcc nofun
    · cases h
  case tryFailed => unfold step_tryFailed at h; split at h <;> cases h; exact .tryFailed
  case wFastCas =>
    unfold step_wFastCas at h
    split at h
    · rename_i exp new r
      cases r <;> obtain ⟨rfl, rfl, hcc, rfl⟩ := cas_guard h
      · exact .wFastOk (casConsistent_ok hcc)
      · exact .wFastFail hcc nofun
      · exact .wFastFail hcc nofun
    · cases h
  case wSpin n oww => unfold step_wSpin at h; split at h <;> cases h; exact .wSpin _
  case wCas st oww =>
    unfold step_wCas at h
    split at h
    · rename_i exp new r
      cases r <;> obtain ⟨rfl, rfl, hcc, rfl⟩ := cas_guard h
      · exact .wCasOk (casConsistent_ok hcc)
      · rw [resOld_eq hcc nofun]; exact .wCasFail hcc nofun
      · rw [resOld_eq hcc nofun]; exact .wCasFail hcc nofun
    · cases h
  case wSetWait st oww =>
    unfold step_wSetWait at h
    split at h
    · rename_i exp new r
      cases r <;> obtain ⟨rfl, rfl, hcc, rfl⟩ := cas_guard h
      · exact .wSetWaitOk (casConsistent_ok hcc)
      · obtain ⟨ho, hne⟩ := casConsistent_strong hcc nofun; cases ho; exact .wSetWaitFail hne
      · cases (casConsistent_strong hcc nofun).1
    · cases h
  case wSeqLoad => unfold step_wSeqLoad at h; split at h <;> cases h; exact .wSeqLoad _
  case wStateLoad seq => unfold step_wStateLoad at h; split at h <;> cases h; exact .wStateLoad _
  case wWaitLoad seq => unfold step_wWaitLoad at h; split at h <;> cases h; exact .wWaitLoad _
  case wWaitSys seq =>
    unfold step_wWaitSys at h
    split at h
    · rename_i expect park
      rw [Option.ite_none_left_eq_some] at h
      obtain ⟨he, h⟩ := h
      obtain rfl := Decidable.not_not.mp he
      cases park
      · rw [if_neg Bool.false_ne_true, Option.ite_none_left_eq_some] at h
        obtain ⟨hs, h⟩ := h; cases h; exact .wNoPark hs
      · rw [if_pos rfl, Option.ite_none_right_eq_some] at h
        obtain ⟨hs, h⟩ := h; cases h; exact .wPark hs
    · cases h
  case wParked seq => unfold step_wParked at h; split at h <;> cases h; exact .wParked _
  case acquired w =>
    unfold step_acquired at h
    split at h
    · split at h
      · cases h; exact .acquired ‹_›
      · cases h
    · cases h
  case hold w k =>
    unfold step_hold at h
    split at h
    · cases h; exact .data
    · cases h; exact .rel
    · cases h
  case unlock w =>
    unfold step_unlock at h
    split at h
    · rename_i v old
      rw [Option.ite_none_left_eq_some] at h
      obtain ⟨hc, h⟩ := h
      obtain ⟨rfl, rfl⟩ : old = s.state ∧ v = (if w then WRITE_LOCKED else 1) := by simpa using hc
      cases h; exact .unlock
    · cases h
  case kCasA st =>
    unfold step_kCasA at h
    split at h
    · rename_i exp new r
      cases r <;> obtain ⟨rfl, rfl, hcc, rfl⟩ := cas_guard h
      · exact .kCasAOk (casConsistent_ok hcc)
      · obtain ⟨ho, hne⟩ := casConsistent_strong hcc nofun; cases ho; exact .kCasAFail hne
      · cases (casConsistent_strong hcc nofun).1
    · cases h
  case kCasB st =>
    unfold step_kCasB at h
    split at h
    · rename_i exp new r
      cases r <;> obtain ⟨rfl, rfl, hcc, rfl⟩ := cas_guard h
      · exact .kCasBOk (casConsistent_ok hcc)
      · obtain ⟨ho, hne⟩ := casConsistent_strong hcc nofun; cases ho; exact .kCasBFail hne
      · cases (casConsistent_strong hcc nofun).1
    · cases h
  case kNotify fb =>
    unfold step_kNotify at h
    split at h
    · rename_i v old
      rw [Option.ite_none_left_eq_some] at h
      obtain ⟨hc, h⟩ := h
      obtain ⟨rfl, rfl⟩ : v = 1 ∧ old = s.notify := by simpa using hc
      cases h; exact .kNotify
    · cases h
  case kWakeW fb =>
    unfold step_kWakeW at h
    split at h
    · rename_i num woken
      rw [Option.ite_none_left_eq_some] at h
      obtain ⟨hn, h⟩ := h
      obtain rfl := Decidable.not_not.mp hn
      simp only [] at h
      split at h
      · rw [Option.ite_none_right_eq_some] at h
        obtain ⟨hp, h⟩ := h; cases h; exact .kWakeNone (List.isEmpty_iff.mp hp)
      · rw [Option.ite_none_right_eq_some] at h
        obtain ⟨hp, h⟩ := h; cases h; exact .kWakeOne (by simpa using hp)
      · cases h
    · cases h
  case kCasC =>
    unfold step_kCasC at h
    split at h
    · rename_i exp new r
      cases r <;> obtain ⟨rfl, rfl, hcc, rfl⟩ := cas_guard h
      · exact .kCasCOk (casConsistent_ok hcc)
      · obtain ⟨ho, hne⟩ := casConsistent_strong hcc nofun; cases ho; exact .kCasCFail hne
      · cases (casConsistent_strong hcc nofun).1
    · cases h
  case kWakeR =>
    unfold step_kWakeR at h
    split at h
    · rename_i num woken
      rw [Option.ite_none_left_eq_some] at h
      obtain ⟨hn, h⟩ := h
      obtain rfl := Decidable.not_not.mp hn
      simp only [] at h
      rw [Option.ite_none_left_eq_some] at h
      obtain ⟨hc, h⟩ := h
      simp only [not_or, Decidable.not_not, Bool.not_eq_true', Bool.not_eq_false] at hc
      cases h; exact .kWakeR hc.1 hc.2.1 hc.2.2
    · cases h
  case panicked => cases h

theorem orRW_lt {x : Nat} (h : x < TWO32) : orRW x < TWO32 := by unfold orRW hasRW; split <;> komega
theorem orWW_lt {x : Nat} (h : x < TWO32) : orWW x < TWO32 := by unfold orWW hasWW; split <;> komega
theorem cnt_orRW (x : Nat) : cnt (orRW x) = cnt x := by unfold orRW; split <;> komega
theorem cnt_orWW (x : Nat) : cnt (orWW x) = cnt x := by unfold orWW; split <;> komega

theorem add_WL_word {x : Nat} (hlt : x < TWO32) (hu : isUnlocked x = true) :
    x + WRITE_LOCKED < TWO32 ∧ cnt (x + WRITE_LOCKED) = WRITE_LOCKED := by
  have := (unlocked_iff x).mp hu
  constructor <;> komega

theorem orWL_word {x : Nat} (o : Bool) (hlt : x < TWO32) (hu : isUnlocked x = true) :
    orWL x o < TWO32 ∧ cnt (orWL x o) = WRITE_LOCKED := by
  have h0 : cnt x = 0 := by simpa [isUnlocked] using hu
  have := add_WL_word hlt hu
  unfold orWL
  simp only [h0, Nat.sub_zero]
  cases o <;> simp only [Bool.false_eq_true, if_false, if_true]
  · exact this
  · exact ⟨orWW_lt this.1, (cnt_orWW _).trans this.2⟩

theorem parkedList_lt (s : St) (loc j : Nat) (h : j ∈ parkedList s loc) : j < s.n := by
  simp only [parkedList, List.mem_filter, List.mem_range] at h
  exact h.1

theorem isRW_wakeAll (c : Cfg) (s : St) (l : List Nat) (i : Nat) :
    ((wakeAll c s l).ths i).pc.isR = (s.ths i).pc.isR ∧ ((wakeAll c s l).ths i).pc.isW = (s.ths i).pc.isW := by
  rw [wakeAll_ths]
  split
  · exact ⟨isR_woken c _, isW_woken c _⟩
  · exact ⟨rfl, rfl⟩

/-- waking a set of live threads, then moving the waker on -/
theorem inv_wake_then (c : Cfg) {s : St} {i : Nat} {p p' : Pc} (l : List Nat) (hinv : RInv s) (hi : i < s.n)
    (hpc : (s.ths i).pc = p) (h0 : p.isR = false ∧ p.isW = false) (hl : ∀ j ∈ l, j < s.n) (hp : Plain p') :
    RInv (setPc (wakeAll c s l) i p') := by
  obtain ⟨hr, hw'⟩ := isRW_wakeAll c s l i
  exact inv_plain (inv_wakeAll c s l hinv hl) (by rw [wakeAll_n]; exact hi) rfl ⟨hr.trans (hpc ▸ h0.1), hw'.trans (hpc ▸ h0.2)⟩ hp

/-- the hypotheses of a CAS arm, in usable form -/
macro "cas_prep" h:ident : tactic => `(tactic|
  (split at $h:ident
   · simp at $h:ident
   · rename_i hcond
     simp only [not_or, Decidable.not_not, Bool.not_eq_true', Bool.not_eq_false', Bool.not_eq_false] at hcond))

/-- **every step of every thread preserves the invariant** -/
theorem step_inv (c : Cfg) (hc : c.Good) (s s' : St) (i : Nat) (e : Ev)
    (h : step c s i e = some s') (hinv : RInv s) : RInv s' := by
  obtain ⟨hi, hs⟩ := step_sound h
  have hlt := hinv.lt32
  generalize hpc : (s.ths i).pc = p at hs
  cases hs with
  | call => exact inv_plain hinv hi hpc ⟨rfl, rfl⟩ (plain_callPc _)
  | rLoad v =>
    exact inv_plain hinv hi hpc ⟨rfl, rfl⟩ (ite_pred Plain (fun h => ⟨rfl, rfl, h⟩) fun _ => ⟨rfl, rfl, trivial⟩)
  | rFastOk hst | rCasOk hst =>
    subst hst; rw [hc.1]; exact inv_acquireR hinv hi hpc rfl (hinv.wf_at hpc)
  | rFastFail | rPark | rNoPark | wFastFail | wSeqLoad _ | wPark | wNoPark | kCasBFail
  | kCasCFail => exact inv_plain hinv hi hpc ⟨rfl, rfl⟩ ⟨rfl, rfl, trivial⟩
  | rSpin v =>
    exact inv_plain hinv hi hpc ⟨rfl, rfl⟩ (ite_pred Plain (fun _ => plain_rNext v) fun _ => ⟨rfl, rfl, trivial⟩)
  | rCasFail | rSetWaitFail => exact inv_plain hinv hi hpc ⟨rfl, rfl⟩ (plain_rNext _)
  | rSetWaitOk hst =>
    subst hst; exact inv_bits hinv hi hpc ⟨rfl, rfl⟩ (orRW_lt hlt) (cnt_orRW _) ⟨rfl, rfl, trivial⟩
  | rWaitLoad v | rParked v | wWaitLoad v | wParked v | kWakeNone =>
    exact inv_plain hinv hi hpc ⟨rfl, rfl⟩ (ite_pred Plain (fun _ => ⟨rfl, rfl, trivial⟩) fun _ => ⟨rfl, rfl, trivial⟩)
  | tLoad v | tCasFail => exact inv_plain hinv hi hpc ⟨rfl, rfl⟩ (plain_tNext _ _)
  | @tCasOk w st hst =>
    subst hst
    have hwf := hinv.wf_at hpc
    cases w
    · simp only [Bool.false_eq_true, if_false] at hwf ⊢
      rw [hc.1]; exact inv_acquireR hinv hi hpc rfl hwf
    · simp only [if_true] at hwf ⊢
      rw [hc.2.1]; exact inv_acquireW hinv hi hpc rfl hwf (add_WL_word hlt hwf).1 (add_WL_word hlt hwf).2
  | tryFailed => exact inv_setth _ hinv hi hpc rfl rfl rfl trivial
  | wFastOk hst =>
    rw [hc.2.1]; exact inv_acquireW hinv hi hpc rfl (by rw [hst]; rfl) (by decide) rfl
  | wSpin v =>
    exact inv_plain hinv hi hpc ⟨rfl, rfl⟩ (ite_pred Plain (fun _ => plain_wNext v _) fun _ => ⟨rfl, rfl, trivial⟩)
  | wCasOk hst =>
    subst hst
    have hu := hinv.wf_at hpc
    rw [hc.2.1]; exact inv_acquireW hinv hi hpc rfl hu (orWL_word _ hlt hu).1 (orWL_word _ hlt hu).2
  | wCasFail | wSetWaitFail => exact inv_plain hinv hi hpc ⟨rfl, rfl⟩ (plain_wNext _ _)
  | wSetWaitOk hst =>
    subst hst; exact inv_bits hinv hi hpc ⟨rfl, rfl⟩ (orWW_lt hlt) (cnt_orWW _) ⟨rfl, rfl, trivial⟩
  | wStateLoad v =>
    exact inv_plain hinv hi hpc ⟨rfl, rfl⟩ (ite_pred Plain (fun _ => plain_wNext v _) fun _ => ⟨rfl, rfl, trivial⟩)
  | @acquired w _ _ | @rel w => exact inv_move hinv hi hpc (by cases w <;> rfl) (by cases w <;> rfl) trivial
  | data => exact inv_data s i _ _ hinv hi hpc
  | unlock => exact inv_unlock c hc hinv hi hpc
  | kCasAOk hst =>
    subst hst
    exact inv_bits hinv hi hpc ⟨rfl, rfl⟩ (by decide) (by rw [(hinv.wf_at hpc : s.state = WW)]; rfl) ⟨rfl, rfl, trivial⟩
  | kCasAFail => exact inv_plain hinv hi hpc ⟨rfl, rfl⟩ (plain_wakeAfterA _)
  | kCasBOk hst =>
    subst hst
    exact inv_bits hinv hi hpc ⟨rfl, rfl⟩ (by decide) (by rw [(hinv.wf_at hpc : s.state = RW + WW)]; rfl) ⟨rfl, rfl, trivial⟩
  | kNotify => exact inv_plain (inv_notify s _ hinv) hi hpc ⟨rfl, rfl⟩ ⟨rfl, rfl, trivial⟩
  | kWakeOne hj =>
    exact inv_wake_then c _ hinv hi hpc ⟨rfl, rfl⟩ (fun k hk => by cases List.mem_singleton.mp hk; exact parkedList_lt s 1 _ hj)
      ⟨rfl, rfl, trivial⟩
  | kCasCOk hst => exact inv_bits hinv hi hpc ⟨rfl, rfl⟩ (by decide) (by rw [hst]; rfl) ⟨rfl, rfl, trivial⟩
  | kWakeR _ hsub =>
    refine inv_wake_then c _ hinv hi hpc ⟨rfl, rfl⟩ (fun k hk => parkedList_lt s 0 k ?_) ⟨rfl, rfl, trivial⟩
    simpa using List.all_eq_true.mp hsub k hk

end TinyVerif.RwLock
