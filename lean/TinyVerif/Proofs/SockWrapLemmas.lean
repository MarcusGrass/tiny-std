/- helper lemmas for C16 part 1 (wrapper state machine, stream system invariant) -/
import TinyVerif.Model.SockWrap
namespace TinyVerif.SockWrap

/-- what a finished trace must look like, per outcome -/
def expectOps : Out → List Nat
  | .ok v => [v]
  | _ => []

theorem okOps_runFrom (cfg : Cfg) (ts : TS) (p : Phase) (script : List R) :
    okOps (runFrom cfg ts p script).2 = expectOps (runFrom cfg ts p script).1 := by
  induction script generalizing p with
  | nil => cases p <;> simp [runFrom, callOf, okOps, expectOps]
  | cons r rest ih =>
    cases r with
    | ok v =>
      cases p with
      | first => simp [runFrom, wstep, callOf, okOps, expectOps]
      | polling => cases v <;> simp [runFrom, wstep, callOf, okOps, expectOps, ih]
      | retry => simp [runFrom, wstep, callOf, okOps, expectOps]
    | err e =>
      cases p with
      | first =>
        by_cases h : e = cfg.blockErrno <;> simp [runFrom, wstep, callOf, okOps, expectOps, h, ih]
      | polling =>
        by_cases h : e = EINTR <;> simp [runFrom, wstep, callOf, okOps, expectOps, h, ih]
      | retry => simp [runFrom, wstep, callOf, okOps, expectOps]


theorem wstep_timeout {cfg : Cfg} {p : Phase} {r : R} (h : wstep cfg p r = .inr .timeout) : p = .polling ∧ r = .ok 0 := by
  cases p <;> cases r <;> simp only [wstep] at h
  · cases h
  · split at h <;> cases h
  · rename_i v; cases v
    · exact ⟨rfl, rfl⟩
    · cases h
  · split at h <;> cases h
  · cases h
  · cases h

theorem wstep_inl {cfg : Cfg} {p p' : Phase} {r : R} (h : wstep cfg p r = .inl p') :
    (p = .first ∧ p' = .polling) ∨ (p = .polling ∧ p' ≠ .first) := by
  cases p <;> cases r <;> simp only [wstep] at h
  · cases h
  · split at h <;> cases h; exact .inl ⟨rfl, rfl⟩
  · rename_i v; cases v <;> cases h; exact .inr ⟨rfl, nofun⟩
  · split at h <;> cases h; exact .inr ⟨rfl, nofun⟩
  · cases h
  · cases h

theorem timeout_last (cfg : Cfg) (ts : TS) (p : Phase) (script : List R)
    (h : (runFrom cfg ts p script).1 = .timeout) :
    (runFrom cfg ts p script).2.getLast? = some (.ppoll ts cfg.event, .ok 0) := by
  induction script generalizing p with
  | nil => cases h
  | cons r rest ih =>
    unfold runFrom at h ⊢
    cases hw : wstep cfg p r with
    | inr o =>
      rw [hw] at h
      cases h
      obtain ⟨rfl, rfl⟩ := wstep_timeout hw
      rfl
    | inl p' =>
      rw [hw] at h
      have := ih p' h
      rw [List.getLast?_cons_of_ne_nil (fun hnil => by rw [hnil] at this; cases this)]
      exact this

theorem callOf_poll (cfg : Cfg) (ts : TS) (p : Phase) (h : isPoll (callOf cfg ts p) = true) :
    callOf cfg ts p = .ppoll ts cfg.event := by
  cases p with
  | polling => rfl
  | _ => cases h

/-- every ppoll of a run carries exactly the caller's timespec and the configured event -/
theorem polls_full (cfg : Cfg) (ts : TS) (p : Phase) (script : List R) :
    ∀ c ∈ (runFrom cfg ts p script).2, isPoll c.1 = true → c.1 = .ppoll ts cfg.event := by
  induction script generalizing p with
  | nil => intro c hc; cases List.mem_singleton.mp hc; exact callOf_poll cfg ts p
  | cons r rest ih =>
    intro c hc
    unfold runFrom at hc
    cases hw : wstep cfg p r with
    | inr o => rw [hw] at hc; cases List.mem_singleton.mp hc; exact callOf_poll cfg ts p
    | inl p' =>
      rw [hw] at hc
      rcases List.mem_cons.mp hc with rfl | hc
      · exact callOf_poll cfg ts p
      · exact ih p' c hc

/-- number of underlying ops in a trace -/
def opCount : Trace → Nat
  | [] => 0
  | (.op, _) :: t => opCount t + 1
  | _ :: t => opCount t

theorem opCount_single (cfg : Cfg) (ts : TS) (p : Phase) (r : R) :
    opCount [(callOf cfg ts p, r)] ≤ if p = .first then 2 else 1 := by
  cases p with
  | first => exact Nat.le_succ 1
  | polling => exact Nat.zero_le 1
  | retry => exact Nat.le_refl 1

theorem opCount_le (cfg : Cfg) (ts : TS) (p : Phase) (script : List R) :
    opCount (runFrom cfg ts p script).2 ≤ if p = .first then 2 else 1 := by
  induction script generalizing p with
  | nil => exact opCount_single cfg ts p _
  | cons r rest ih =>
    unfold runFrom
    cases hw : wstep cfg p r with
    | inr o => exact opCount_single cfg ts p r
    | inl p' =>
      rcases wstep_inl hw with ⟨rfl, rfl⟩ | ⟨rfl, hp'⟩
      · exact Nat.succ_le_succ (ih .polling)
      · have := ih p'; rw [if_neg hp'] at this; exact this

/-! ## stream system invariant -/

structure Inv (s : Sys) : Prop where
  flow : s.deq ++ s.q = s.data.take s.sent
  sentLe : s.sent ≤ s.data.length
  posEq : s.pos = s.sent
  rcvdEq : s.rcvd = s.deq
  rbufNil : s.rbuf = []
  wRun : ∀ p, s.w = .run p → s.pos < s.data.length
  wOk : s.w = .done .ok → s.pos = s.data.length
  rRun : (s.r = .idle ∨ ∃ p len, s.r = .run p len) → s.rcvd.length < s.want
  rLen : ∀ p len, s.r = .run p len → 1 ≤ len
  rFull : s.r = .done .full → s.want ≤ s.rcvd.length
  rEof : s.r = .done .eof → s.q = [] ∧ s.closed = true
  closedW : s.closed = true → ∃ d, s.w = .done d

theorem clamp_bounds (m hi : Nat) (h : 1 ≤ hi) : 1 ≤ clamp m 1 hi ∧ clamp m 1 hi ≤ hi := by
  simp only [clamp]; omega

theorem not_closed_of_run {s : Sys} (hi : Inv s) {p : Phase} (hp : s.w = .run p) : s.closed = false := by
  cases hc : s.closed with
  | false => rfl
  | true => obtain ⟨d, hd⟩ := hi.closedW hc; rw [hd] at hp; cases hp

/-! Four ways a step changes the state, each touching the fields of one part of the invariant only. -/

theorem Inv.setW {s : Sys} (hi : Inv s) (w' : WSt) (hRun : ∀ p, w' = .run p → s.pos < s.data.length ∧ s.closed = false)
    (hOk : w' = .done .ok → s.pos = s.data.length) : Inv { s with w := w' } :=
  { hi with
    wRun := fun p hp => (hRun p hp).1
    wOk := hOk
    closedW := fun hc => by
      cases w' with
      | done d => exact ⟨d, rfl⟩
      | run p => rw [(hRun p rfl).2] at hc; cases hc }

theorem Inv.setR {s : Sys} (hi : Inv s) (rb : List Nat) (hrb : rb = []) (r' : RSt)
    (hRun : (r' = .idle ∨ ∃ p len, r' = .run p len) → s.rcvd.length < s.want) (hLen : ∀ p len, r' = .run p len → 1 ≤ len)
    (hFull : r' = .done .full → s.want ≤ s.rcvd.length) (hEof : r' = .done .eof → s.q = [] ∧ s.closed = true) :
    Inv { s with rbuf := rb, r := r' } :=
  { hi with rbufNil := hrb, rRun := hRun, rLen := hLen, rFull := hFull, rEof := hEof }

theorem Inv.write {s : Sys} (hi : Inv s) (k : Nat) (hk : s.pos + k ≤ s.data.length) (hcl : s.closed = false) (w' : WSt)
    (hRun : ∀ p, w' = .run p → s.pos + k < s.data.length) (hOk : w' = .done .ok → s.pos + k = s.data.length) :
    Inv { s with q := s.q ++ (s.data.drop s.pos).take k, sent := s.sent + k, pos := s.pos + k, w := w' } :=
  { hi with
    flow := by
      show s.deq ++ (s.q ++ (s.data.drop s.pos).take k) = s.data.take (s.sent + k)
      rw [← List.append_assoc, hi.flow, hi.posEq]; exact List.take_add.symm
    sentLe := by have := hi.posEq; show s.sent + k ≤ s.data.length; omega
    posEq := congrArg (· + k) hi.posEq
    wRun := hRun
    wOk := hOk
    rEof := fun hr => by have := (hi.rEof hr).2; rw [hcl] at this; cases this
    closedW := fun hc => by rw [hcl] at hc; cases hc }

theorem Inv.read {s : Sys} (hi : Inv s) (k : Nat) (r' : RSt) (hne : r' ≠ .done .eof)
    (hRun : (r' = .idle ∨ ∃ p len, r' = .run p len) → (s.rcvd ++ s.q.take k).length < s.want)
    (hLen : ∀ p len, r' = .run p len → 1 ≤ len) (hFull : r' = .done .full → s.want ≤ (s.rcvd ++ s.q.take k).length) :
    Inv { s with rcvd := s.rcvd ++ s.q.take k, rbuf := [], deq := s.deq ++ s.q.take k, q := s.q.drop k, r := r' } :=
  { hi with
    flow := by
      show s.deq ++ s.q.take k ++ s.q.drop k = s.data.take s.sent
      rw [List.append_assoc, List.take_append_drop]; exact hi.flow
    rcvdEq := congrArg (· ++ s.q.take k) hi.rcvdEq
    rbufNil := rfl
    rRun := hRun
    rLen := hLen
    rFull := hFull
    rEof := fun hr => absurd hr hne }

theorem inv_w_phase {s : Sys} (hi : Inv s) {p : Phase} (hp : s.w = .run p) (p' : Phase) : Inv { s with w := .run p' } :=
  hi.setW _ (fun _ _ => ⟨hi.wRun p hp, not_closed_of_run hi hp⟩) nofun

theorem inv_w_done {s : Sys} (hi : Inv s) (d : WDone) (hd : d ≠ .ok) : Inv { s with w := .done d } :=
  hi.setW _ nofun (fun h => absurd (WSt.done.inj h) hd)

/-- the writer's wrapper after a kernel answer that moved no data: a failure, or an answer to ppoll -/
theorem wFinish_no_transfer {s : Sys} (hi : Inv s) {p : Phase} (hp : s.w = .run p) (r : R)
    (hr : ∀ v, r = .ok v → p = .polling) : Inv (wFinish s (wstep writeCfg p r)) := by
  cases r with
  | ok v =>
    cases hr v rfl
    cases v with
    | zero => exact inv_w_done hi _ nofun
    | succ n => exact inv_w_phase hi hp _
  | err e =>
    have hos : Inv (wAfter s (.os e)) := by
      simp only [wAfter]
      by_cases h : e = EINTR
      · rw [if_pos h]; exact inv_w_phase hi hp _
      · rw [if_neg h]; exact inv_w_done hi _ nofun
    cases p with
    | first =>
      simp only [wstep]
      by_cases h : e = writeCfg.blockErrno
      · rw [if_pos h]; exact inv_w_phase hi hp _
      · rw [if_neg h]; exact hos
    | polling =>
      simp only [wstep]
      by_cases h : e = EINTR
      · rw [if_pos h]; exact inv_w_phase hi hp _
      · rw [if_neg h]; exact hos
    | retry => exact hos

theorem callOf_op (cfg : Cfg) (ts : TS) {p : Phase} (hp : p ≠ .polling) : callOf cfg ts p = .op := by
  cases p with
  | polling => exact absurd rfl hp
  | _ => rfl

theorem wstep_ok (cfg : Cfg) {p : Phase} (hp : p ≠ .polling) (v : Nat) : wstep cfg p (.ok v) = .inr (.ok v) := by
  cases p with
  | polling => exact absurd rfl hp
  | _ => rfl

theorem step_w_inv (s : Sys) (hi : Inv s) (env : Env) : Inv (step s (.w env)) := by
  cases hw : s.w with
  | done d => simp only [step, hw]; exact hi
  | run p =>
    simp only [step, hw]
    cases env with
    | fail e =>
      rw [show kWrite s p (.fail e) = (.err e, s) by cases p <;> rfl]
      exact wFinish_no_transfer hi hw _ nofun
    | succeed m =>
      by_cases hp : p = .polling
      · subst hp; exact wFinish_no_transfer hi hw (.ok m) fun _ _ => rfl
      · unfold kWrite
        rw [callOf_op _ _ hp]
        simp only
        by_cases hne : s.cap - s.q.length = 0 ∨ (s.data.drop s.pos).length = 0
        · rw [if_pos hne]; exact wFinish_no_transfer hi hw _ nofun
        · -- the kernel accepts `k ≥ 1` of the offered bytes, no more than there are
          rw [if_neg hne]
          obtain ⟨k, hk⟩ : ∃ k, k = clamp m 1 (min (s.data.drop s.pos).length (s.cap - s.q.length)) := ⟨_, rfl⟩
          have hb := clamp_bounds m (min (s.data.drop s.pos).length (s.cap - s.q.length)) (by omega)
          rw [← hk] at hb ⊢
          obtain ⟨k', rfl⟩ : ∃ k', k = k' + 1 := ⟨k - 1, by omega⟩
          have hlen : s.pos + (k' + 1) ≤ s.data.length := by rw [List.length_drop] at hb; omega
          have hcl := not_closed_of_run hi hw
          simp only [wstep_ok _ hp, wFinish, wAfter]
          by_cases hlt : s.pos + (k' + 1) < s.data.length
          · rw [if_pos hlt]; exact hi.write _ hlen hcl _ (fun _ _ => hlt) nofun
          · rw [if_neg hlt]; exact hi.write _ hlen hcl _ nofun (fun _ => by omega)

def RActive (s : Sys) : Prop := s.r = .idle ∨ ∃ p len, s.r = .run p len

theorem inv_r_phase {s : Sys} (hi : Inv s) (ha : RActive s) (p' : Phase) {len : Nat} (hlen : 1 ≤ len) :
    Inv { s with r := .run p' len } :=
  hi.setR _ hi.rbufNil _ (fun _ => hi.rRun ha) (fun _ _ h => by cases h; exact hlen) nofun nofun

theorem inv_r_idle {s : Sys} (hi : Inv s) (ha : RActive s) : Inv { s with rbuf := [], r := .idle } :=
  hi.setR _ rfl _ (fun _ => hi.rRun ha) nofun nofun nofun

theorem inv_r_done {s : Sys} (hi : Inv s) (d : RDone) (h1 : d ≠ .full) (h2 : d ≠ .eof) :
    Inv { s with rbuf := [], r := .done d } :=
  hi.setR _ rfl _ (by rintro (h | ⟨_, _, h⟩) <;> cases h) nofun (fun h => absurd (RSt.done.inj h) h1)
    (fun h => absurd (RSt.done.inj h) h2)

theorem inv_r_eof {s : Sys} (hi : Inv s) (hq : s.q = []) (hc : s.closed = true) :
    Inv { s with rbuf := [], r := .done .eof } :=
  hi.setR _ rfl _ (by rintro (h | ⟨_, _, h⟩) <;> cases h) nofun nofun (fun _ => ⟨hq, hc⟩)

/-- the reader's wrapper after a kernel answer that moved no data: a failure, an answer to ppoll, or end of file -/
theorem rFinish_no_transfer {s : Sys} (hi : Inv s) (ha : RActive s) (p : Phase) {len : Nat} (hlen : 1 ≤ len) (r : R)
    (hr : ∀ v, r = .ok v → p = .polling ∨ (v = 0 ∧ s.q = [] ∧ s.closed = true)) :
    Inv (rFinish s len (wstep readCfg p r)) := by
  cases r with
  | ok v =>
    rcases hr v rfl with hp | ⟨hv, hq, hc⟩
    · subst hp
      cases v with
      | zero => exact inv_r_done hi _ nofun nofun
      | succ n => exact inv_r_phase hi ha _ hlen
    · subst hv
      cases p with
      | polling => exact inv_r_done hi _ nofun nofun
      | _ => exact inv_r_eof hi hq hc
  | err e =>
    have hos : Inv (rAfter s (.os e)) := by
      simp only [rAfter]
      by_cases h : e = EINTR
      · rw [if_pos h]; exact inv_r_idle hi ha
      · rw [if_neg h]; exact inv_r_done hi _ nofun nofun
    cases p with
    | first =>
      simp only [wstep]
      by_cases h : e = readCfg.blockErrno
      · rw [if_pos h]; exact inv_r_phase hi ha _ hlen
      · rw [if_neg h]; exact hos
    | polling =>
      simp only [wstep]
      by_cases h : e = EINTR
      · rw [if_pos h]; exact inv_r_phase hi ha _ hlen
      · rw [if_neg h]; exact hos
    | retry => exact hos

theorem kRead_inv (s : Sys) (hi : Inv s) (ha : RActive s) (p : Phase) (len : Nat) (hlen : 1 ≤ len) (env : Env) :
    Inv (rFinish (kRead s p len env).2 len (wstep readCfg p (kRead s p len env).1)) := by
  cases env with
  | fail e =>
    rw [show kRead s p len (.fail e) = (.err e, s) by cases p <;> rfl]
    exact rFinish_no_transfer hi ha p hlen _ nofun
  | succeed m =>
    by_cases hp : p = .polling
    · subst hp; exact rFinish_no_transfer hi ha _ hlen (.ok m) fun _ _ => .inl rfl
    · unfold kRead
      rw [callOf_op _ _ hp]
      simp only
      by_cases hq : s.q.length = 0 ∨ len = 0
      · rw [if_pos hq]
        have hq0 : s.q = [] := List.eq_nil_of_length_eq_zero (hq.resolve_right (by omega))
        by_cases hc : s.closed = true ∨ len = 0
        · rw [if_pos hc]
          exact rFinish_no_transfer hi ha _ hlen _ fun v h => by
            cases h; exact .inr ⟨rfl, hq0, hc.resolve_right (by omega)⟩
        · rw [if_neg hc]; exact rFinish_no_transfer hi ha _ hlen _ nofun
      · -- the kernel hands out `k ≥ 1` of the queued bytes, no more than the buffer holds
        rw [if_neg hq]
        obtain ⟨k, hk⟩ : ∃ k, k = clamp m 1 (min len s.q.length) := ⟨_, rfl⟩
        have hb := clamp_bounds m (min len s.q.length) (by omega)
        rw [← hk] at hb ⊢
        obtain ⟨k', rfl⟩ : ∃ k', k = k' + 1 := ⟨k - 1, by omega⟩
        have htk : (s.q.take (k' + 1)).take (k' + 1) = s.q.take (k' + 1) := by rw [List.take_take, Nat.min_self]
        simp only [wstep_ok _ hp, rFinish, rAfter, htk]
        by_cases hlt : (s.rcvd ++ s.q.take (k' + 1)).length < s.want
        · rw [if_pos hlt]; exact hi.read _ _ nofun (fun _ => hlt) nofun nofun
        · rw [if_neg hlt]
          exact hi.read _ _ nofun (by rintro (h | ⟨_, _, h⟩) <;> cases h) nofun (fun _ => by omega)

theorem step_inv (s : Sys) (hi : Inv s) (st : Step) : Inv (step s st) := by
  cases st with
  | w env => exact step_w_inv s hi env
  | r chunk env =>
    cases hr : s.r with
    | done d => simp only [step, hr]; exact hi
    | idle =>
      simp only [step, hr]
      exact kRead_inv s hi (Or.inl hr) _ _ (by omega) env
    | run p len =>
      simp only [step, hr]
      exact kRead_inv s hi (Or.inr ⟨p, len, hr⟩) _ _ (hi.rLen p len hr) env
  | close =>
    cases hw : s.w with
    | run p => simp only [step, hw]; exact hi
    | done d =>
      simp only [step, hw]
      exact { hi with wRun := nofun, wOk := fun h => hi.wOk (hw.trans h), closedW := fun _ => ⟨d, rfl⟩,
                      rEof := fun h => ⟨(hi.rEof h).1, rfl⟩ }

theorem init_inv (data : List Nat) (cap want : Nat) : Inv (Sys.init data cap want) := by
  -- nothing sent, queued or received: every clause is about the two `if`s of `Sys.init`
  by_cases hd : data.length = 0 <;> by_cases hw : want = 0 <;>
    constructor <;> simp_all [Sys.init] <;>
      first | omega | exact List.length_pos_iff.mpr hd

theorem exec_inv (s : Sys) (hi : Inv s) (steps : List Step) : Inv (exec s steps) := by
  induction steps generalizing s with
  | nil => exact hi
  | cons st rest ih => exact ih _ (step_inv s hi st)

theorem wAfter_static (s : Sys) (o : Out) : (wAfter s o).data = s.data ∧ (wAfter s o).want = s.want := by
  cases o with
  | ok v => cases v <;> simp only [wAfter] <;> (try split) <;> trivial
  | os e => simp only [wAfter]; split <;> trivial
  | _ => exact ⟨rfl, rfl⟩

theorem rAfter_static (s : Sys) (o : Out) : (rAfter s o).data = s.data ∧ (rAfter s o).want = s.want := by
  cases o with
  | ok v => cases v <;> simp only [rAfter] <;> (try split) <;> trivial
  | os e => simp only [rAfter]; split <;> trivial
  | _ => exact ⟨rfl, rfl⟩

theorem kWrite_static (s : Sys) (p : Phase) (env : Env) :
    (kWrite s p env).2.data = s.data ∧ (kWrite s p env).2.want = s.want := by
  cases p <;> cases env <;> simp only [kWrite, callOf] <;> (try split) <;> trivial

theorem kRead_static (s : Sys) (p : Phase) (len : Nat) (env : Env) :
    (kRead s p len env).2.data = s.data ∧ (kRead s p len env).2.want = s.want := by
  cases p <;> cases env <;> simp only [kRead, callOf] <;> (try split) <;> (try split) <;> trivial

theorem wFinish_static (s : Sys) (x : Sum Phase Out) : (wFinish s x).data = s.data ∧ (wFinish s x).want = s.want := by
  cases x with
  | inl p => exact ⟨rfl, rfl⟩
  | inr o => exact wAfter_static s o

theorem rFinish_static (s : Sys) (len : Nat) (x : Sum Phase Out) :
    (rFinish s len x).data = s.data ∧ (rFinish s len x).want = s.want := by
  cases x with
  | inl p => exact ⟨rfl, rfl⟩
  | inr o => exact rAfter_static s o

theorem step_static (s : Sys) (st : Step) : (step s st).data = s.data ∧ (step s st).want = s.want := by
  have hw := fun p env => (wFinish_static (kWrite s p env).2 (wstep writeCfg p (kWrite s p env).1)).imp
    (·.trans (kWrite_static s p env).1) (·.trans (kWrite_static s p env).2)
  have hr := fun p len env => (rFinish_static (kRead s p len env).2 len (wstep readCfg p (kRead s p len env).1)).imp
    (·.trans (kRead_static s p len env).1) (·.trans (kRead_static s p len env).2)
  cases st with
  | w env =>
    cases h : s.w with
    | done d => simp only [step, h, and_self]
    | run p => simp only [step, h]; exact hw p env
  | r chunk env =>
    cases h : s.r with
    | done d => simp only [step, h, and_self]
    | idle => simp only [step, h]; exact hr _ _ env
    | run p len => simp only [step, h]; exact hr p len env
  | close => cases h : s.w <;> simp only [step, h, and_self]

theorem exec_static (s : Sys) (steps : List Step) : (exec s steps).data = s.data ∧ (exec s steps).want = s.want := by
  induction steps generalizing s with
  | nil => exact ⟨rfl, rfl⟩
  | cons st rest ih => exact (ih (step s st)).imp (·.trans (step_static s st).1) (·.trans (step_static s st).2)

end TinyVerif.SockWrap
