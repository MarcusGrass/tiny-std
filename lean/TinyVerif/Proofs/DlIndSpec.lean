import TinyVerif.Proofs.DlIndBase
/-!
# Interface of the inductiveness proof (`wf_step` for the strengthened invariant)

`WF` alone is not inductive (`Proofs/DlIndCex.lean`); the invariant is `Inv hs := SInv hs.st ∧ liveOk hs`
with `SInv s := WFS s ∧ RecsOk s ∧ FenceOk s ∧ TailOk s ∧ HeadOk s ∧ RecIn s`.

Every model function `f` below the entry points has ONE interface theorem of the shape
  `SInv s → <what the call site knows> → f … = .ok … → SInv s' ∧ <how the set of user chunks changed>`
whose statement is a `def …_Spec : Prop` here: a proof of `g_Spec` takes `f_Spec` of the functions `g`
calls as hypotheses, and the assembly (`Proofs/DlIndStep.lean`) discharges them in dependency order.  The
entry-point statements `inner_malloc_Spec`, `malloc_Spec`, `realloc_Spec` carry no bound on the padded
request and are not proved; the assembly proves their primed forms with the bound `as_BigOk`
(`inner_malloc_Spec'`, `malloc_Spec'`, `realloc_Spec'` in `Proofs/DlIndStep.lean`).

"User chunk" = in-use header that is neither a fencepost nor the chunk holding a segment record; the
`liveOk` conjunct says exactly that the live blocks are the user chunks (`gl_liveOk_iff_user`,
`Proofs/DlIndGlue.lean`).  The deltas:
  * `SameUsers s s'`            nothing changed
  * `Alloc s s' nb mem`         one new user chunk of ≥ nb bytes at `mem - 16`, 16-aligned, not a user chunk before
  * `Freed s s' mem`            exactly the user chunk at `mem - 16` disappeared
  * `Resized s s' p nb`         the user chunk at `p` now has some size ≥ nb, everything else unchanged
  * `Moved s s' mem mem' nb`    the user chunk at `mem - 16` disappeared, one of ≥ nb bytes at `mem' - 16` appeared
-/
namespace TinyVerif.Dl

/-- needed by `releaseLoop`: in a non-head segment (one whose record has been
pushed, `recAt ≠ 0`) every header that is neither a fencepost nor the record chunk ends at least `top_foot_size`
(80) bytes before the segment end — otherwise `release_unused_segments`, which only looks at the first chunk of the
segment, would unmap a segment with a live chunk hiding in its last 80 bytes.  Depends only on (addr, size) of the
headers and on the segment list. -/
def TailOk (s : St) : Prop :=
  ∀ g ∈ s.segs, g.recAt ≠ 0 → ∀ e ∈ s.h.ents, inSeg g e = true →
    e.size = 8 ∨ isRecord s.segs e = true ∨ e.addr + e.size + 80 ≤ g.base + g.size

/-- needed by `sys-extend` / `prepend_alloc`: the first header of a segment is never a fencepost.  Otherwise a segment that starts exactly where a fresh mapping ends, with a fencepost as first
header, would after `sys-extend` have the foot word of `top` directly before a fencepost (breaking `FenceOk`), and
`prepend-inuse` would clear PINUSE of that fencepost (breaking `shapeOk`). -/
def HeadOk (s : St) : Prop := ∀ g ∈ s.segs, ∀ e ∈ s.h.ents, e.addr = g.base → e.size ≠ 8

/-- needed by `releaseLoop`: the record of a non-head segment lies inside that segment.  Otherwise two segments could share one record chunk, and releasing the segment that holds it would break
`RecsOk` for the other.  Depends only on the segment list. -/
def RecIn (s : St) : Prop := ∀ g ∈ s.segs, g.recAt ≠ 0 → g.base + 16 ≤ g.recAt ∧ g.recAt < g.base + g.size

/-- the strengthened state-level invariant -/
structure SInv (s : St) : Prop where
  wfs : WFS s
  recs : RecsOk s
  fence : FenceOk s
  tail : TailOk s
  head : HeadOk s
  recin : RecIn s

/-- `SInv` does not look at the ghost fields, the OS queue, `maxfp`, `trim_check`, `release_checks` -/
theorem SInv.of_same {s s' : St} (hi : SInv s) (hh : SameHeap s'.h s.h) (hsegs : s'.segs = s.segs)
    (hfp : s'.footprint = s.footprint) (hla : s'.least_addr = s.least_addr) : SInv s' := by
  have hents : s'.h.ents = s.h.ents := hh.1
  refine ⟨hi.wfs.of_same hh hsegs hfp hla, ?_, ?_, ?_, ?_, ?_⟩
  rotate_left 3
  · intro g hg e he hb
    rw [hsegs] at hg
    rw [hents] at he
    exact hi.head g hg e he hb
  · intro g hg hne
    rw [hsegs] at hg
    exact hi.recin g hg hne
  · intro g hg hne
    rw [hsegs] at hg
    rw [hents]
    exact hi.recs g hg hne
  · intro pre x y post hes h8 ha
    rw [hents] at hes
    rw [hsegs]
    exact hi.fence pre x y post hes h8 ha
  · intro g hg hne e he hin
    rw [hsegs] at hg ⊢
    rw [hents] at he
    exact hi.tail g hg hne e he hin

/-- the invariant of histories that IS inductive -/
def Inv (hs : Hist) : Prop := SInv hs.st ∧ liveOk hs = true

theorem Inv.wf {hs : Hist} (h : Inv hs) : WF hs := (wf_iff_wfs hs).2 ⟨h.1.wfs, h.2⟩

/-- user chunk of size `sz` at header address `a` -/
def User (s : St) (a sz : Nat) : Prop :=
  ∃ e, findEnt s.h.ents a = some e ∧ e.cin = true ∧ e.size = sz ∧ sz ≠ 8 ∧ isRecord s.segs e = false

def SameUsers (s s' : St) : Prop := ∀ a z, User s' a z ↔ User s a z

def Alloc (s s' : St) (nb mem : Nat) : Prop :=
  16 ≤ mem ∧ mem % 16 = 0 ∧ (∀ z, ¬ User s (mem - 16) z) ∧
  ∃ sz, nb ≤ sz ∧ ∀ a z, User s' a z ↔ (User s a z ∨ (a = mem - 16 ∧ z = sz))

def Freed (s s' : St) (mem : Nat) : Prop := ∀ a z, User s' a z ↔ (User s a z ∧ a ≠ mem - 16)

def Resized (s s' : St) (p nb : Nat) : Prop :=
  ∃ sz, nb ≤ sz ∧ ∀ a z, User s' a z ↔ ((a ≠ p ∧ User s a z) ∨ (a = p ∧ z = sz))

def Moved (s s' : St) (mem mem' nb : Nat) : Prop :=
  16 ≤ mem' ∧ mem' % 16 = 0 ∧ (mem' ≠ mem → ∀ z, ¬ User s (mem' - 16) z) ∧
  ∃ sz, nb ≤ sz ∧ ∀ a z, User s' a z ↔ ((User s a z ∧ a ≠ mem - 16) ∨ (a = mem' - 16 ∧ z = sz))

/-- what every call site knows about a padded request; the bound `2^63` is the one the entry points assume of
their request (`as_BigOk` in `Proofs/DlIndStep.lean`) -/
def NbOk (nb : Nat) : Prop := nb % 16 = 0 ∧ 32 ≤ nb ∧ nb < 2 ^ 63

/-- the mmap contract for the answer `sys_alloc` is about to pop: a served mapping is 16-aligned, not null,
inside the address space and disjoint from every segment held -/
def OsOk (s : St) (len : Nat) : Prop :=
  ∀ tbase q, s.osq = .m (some tbase) :: q → OsFresh s tbase len ∧ tbase % 4096 = 0

/-- the length `sys_alloc s nb` asks the OS for -/
def sysLen (nb : Nat) : Nat := align_up (nb + top_foot_size + MALLOC_ALIGNMENT) DEFAULT_GRANULARITY

/-! ## heap-level functions (segment list untouched) -/

def malloc_nosys_Spec : Prop :=
  ∀ {s : St} (_ : SInv s) {size : Nat} {h' : Heap} {mem : Nat}, malloc_nosys s.h size = .ok (.done h' mem) →
    SInv { s with h := h' } ∧ Alloc s { s with h := h' } (nbOf size) mem

def dispose_chunk_Spec : Prop :=
  ∀ {s : St} (_ : SInv s) {p psize : Nat} {h' : Heap}, User s p psize → dispose_chunk s.h p psize = .ok h' →
    SInv { s with h := h' } ∧ Freed s { s with h := h' } (p + 16)

/-- `set_inuse p nb; set_inuse (p+nb) rsize` on a user chunk of size `nb + rsize` (realloc shrink / grow
remainders, memalign leader / trailer): two user chunks afterwards -/
def split_inuse_Spec : Prop :=
  ∀ {s : St} (_ : SInv s) {p nb rsize : Nat} {h1 h2 : Heap}, User s p (nb + rsize) → nb % 16 = 0 → 32 ≤ nb →
    rsize % 16 = 0 → 32 ≤ rsize →
    set_inuse s.h p nb = .ok h1 → set_inuse h1 (p + nb) rsize = .ok h2 →
    SInv { s with h := h2 } ∧
    ∀ a z, User { s with h := h2 } a z ↔ ((a ≠ p ∧ User s a z) ∨ (a = p ∧ z = nb) ∨ (a = p + nb ∧ z = rsize))

def free_heap_Spec : Prop :=
  ∀ {s : St} (_ : SInv s) {mem : Nat} {h' : Heap} {t : FreeTail}, 16 ≤ mem → (∃ z, User s (mem - 16) z) →
    free_heap s.h mem = .ok (h', t) →
    SInv { s with h := h' } ∧ Freed s { s with h := h' } mem ∧
    (∀ ts, t = .intoTop ts → ts = h'.topsize)

def try_realloc_chunk_Spec : Prop :=
  ∀ {s : St} (_ : SInv s) {p nb z : Nat} {h' : Heap}, User s p z → NbOk nb →
    try_realloc_chunk s.h p nb = .ok (some h') →
    SInv { s with h := h' } ∧ Resized s { s with h := h' } p nb

def memalign_fix_Spec : Prop :=
  ∀ {s : St} (_ : SInv s) {mem k nb z : Nat} {h' : Heap} {mem' : Nat}, 16 ≤ mem → User s (mem - 16) z →
    NbOk nb → 5 ≤ k → k ≤ 32 → nb + 2 ^ k + 24 ≤ z →
    memalign_fix s.h mem (2 ^ k) nb = .ok (h', mem') →
    SInv { s with h := h' } ∧ mem' % 2 ^ k = 0 ∧ mem ≤ mem' ∧ mem' + nb ≤ mem + z ∧
    Moved s { s with h := h' } mem mem' nb

/-! ## functions that change the segment list / talk to the OS -/

def sys_alloc_Spec : Prop :=
  ∀ {s s' : St} (_ : SInv s) {nb mem : Nat}, NbOk nb → OsOk s (sysLen nb) → sys_alloc s nb = .ok (s', mem) →
    SInv s' ∧ (mem ≠ 0 → Alloc s s' nb mem) ∧ (mem = 0 → SameUsers s s')

def release_unused_segments_Spec : Prop :=
  ∀ {s s' : St} (_ : SInv s) {r : Nat}, release_unused_segments s = .ok (s', r) → SInv s' ∧ SameUsers s s'

def sys_trim_Spec : Prop :=
  ∀ {s s' : St} (_ : SInv s) {pad : Nat} {b : Bool}, sys_trim s pad = .ok (s', b) → SInv s' ∧ SameUsers s s'

/-! ## entry points -/

def inner_malloc_Spec : Prop :=
  ∀ {s s' : St} (_ : SInv s) {size mem : Nat}, OsOk s (mapSize size) → inner_malloc s size = .ok (s', mem) →
    SInv s' ∧ (mem ≠ 0 → Alloc s s' (nbOf size) mem) ∧ (mem = 0 → SameUsers s s')

def free_Spec : Prop :=
  ∀ {s s' : St} (_ : SInv s) {mem : Nat}, 16 ≤ mem → (∃ z, User s (mem - 16) z) → free s mem = .ok s' →
    SInv s' ∧ Freed s s' mem

def malloc_Spec : Prop :=
  ∀ {s s' : St} (_ : SInv s) {size k mem : Nat}, k ≤ 32 → OsOk s (mapSize (reqOf size (2 ^ k))) → malloc s size (2 ^ k) = .ok (s', mem) →
    SInv s' ∧ (mem ≠ 0 → mem % 2 ^ k = 0 ∧ Alloc s s' (request2size size) mem) ∧ (mem = 0 → SameUsers s s')

def realloc_Spec : Prop :=
  ∀ {s s' : St} (_ : SInv s) {ptr osz k ns mem z : Nat} {c : Option Copy}, 16 ≤ ptr → User s (ptr - 16) z →
    k ≤ 32 → ptr % 2 ^ k = 0 → OsOk s (mapSize (reqOf ns (2 ^ k))) → realloc s ptr osz (2 ^ k) ns = .ok (s', mem, c) →
    SInv s' ∧ (mem = 0 → SameUsers s s') ∧
    (mem ≠ 0 → mem % 2 ^ k = 0 ∧ Moved s s' ptr mem (request2size ns))

end TinyVerif.Dl
