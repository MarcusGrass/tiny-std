/- helper lemmas for C16 part 2 (socket address encoding) -/
import TinyVerif.Model.SockAddr
namespace TinyVerif.SockAddr

theorem swap16_bytes (p : Nat) (h : p < 65536) : swap16 p % 256 = p / 256 ∧ swap16 p / 256 % 256 = p % 256 := by
  have h1 : p / 256 % 256 = p / 256 := by omega
  have h2 : (p % 256 * 256 + p / 256) % 256 = p / 256 := by omega
  have h3 : (p % 256 * 256 + p / 256) / 256 = p % 256 := by omega
  unfold swap16
  rw [h1, h2, h3, Nat.mod_mod]
  exact ⟨rfl, rfl⟩

theorem swap16_swap16 (p : Nat) (h : p < 65536) : swap16 (swap16 p) = p := by
  have := swap16_bytes p h
  show swap16 p % 256 * 256 + swap16 p / 256 % 256 = p
  rw [this.1, this.2]; exact Nat.div_add_mod' p 256

theorem le_unle (l : List Nat) (h : ∀ x ∈ l, x < 256) : le l.length (unle l) = l := by
  induction l with
  | nil => rfl
  | cons b t ih =>
    have hb := h b List.mem_cons_self
    rw [List.length_cons, unle, le, Nat.add_mul_mod_self_left, Nat.mod_eq_of_lt hb,
      Nat.add_mul_div_left _ _ (by decide), Nat.div_eq_of_lt hb, Nat.zero_add,
      ih fun x hx => h x (List.mem_cons_of_mem _ hx)]

theorem le4_unle (a b c d : Nat) (ha : a < 256) (hb : b < 256) (hc : c < 256) (hd : d < 256) :
    le 4 (unle [a, b, c, d]) = [a, b, c, d] :=
  le_unle [a, b, c, d] (by
    intro x hx
    simp only [List.mem_cons, List.not_mem_nil, or_false] at hx
    rcases hx with rfl | rfl | rfl | rfl <;> assumption)

def SevenBit (s : List Nat) : Prop := ∀ c ∈ s, 1 ≤ c ∧ c < 128

theorem unixLoop_ok (s rest buf : List Nat) (hs : SevenBit s) (hlen : buf.length + s.length ≤ 107) :
    unixLoop (s ++ 0 :: rest) buf =
      .ok ((buf ++ s) ++ List.replicate (SUN_PATH - (buf ++ s).length) 0) ((buf ++ s).length + 1 + 2) := by
  induction s generalizing buf with
  | nil =>
    simp only [List.nil_append, List.append_nil, unixLoop]
    simp only [List.length_nil, Nat.add_zero] at hlen
    rw [if_neg (by omega), if_neg (by simp only [SUN_PATH]; omega), if_neg (by simp)]
    simp
  | cons c t ih =>
    have hc := hs c (by simp)
    simp only [List.length_cons] at hlen
    simp only [List.cons_append, unixLoop]
    rw [if_neg (by omega), if_neg (by simp only [SUN_PATH]; omega), if_neg (by omega), if_neg (by omega)]
    rw [ih (buf ++ [c]) (fun x hx => hs x (by simp [hx])) (by simp; omega)]
    simp [List.append_assoc]

theorem unixLoop_tooLong (s rest buf : List Nat) (hs : SevenBit s) (hb : buf.length ≤ 107)
    (hlen : 108 ≤ buf.length + s.length) : unixLoop (s ++ rest) buf = .tooLong := by
  induction s generalizing buf with
  | nil => simp only [List.length_nil] at hlen; omega
  | cons c t ih =>
    have hc := hs c (by simp)
    simp only [List.length_cons] at hlen
    simp only [List.cons_append, unixLoop]
    rw [if_neg (by omega), if_neg (by simp only [SUN_PATH]; omega)]
    by_cases h107 : buf.length = 107
    · rw [if_pos ⟨h107, by omega⟩]
    · rw [if_neg (by omega), if_neg (by omega)]
      exact ih (buf ++ [c]) (fun x hx => hs x (by simp [hx])) (by simp; omega) (by simp; omega)

theorem unixLoop_eightBit (s rest buf : List Nat) (c : Nat) (hs : SevenBit s) (hc : 128 ≤ c)
    (hlen : buf.length + s.length ≤ 107) : unixLoop (s ++ c :: rest) buf = .eightBit := by
  induction s generalizing buf with
  | nil => simp only [List.nil_append, unixLoop]; rw [if_pos hc]
  | cons d t ih =>
    have hd := hs d (by simp)
    simp only [List.length_cons] at hlen
    simp only [List.cons_append, unixLoop]
    rw [if_neg (by omega), if_neg (by simp only [SUN_PATH]; omega), if_neg (by omega), if_neg (by omega)]
    exact ih (buf ++ [d]) (fun x hx => hs x (by simp [hx])) (by simp; omega)

theorem unixLoop_no_panic (path buf : List Nat) (h0 : 0 ∈ path) (hb : buf.length ≤ 107) :
    unixLoop path buf ≠ .panic := by
  induction path generalizing buf with
  | nil => simp at h0
  | cons c rest ih =>
    simp only [unixLoop]
    split
    · simp
    · split
      · rename_i h; simp only [SUN_PATH] at h; omega
      · split
        · simp
        · split
          · simp
          · rename_i h1 h2 h3 h4
            have : 0 ∈ rest := by
              simp only [List.mem_cons] at h0
              rcases h0 with h | h
              · exact absurd h.symm h4
              · exact h
            exact ih (buf ++ [c]) this (by simp; omega)

/-- the ok result never has more than 108 path bytes -/
theorem unixLoop_len (path buf p : List Nat) (n : Nat) (h : unixLoop path buf = .ok p n) :
    p.length = SUN_PATH ∧ n ≤ SUN_PATH + 2 := by
  induction path generalizing buf with
  | nil => simp [unixLoop] at h
  | cons c rest ih =>
    simp only [unixLoop] at h
    split at h
    · cases h
    · split at h
      · cases h
      · split at h
        · cases h
        · split at h
          · rename_i h1 h2 h3 h4
            simp only [UnixRes.ok.injEq] at h
            obtain ⟨rfl, rfl⟩ := h
            simp only [SUN_PATH] at *
            simp; omega
          · exact ih _ h

end TinyVerif.SockAddr
