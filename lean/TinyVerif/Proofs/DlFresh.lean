import TinyVerif.Proofs.DlVictim
/-! `alloc_fresh` in full: where the block returned by an allocation lies — in a chunk that was free,
or in the mapping the OS just handed out — and why it overlaps nothing that was live, from `WF` of
the state BEFORE the call and the mmap contract. -/
namespace TinyVerif.Dl

/-- the mmap contract for an answer the OS gives: 16-aligned (page-aligned in fact), not null, and
disjoint from every segment the allocator holds -/
def OsFresh (s : St) (tbase len : Nat) : Prop :=
  tbase % 16 = 0 ∧ 0 < tbase ∧ tbase + len ≤ 2 ^ 64 ∧ ∀ g ∈ s.segs, tbase + len ≤ g.base ∨ g.base + g.size ≤ tbase

theorem segsDisjoint_pair {l : List Seg} (h : segsDisjoint l = true) :
    ∀ a ∈ l, ∀ b ∈ l, a = b ∨ a.base + a.size ≤ b.base ∨ b.base + b.size ≤ a.base := by
  induction l with
  | nil => intro a ha; cases ha
  | cons x xs ih =>
    intro a ha b hb
    simp only [segsDisjoint, Bool.and_eq_true, List.all_eq_true, Bool.or_eq_true, decide_eq_true_eq] at h
    cases ha with
    | head =>
      cases hb with
      | head => exact Or.inl rfl
      | tail _ hb' => exact Or.inr (h.1 b hb')
    | tail _ ha' =>
      cases hb with
      | head => have := h.1 a ha'; exact Or.inr (by omega)
      | tail _ hb' => exact ih h.2 a ha' b hb'

theorem align_as_chunk_aligned (a : Nat) (h16 : a % 16 = 0) (hlt : a + 32 ≤ 2 ^ 64) : align_as_chunk a = a := by
  unfold align_as_chunk
  rw [MEM_OFFSET_eq, align_offset_usize_eq (a + 16) (by omega)]
  omega

theorem fresh_mapping_disjoint {hs : Hist} (h : WF hs) {tbase asize size : Nat} (hf : OsFresh hs.st tbase asize)
    (hsz : size + 16 ≤ asize) {b : Block} (hb : b ∈ hs.live) :
    tbase + 16 + size ≤ b.ptr ∨ b.ptr + b.size ≤ tbase + 16 := by
  obtain ⟨g, hg, hg1, hg2⟩ := live_inside_segment h hb
  rcases hf.2.2.2 g hg with h1 | h1
  · left; omega
  · right; omega

/-- live chunks lie below `top`, or in segments disjoint from the mapping right behind the head segment -/
theorem top_block_disjoint {hs : Hist} (h : WF hs) (htz : hs.st.h.topsize ≠ 0) {asize size : Nat}
    (hf : OsFresh hs.st (hs.st.h.top + hs.st.h.topsize + 80) asize) (hlt : size + 8 < hs.st.h.topsize + asize)
    {b : Block} (hb : b ∈ hs.live) :
    hs.st.h.top + 16 + size ≤ b.ptr ∨ b.ptr + b.size ≤ hs.st.h.top + 16 := by
  obtain ⟨g0, rest, et, ef, _, het, hfree, hsz, hef, hfc, _, hfs, _, _, _⟩ := top_parts h.parts.top htz
  obtain ⟨hmt, hat⟩ := findEnt_some het
  obtain ⟨hmf, haf⟩ := findEnt_some hef
  obtain ⟨e, hm, ha, hcin, hs1, _⟩ := live_chunk h hb
  rw [top_foot_size_eq] at hfs
  have sep := entsOk_sep h.parts.ents
  rcases Nat.lt_trichotomy e.addr hs.st.h.top with hlt2 | heq | hgt
  · have := sep e hm et hmt (hat ▸ hlt2)
    right; omega
  · rw [entsOk_addr_inj h.parts.ents hm hmt (heq.trans hat.symm)] at hcin
    simp [isFree, hcin] at hfree
  · have s1 := sep et hmt e hm (hat ▸ hgt)
    have hne2 : e.addr ≠ ef.addr := by
      intro heq2
      rw [entsOk_addr_inj h.parts.ents hm hmf heq2, hfc] at hcin
      cases hcin
    have s2 := sep ef hmf e hm (by omega)
    have hin := h.parts.inSegs
    simp only [List.all_eq_true, List.any_eq_true] at hin
    obtain ⟨g', hg', hge⟩ := hin e hm
    unfold inSeg at hge
    simp only [Bool.and_eq_true, decide_eq_true_eq] at hge
    rcases hf.2.2.2 g' hg' with h1 | h1
    · left; omega
    · omega

theorem seg_holding_top {hs : Hist} (h : WF hs) {sp : Seg} (hsp : sp ∈ hs.st.segs) (hh : sp.holds hs.st.h.top = true) :
    hs.st.h.topsize ≠ 0 ∧ hs.st.h.top % 16 = 0 ∧ sp.top = hs.st.h.top + hs.st.h.topsize + 80 := by
  have htz := topsize_ne h.parts.top hsp
  obtain ⟨g0, rest, et, _, hsegs0, het, hfree, _, _, _, _, _, hg0b, hg0t, _⟩ := top_parts h.parts.top htz
  obtain ⟨hmt, hat⟩ := findEnt_some het
  refine ⟨htz, ?_, ?_⟩
  · have hshape := h.parts.shape
    unfold shapeOk at hshape
    simp only [List.all_eq_true, Bool.or_eq_true, Bool.and_eq_true, decide_eq_true_eq] at hshape
    rcases hshape et hmt with h1 | h1
    · simp [isFree] at hfree; rw [h1.1.2] at hfree; simp at hfree
    · omega
  · unfold Seg.holds at hh
    simp only [Bool.and_eq_true, decide_eq_true_eq] at hh
    unfold Seg.top at hh ⊢
    rw [top_foot_size_eq] at hg0t
    rcases segsDisjoint_pair (segsOk_parts h.parts.segs).1 sp hsp g0 (by rw [hsegs0]; exact List.mem_cons_self) with h1 | h1 | h1
    · rw [h1]; omega
    · omega
    · omega

/-- **alloc_fresh, OS path**: the block `sys_alloc` returns lies in the fresh mapping, or starts at
the old `top` and runs into the mapping that extends it; under the mmap contract it overlaps no
live block (and ends inside the address space) -/
theorem sys_alloc_fresh {hs : Hist} (h : WF hs) {s s' : St} (hsame : SameHeap s.h hs.st.h) (hsegs : s.segs = hs.st.segs)
    {nb size mem asize : Nat} (ha : align_up (nb + top_foot_size + MALLOC_ALIGNMENT) DEFAULT_GRANULARITY = asize)
    (hm : sys_alloc s nb = .ok (s', mem)) (hne : mem ≠ 0) (hfit : size + 8 ≤ nb)
    (hnb : nb + top_foot_size + MALLOC_ALIGNMENT + DEFAULT_GRANULARITY ≤ 2 ^ 64)
    (hos : ∀ tbase q, s.osq = .m (some tbase) :: q → OsFresh hs.st tbase asize) :
    16 ≤ mem ∧ mem + size ≤ 2 ^ 64 ∧ ∀ b ∈ hs.live, mem + size ≤ b.ptr ∨ b.ptr + b.size ≤ mem := by
  have hasz : nb + 96 ≤ asize := by
    rw [top_foot_size_eq, MALLOC_ALIGNMENT_eq, DEFAULT_GRANULARITY_eq] at hnb ha
    have := align_up_ge (nb + 80 + 16) 16 (by omega)
    rw [show (2 : Nat) ^ 16 = 65536 from rfl, ha] at this
    omega
  obtain ⟨res, q, hq, _, _, hn, hsv⟩ := sys_alloc_spec ha hm
  clear ha hnb
  cases res with
  | none => exact absurd (hn rfl).1 hne
  | some tbase =>
  have hf := hos tbase q hq
  obtain ⟨h16, hpos, hov, _⟩ := id hf
  rcases (hsv tbase rfl).2.2 hne with hmem | ⟨⟨sp, hsp, hsptop, hholds⟩, hmem, hlt⟩
  · -- block inside the fresh mapping
    rw [align_as_chunk_aligned tbase h16 (by omega), MEM_OFFSET_eq] at hmem
    subst hmem
    exact ⟨by omega, by omega, fun b hb => fresh_mapping_disjoint h hf (by omega) hb⟩
  · -- block starts at the old top
    obtain ⟨_, _, _, _, _, htop, htops⟩ := hsame
    rw [htops] at hlt
    rw [htop] at hmem hholds
    rw [hsegs] at hsp
    obtain ⟨htz, htop16, htb⟩ := seg_holding_top h hsp hholds
    rw [hsptop] at htb
    subst htb
    rw [align_as_chunk_aligned _ htop16 (by omega), MEM_OFFSET_eq] at hmem
    subst hmem
    exact ⟨by omega, by omega, fun b hb => top_block_disjoint h htz hf (by omega) hb⟩

/-- the size of the mapping `sys_alloc` asks for when serving a request of `size` bytes -/
def mapSize (size : Nat) : Nat := align_up (nbOf size + top_foot_size + MALLOC_ALIGNMENT) DEFAULT_GRANULARITY

/-- **alloc_fresh** for `inner_malloc`, with or without an OS call, from any start state that agrees
with the well-formed `hs` on the allocator fields -/
theorem inner_malloc_fresh_all {hs : Hist} (h : WF hs) {s s' : St} (hsame : SameHeap s.h hs.st.h)
    (hsegs : s.segs = hs.st.segs) {size mem : Nat}
    (hm : inner_malloc s size = .ok (s', mem)) (hne : mem ≠ 0) (hsz : 0 < size) (hmax : size < MAX_REQUEST)
    (hos : ∀ tbase q, s.osq = .m (some tbase) :: q → OsFresh hs.st tbase (mapSize size)) :
    16 ≤ mem ∧ mem + size ≤ 2 ^ 64 ∧ ∀ b ∈ hs.live, mem + size ≤ b.ptr ∨ b.ptr + b.size ≤ mem := by
  rcases inner_malloc_cases hm with ⟨h', hr, _⟩ | ⟨_, _, h0⟩ | ⟨nb, hr, hs⟩
  · exact malloc_nosys_fresh h hsame hr hsz
  · exact absurd h0 hne
  · obtain rfl := (malloc_nosys_needSys hr).1
    refine sys_alloc_fresh h hsame hsegs rfl hs hne ?_ ?_ hos
    · rw [nbOf_eq]; exact request2size_ge size (lt_max_request_no_overflow size hmax)
    · rw [nbOf_eq]; exact (request2size_lt_max size hmax).2

/-- where `memalign_fix` places the aligned block inside the chunk it was given -/
theorem memalign_fix_result {h h' : Heap} {mem k nb mem' : Nat} (hh : memalign_fix h mem (2 ^ k) nb = .ok (h', mem'))
    (h16 : 16 ≤ mem) (hov : mem + 2 ^ k ≤ 2 ^ 64) :
    mem' = mem ∨ (mem' = align_up mem (2 ^ k)) ∨
      (mem' = align_up mem (2 ^ k) + 2 ^ k ∧ align_up mem (2 ^ k) - mem ≤ 32) := by
  have hge := align_up_ge mem k hov
  unfold memalign_fix at hh
  dsimp only at hh
  msimp at hh
  obtain ⟨_, _, ⟨h1, p⟩, hp, hh⟩ := hh
  have hfinal : mem' = p + MEM_OFFSET := by
    mlast hh
    simp only [Prod.mk.injEq] at hh
    exact hh.2.symm
  rw [MEM_OFFSET_eq] at hfinal hp
  by_cases hal : mem &&& (2 ^ k - 1) ≠ 0
  · rw [if_pos hal] at hp
    msimp at hp
    obtain ⟨e, _, _, _, _, _, h2, _, h3, _, h4, _, hp⟩ := hp
    simp only [Prod.mk.injEq] at hp
    obtain ⟨_, hp2⟩ := hp
    rw [MIN_CHUNK_SIZE_eq] at hp2
    split at hp2
    · right; left; omega
    · right; right; rename_i hc; constructor <;> omega
  · rw [if_neg hal] at hp
    msimp at hp
    simp only [Prod.mk.injEq] at hp
    left; omega

/-- the request `memalign` passes to `inner_malloc` -/
def memalignReq (size al : Nat) : Nat := request2size size + al + MIN_CHUNK_SIZE - CHUNK_OVERHEAD

/-- wherever `memalign_fix` places the block inside the chunk at `m1` (see `memalign_fix_result`), `size` bytes
from there stay inside the `r2s + P + 24` bytes obtained -/
private theorem memalign_arith {m1 au P r2s size mem bp bs : Nat} (hal1 : m1 ≤ au) (hal2 : au < m1 + P)
    (hpad : size + 8 ≤ r2s) (hr : mem = m1 ∨ mem = au ∨ (mem = au + P ∧ au - m1 ≤ 32))
    (hb : m1 + (r2s + P + 32 - 8) ≤ bp ∨ bp + bs ≤ m1) : mem + size ≤ bp ∨ bp + bs ≤ mem := by
  omega

/-- **alloc_fresh** for over-aligned requests: the aligned block lies inside the chunk obtained for
the padded request, which is fresh -/
theorem memalign_fresh {hs : Hist} (h : WF hs) {s s' : St} (hsame : SameHeap s.h hs.st.h) (hsegs : s.segs = hs.st.segs)
    {size k mem : Nat} (hk : 5 ≤ k)
    (hm : memalign s (2 ^ k) size = .ok (s', mem)) (hne : mem ≠ 0) (hsz : 0 < size) (hmax : size < MAX_REQUEST)
    (hos : ∀ tbase q, s.osq = .m (some tbase) :: q → OsFresh hs.st tbase (mapSize (memalignReq size (2 ^ k)))) :
    ∀ b ∈ hs.live, mem + size ≤ b.ptr ∨ b.ptr + b.size ≤ mem := by
  have hpow : 32 ≤ 2 ^ k := Nat.pow_le_pow_right (n := 2) (by decide) hk
  unfold memalign at hm
  rw [if_neg (by rw [MIN_CHUNK_SIZE_eq]; omega)] at hm
  rcases memalign_body_cases hm with ⟨_, h0⟩ | ⟨s1, m1, him, hc⟩
  · exact absurd h0 hne
  · rcases hc with ⟨_, _, h0⟩ | ⟨hm1, h2, hfix, _⟩
    · exact absurd h0 hne
    · obtain ⟨h16, hbound, hdis⟩ := inner_malloc_fresh_all h (s := s.tag "memalign") hsame hsegs him hm1
        (by rw [MIN_CHUNK_SIZE_eq, CHUNK_OVERHEAD_eq]; omega) (inner_malloc_lt_max him hm1) hos
      rw [MIN_CHUNK_SIZE_eq, CHUNK_OVERHEAD_eq] at hbound hdis
      have hm1lt : m1 + 2 ^ k ≤ 2 ^ 64 := by omega
      exact fun b hb => memalign_arith (align_up_ge m1 k hm1lt) (align_up_lt m1 k hm1lt)
        (request2size_ge size (lt_max_request_no_overflow size hmax)) (memalign_fix_result hfix h16 hm1lt) (hdis b hb)

/-- the request size the entry point `malloc(size, align)` passes to `inner_malloc` -/
def reqOf (size align : Nat) : Nat := if align ≤ MALLOC_ALIGNMENT then size else memalignReq size align

theorem malloc_fresh {hs : Hist} (h : WF hs) {s s' : St} (hsame : SameHeap s.h hs.st.h) (hsegs : s.segs = hs.st.segs)
    {size k mem : Nat}
    (hm : malloc s size (2 ^ k) = .ok (s', mem)) (hne : mem ≠ 0) (hsz : 0 < size) (hmax : size < MAX_REQUEST)
    (hos : ∀ tbase q, s.osq = .m (some tbase) :: q → OsFresh hs.st tbase (mapSize (reqOf size (2 ^ k)))) :
    ∀ b ∈ hs.live, mem + size ≤ b.ptr ∨ b.ptr + b.size ≤ mem := by
  unfold malloc at hm
  unfold reqOf at hos
  split at hm
  · rename_i hal
    rw [if_pos hal] at hos
    exact (inner_malloc_fresh_all h hsame hsegs hm hne hsz hmax hos).2.2
  · rename_i hal
    rw [if_neg hal] at hos
    have hk : 5 ≤ k := by
      rw [MALLOC_ALIGNMENT_eq] at hal
      by_cases h5 : 5 ≤ k
      · exact h5
      · exfalso
        have : 2 ^ k ≤ 2 ^ 4 := Nat.pow_le_pow_right (by decide) (by omega)
        omega
    exact memalign_fresh h hsame hsegs hk hm hne hsz hmax hos

end TinyVerif.Dl
