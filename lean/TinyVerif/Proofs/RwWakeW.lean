import TinyVerif.Proofs.RwWake
set_option linter.unusedVariables false
namespace TinyVerif.RwLock

/-! ### writer queue: no lost wake-up, for executions in which the two loads that implement the
"sample the sequence, then re-check the state" hand-shake observe current values (sequentially consistent
for those two sites) and `writer_notify` does not wrap.

A writer parked on `writer_notify` is always *covered*: the writers-waiting bit is set in `state` (so whoever
makes the word unlocked runs `wake_writer_or_readers`), or a `wake_writer` is in flight, or an awake writer exists
that carries `other_writers_waiting` and will put the bit back when it takes the lock. -/

def wparked (pc : Pc) : Bool := match pc with | .wParked _ => true | _ => false
/-- a `wake_writer` that has not bumped `writer_notify` yet (it is about to *announce*) -/
def pendA (pc : Pc) : Bool := match pc with | .kNotify _ => true | _ => false
/-- a `wake_writer` in flight: about to bump `writer_notify`, or about to issue its `futex_wake` -/
def pendW (pc : Pc) : Bool := match pc with | .kNotify _ | .kWakeW _ => true | _ => false
/-- an awake writer that puts WRITERS_WAITING back (it carries `other_writers_waiting`, or sets the bit before it sleeps) -/
def owing (pc : Pc) : Bool :=
  match pc with
  | .wSpin _ true | .wCas _ true | .wSetWait _ true | .wSeqLoad | .wStateLoad _ | .wWaitLoad _ | .wWaitSys _ => true
  | _ => false
/-- the sampled sequence number a thread carries -/
def seqOf (pc : Pc) : Option Nat :=
  match pc with
  | .wStateLoad q | .wWaitLoad q | .wWaitSys q | .wParked q => some q
  | _ => none
/-- about to sleep, or asleep, on `writer_notify == q` -/
def preSleep (pc : Pc) : Option Nat :=
  match pc with
  | .wWaitLoad q | .wWaitSys q | .wParked q => some q
  | _ => none

/-- cover of a writer about to sleep on the *current* `writer_notify`: a `wake_writer` that still bumps the counter
makes the kernel's comparison fail, or finds the sleeper -/
def CoverA (s : St) : Prop := hasWW s.state = true ∨ ∃ k, pendA (s.ths k).pc = true
/-- cover of a parked writer: the bit is set, a `wake_writer` is in flight, or an owing writer is awake -/
def CoverP (s : St) : Prop :=
  hasWW s.state = true ∨ (∃ k, pendW (s.ths k).pc = true) ∨ (∃ k, owing (s.ths k).pc = true)

theorem pendW_of_pendA {p : Pc} (h : pendA p = true) : pendW p = true := by cases p <;> first | rfl | cases h

theorem not_pendA {p : Pc} (h : pendW p = false) : pendA p = false := by cases p <;> first | rfl | cases h

theorem CoverA.toP {s : St} (h : CoverA s) : CoverP s :=
  h.imp_right fun ⟨k, hk⟩ => Or.inl ⟨k, pendW_of_pendA hk⟩

/-- parked writers are covered (`park`); `pre` makes that inductive at the park step, `seqle` makes a bump of
`writer_notify` invalidate every pending sleep -/
structure WQ (s : St) : Prop where
  park : (∃ i, wparked (s.ths i).pc = true) → CoverP s
  pre : ∀ i q, preSleep (s.ths i).pc = some q → q = s.notify → CoverA s
  seqle : ∀ i q, seqOf (s.ths i).pc = some q → q ≤ s.notify

theorem init_wq (progs : List (List Txn)) : WQ (init progs) := by
  refine ⟨?_, ?_, ?_⟩
  · rintro ⟨i, hi⟩; simp [init, wparked] at hi
  · intro i q h; simp [init, preSleep] at h
  · intro i q h; simp [init, seqOf] at h

/-- generic step of thread `i` (from pc `p` to `p'`) that leaves `writer_notify` alone and wakes nobody -/
theorem wq_step {s s' : St} {i : Nat} {p p' : Pc} (h : WQ s) (hpc0 : (s.ths i).pc = p)
    (hths : ∀ j, j ≠ i → s'.ths j = s.ths j) (hpc : (s'.ths i).pc = p') (hnot : s'.notify = s.notify)
    (hbit : hasWW s.state = true → hasWW s'.state = true ∨ pendA p' = true)
    (hpark : wparked p' = true → wparked p = true ∨ preSleep p = some s.notify)
    (hpre : ∀ q, preSleep p' = some q → preSleep p = some q ∨ hasWW s'.state = true)
    (hseq : ∀ q, seqOf p' = some q → seqOf p = some q ∨ q ≤ s.notify)
    (hA : pendA p = true → pendA p' = true)
    (hW : pendW p = true → pendW p' = true)
    (hO : owing p = true → owing p' = true ∨ hasWW s'.state = true ∨ preSleep p = some s.notify) :
    WQ s' := by
  subst hpc0
  -- transfer of the two covers
  have covA : CoverA s → CoverA s' := by
    rintro (hb | ⟨k, hk⟩)
    · rcases hbit hb with h1 | h1
      · exact Or.inl h1
      · exact Or.inr ⟨i, by rw [hpc]; exact h1⟩
    · by_cases hki : k = i
      · subst hki; exact Or.inr ⟨k, by rw [hpc]; exact hA hk⟩
      · exact Or.inr ⟨k, by rw [hths k hki]; exact hk⟩
  have covP : CoverP s → CoverP s' := by
    rintro (hb | ⟨k, hk⟩ | ⟨k, hk⟩)
    · rcases hbit hb with h1 | h1
      · exact Or.inl h1
      · exact Or.inr (Or.inl ⟨i, by rw [hpc]; exact pendW_of_pendA h1⟩)
    · by_cases hki : k = i
      · subst hki; exact Or.inr (Or.inl ⟨k, by rw [hpc]; exact hW hk⟩)
      · exact Or.inr (Or.inl ⟨k, by rw [hths k hki]; exact hk⟩)
    · by_cases hki : k = i
      · subst hki
        rcases hO hk with h1 | h1 | h1
        · exact Or.inr (Or.inr ⟨k, by rw [hpc]; exact h1⟩)
        · exact Or.inl h1
        · exact (covA (h.pre k s.notify h1 rfl)).toP
      · exact Or.inr (Or.inr ⟨k, by rw [hths k hki]; exact hk⟩)
  refine ⟨?_, ?_, ?_⟩
  · rintro ⟨j, hj⟩
    by_cases hji : j = i
    · subst hji
      rw [hpc] at hj
      rcases hpark hj with h1 | h1
      · exact covP (h.park ⟨j, h1⟩)
      · exact (covA (h.pre j s.notify h1 rfl)).toP
    · rw [hths j hji] at hj
      exact covP (h.park ⟨j, hj⟩)
  · intro j q hq hqn
    rw [hnot] at hqn
    by_cases hji : j = i
    · subst hji
      rw [hpc] at hq
      rcases hpre q hq with h1 | h1
      · exact covA (h.pre j q h1 hqn)
      · exact Or.inl h1
    · rw [hths j hji] at hq
      exact covA (h.pre j q hq hqn)
  · intro j q hq
    rw [hnot]
    by_cases hji : j = i
    · subst hji
      rw [hpc] at hq
      rcases hseq q hq with h1 | h1
      · exact h.seqle j q h1
      · exact h1
    · rw [hths j hji] at hq
      exact h.seqle j q hq


/-! which RMWs keep the writers-waiting bit -/

theorem hasWW_add_WL (x : Nat) (h : x % 1073741824 = 0) : hasWW (x + WRITE_LOCKED) = hasWW x := by
  simp only [hasWW, WW, WRITE_LOCKED]
  have : (x + 1073741823) / 2147483648 = x / 2147483648 := by omega
  rw [this]

theorem hasWW_add_one (x : Nat) (h : x % 1073741824 < 1073741822) : hasWW (x + 1) = hasWW x := by
  simp only [hasWW, WW]
  have : (x + 1) / 2147483648 = x / 2147483648 := by omega
  rw [this]

theorem hasWW_orRW (x : Nat) (hx : x < 4294967296) : hasWW (orRW x) = hasWW x := by
  unfold orRW
  split
  · rfl
  · rename_i h
    simp only [hasRW, hasWW, RW, WW, beq_iff_eq] at *
    have : (x + 1073741824) / 2147483648 = x / 2147483648 := by omega
    rw [this]

theorem hasWW_orWW (x : Nat) : hasWW (orWW x) = true := by
  unfold orWW
  split
  · assumption
  · rename_i h
    simp only [hasWW, WW, beq_iff_eq] at *
    omega

theorem hasWW_orWL (x : Nat) (o : Bool) (h : x % 1073741824 = 0) : hasWW (orWL x o) = (hasWW x || o) := by
  unfold orWL
  simp only [cnt, RW, h, Nat.sub_zero]
  cases o
  · simp only [Bool.false_eq_true, if_false, Bool.or_false]; exact hasWW_add_WL x h
  · simp only [if_true, Bool.or_true]; exact hasWW_orWW _

theorem hasWW_sub_one (x : Nat) (h : 1 ≤ x % 1073741824) (hlt : x < 4294967296) : hasWW (wsub x 1) = hasWW x := by
  have : wsub x 1 = x - 1 := by unfold wsub; simp only [TWO32]; omega
  rw [this]
  simp only [hasWW, WW]
  have : (x - 1) / 2147483648 = x / 2147483648 := by omega
  rw [this]

theorem hasWW_sub_WL (x : Nat) (h : cnt x = WRITE_LOCKED) (hlt : x < TWO32) :
    hasWW (wsub x WRITE_LOCKED) = hasWW x := by
  simp only [cnt, RW, WRITE_LOCKED, TWO32] at h hlt
  have : wsub x WRITE_LOCKED = x - 1073741823 := by unfold wsub; simp only [TWO32, WRITE_LOCKED]; omega
  rw [this]
  simp only [hasWW, WW]
  have : (x - 1073741823) / 2147483648 = x / 2147483648 := by omega
  rw [this]

theorem not_hasWW_of_lockable (x : Nat) (h : isReadLockable x = true) : hasWW x = false := by
  obtain ⟨_, _, h3⟩ := (readLockable_iff x).mp h
  simp only [hasWW, WW, beq_eq_false_iff_ne, ne_eq]; exact h3

/-- the restricted step: the Acquire load of `writer_notify` and the following re-read of `state` in
`write_contended` observe current values; `writer_notify` does not wrap -/
def stepW (c : Cfg) (s : St) (i : Nat) (e : Ev) : Option St :=
  match (s.ths i).pc, e with
  | .wSeqLoad, .load 1 v => if v = s.notify then step c s i e else none
  | .wStateLoad _, .load 0 v => if v = s.state then step c s i e else none
  | .kNotify _, _ => if s.notify + 1 < TWO32 then step c s i e else none
  | _, _ => step c s i e

theorem stepW_step (c : Cfg) (s s' : St) (i : Nat) (e : Ev) (h : stepW c s i e = some s') : step c s i e = some s' := by
  unfold stepW at h
  split at h
  · split at h
    · exact h
    · simp at h
  · split at h
    · exact h
    · simp at h
  · split at h
    · exact h
    · simp at h
  · exact h

def runW (c : Cfg) : St → List (Nat × Ev) → Option St
  | s, [] => some s
  | s, (i, e) :: rest =>
      match stepW c s i e with
      | some s' => runW c s' rest
      | none => none

theorem runW_eq (c : Cfg) : runW c = runBy (stepW c) := by
  funext s evs
  induction evs generalizing s with
  | nil => rfl
  | cons x rest ih => simp only [runW, runBy, ih]; rfl


theorem stepW_cond {c : Cfg} {s s' : St} {i : Nat} {e : Ev} (h : stepW c s i e = some s') :
    (∀ v, (s.ths i).pc = .wSeqLoad → e = .load 1 v → v = s.notify) ∧
    (∀ q v, (s.ths i).pc = .wStateLoad q → e = .load 0 v → v = s.state) ∧
    (∀ fb, (s.ths i).pc = .kNotify fb → s.notify + 1 < TWO32) := by
  refine ⟨fun v hpc he => ?_, fun q v hpc he => ?_, fun fb hpc => ?_⟩ <;>
    (subst_vars; unfold stepW at h; simp only [hpc] at h; split at h)
  all_goals first | assumption | cases h

/-- moving from `p` to `p'` in state `s` (word and `writer_notify` unchanged) keeps the queue covered -/
def WMove (s : St) (p p' : Pc) : Prop :=
  (wparked p' = true → wparked p = true ∨ preSleep p = some s.notify) ∧
  (∀ q, preSleep p' = some q → preSleep p = some q ∨ hasWW s.state = true) ∧
  (∀ q, seqOf p' = some q → seqOf p = some q ∨ q ≤ s.notify) ∧
  (owing p = true → owing p' = true ∨ hasWW s.state = true ∨ preSleep p = some s.notify)

theorem wq_setth {s : St} {i : Nat} {p : Pc} (t' : Th) (h : WQ s) (hpc : (s.ths i).pc = p) (hnp : pendW p = false)
    (hm : WMove s p t'.pc) : WQ (setTh s i t') := by
  have hna : pendA p = false := not_pendA hnp
  exact wq_step h hpc (fun j hj => by simp [setTh_ths, hj]) (by simp) rfl Or.inl hm.1 hm.2.1 hm.2.2.1
    (fun hh => by rw [hna] at hh; cases hh) (fun hh => by rw [hnp] at hh; cases hh) hm.2.2.2

/-- a pc that plays no part in the writer queue: not parked on `writer_notify`, not about to sleep, carrying no sampled
sequence number, not a pending `wake_writer` -/
def Inert (pc : Pc) : Prop :=
  wparked pc = false ∧ preSleep pc = none ∧ seqOf pc = none ∧ pendA pc = false ∧ pendW pc = false

theorem WMove.of_inert {s : St} {p p' : Pc} (hi : Inert p') (ho : owing p = true → owing p' = true) : WMove s p p' :=
  ⟨fun h => (by rw [hi.1] at h; cases h), fun q h => (by rw [hi.2.1] at h; cases h),
    fun q h => (by rw [hi.2.2.1] at h; cases h), fun h => Or.inl (ho h)⟩

theorem wq_move {s : St} {i : Nat} {p p' : Pc} (h : WQ s) (hpc : (s.ths i).pc = p) (hnp : pendW p = false)
    (hi : Inert p') (ho : owing p = true → owing p' = true) : WQ (setPc s i p') :=
  wq_setth _ h hpc hnp (.of_inert hi ho)

theorem wq_rmw {s : St} {i : Nat} {p p' : Pc} (acq rel : Bool) (new : Nat) (h : WQ s) (hpc : (s.ths i).pc = p)
    (c1 : wparked p' = false) (c2 : preSleep p' = none) (c3 : seqOf p' = none)
    (cA : pendA p = true → pendA p' = true) (cW : pendW p = true → pendW p' = true)
    (cO : owing p = true → owing p' = true ∨ hasWW new = true)
    (hbit : hasWW s.state = true → hasWW new = true ∨ pendA p' = true) : WQ (rmwState s i acq rel new p') :=
  wq_step h hpc (fun j hj => by simp [rmwState, setTh_ths, hj]) (by simp [rmwState]) rfl hbit
    (fun hh => by rw [c1] at hh; cases hh) (fun q hh => by rw [c2] at hh; cases hh) (fun q hh => by rw [c3] at hh; cases hh)
    cA cW (fun ho => (cO ho).imp_right Or.inl)

theorem wq_plain_rmw {s : St} {i : Nat} {p p' : Pc} (acq rel : Bool) (new : Nat) (h : WQ s) (hpc : (s.ths i).pc = p)
    (hnp : pendW p = false) (hO : owing p = false) (hi : Inert p') (hbit : hasWW s.state = true → hasWW new = true) :
    WQ (rmwState s i acq rel new p') := by
  have hna : pendA p = false := not_pendA hnp
  exact wq_rmw acq rel new h hpc hi.1 hi.2.1 hi.2.2.1 (fun hh => by rw [hna] at hh; cases hh)
    (fun hh => by rw [hnp] at hh; cases hh) (fun hh => by rw [hO] at hh; cases hh) (fun hb => Or.inl (hbit hb))

theorem inert_callPc (k : Kind) : Inert (callPc k) := by cases k <;> exact ⟨rfl, rfl, rfl, rfl, rfl⟩

theorem inert_rNext (v : Nat) : Inert (rNext v) := by
  unfold rNext
  exact ite_pred Inert (fun _ => ⟨rfl, rfl, rfl, rfl, rfl⟩) fun _ => ite_pred Inert (fun _ => ⟨rfl, rfl, rfl, rfl, rfl⟩) fun _ =>
    ite_pred Inert (fun _ => ⟨rfl, rfl, rfl, rfl, rfl⟩) fun _ => ⟨rfl, rfl, rfl, rfl, rfl⟩

theorem inert_wNext (v : Nat) (o : Bool) : Inert (wNext v o) := by
  unfold wNext
  exact ite_pred Inert (fun _ => ⟨rfl, rfl, rfl, rfl, rfl⟩) fun _ => ite_pred Inert (fun _ => ⟨rfl, rfl, rfl, rfl, rfl⟩) fun _ =>
    ⟨rfl, rfl, rfl, rfl, rfl⟩

theorem owing_wNext (v : Nat) : owing (wNext v true) = true := by
  unfold wNext
  exact ite_pred (owing · = true) (fun _ => rfl) fun _ => ite_pred (owing · = true) (fun _ => rfl) fun _ => rfl

theorem inert_tNext (w : Bool) (v : Nat) : Inert (tNext w v) :=
  ite_pred Inert (fun _ => ⟨rfl, rfl, rfl, rfl, rfl⟩) fun _ => ⟨rfl, rfl, rfl, rfl, rfl⟩

theorem inert_wakeEntry (v : Nat) : Inert (wakeEntry v) := by
  unfold wakeEntry
  exact ite_pred Inert (fun _ => ⟨rfl, rfl, rfl, rfl, rfl⟩) fun _ => ite_pred Inert (fun _ => ⟨rfl, rfl, rfl, rfl, rfl⟩) fun _ =>
    ite_pred Inert (fun _ => ⟨rfl, rfl, rfl, rfl, rfl⟩) fun _ => ite_pred Inert (fun _ => ⟨rfl, rfl, rfl, rfl, rfl⟩) fun _ =>
      ⟨rfl, rfl, rfl, rfl, rfl⟩

theorem inert_wakeAfterA (v : Nat) : Inert (wakeAfterA v) := by
  unfold wakeAfterA
  exact ite_pred Inert (fun _ => ⟨rfl, rfl, rfl, rfl, rfl⟩) fun _ => ite_pred Inert (fun _ => ⟨rfl, rfl, rfl, rfl, rfl⟩) fun _ =>
    ⟨rfl, rfl, rfl, rfl, rfl⟩

theorem inert_unlockPc (w : Bool) (x : Nat) : Inert (unlockPc w x) :=
  ite_pred Inert (fun _ => inert_wakeEntry x) fun _ => ⟨rfl, rfl, rfl, rfl, rfl⟩

theorem unlock_hasWW (c : Cfg) {s : St} {i : Nat} {w : Bool} (hinv : RInv s) (hpc : (s.ths i).pc = .unlock w) :
    hasWW (unlockSt c s i w).state = hasWW s.state := by
  rw [unlockSt_state]
  cases w
  · exact hasWW_sub_one _ (reader_word hinv (by rw [hpc]; rfl)).2 hinv.lt32
  · exact hasWW_sub_WL _ (writer_word hinv (by rw [hpc]; rfl)) hinv.lt32

theorem preSleep_seqOf (pc : Pc) (q : Nat) (h : preSleep pc = some q) : seqOf pc = some q := by
  cases pc <;> simp_all [preSleep, seqOf]

theorem parkedOn1_eq (t : Th) : parkedOn t 1 = wparked t.pc := by
  unfold parkedOn wparked; cases t.pc <;> simp

/-- `wake_writer` bumps `writer_notify`: nobody sleeps on the new value yet -/
theorem wq_notify {s : St} {i : Nat} {fb : Bool} (hq : WQ s) (hnw : s.notify + 1 < TWO32) :
    WQ (setPc { s with notify := wadd s.notify 1 } i (.kWakeW fb)) := by
  have hnot : (setPc { s with notify := wadd s.notify 1 } i (.kWakeW fb)).notify = s.notify + 1 := Nat.mod_eq_of_lt hnw
  have hths : ∀ j, j ≠ i → ((setPc { s with notify := wadd s.notify 1 } i (.kWakeW fb)).ths j) = s.ths j := by
    intro j hj; simp [setPc, setTh_ths, hj]
  have hi' : ((setPc { s with notify := wadd s.notify 1 } i (.kWakeW fb)).ths i).pc = .kWakeW fb := by simp [setPc]
  have hle : ∀ j q, seqOf ((setPc { s with notify := wadd s.notify 1 } i (.kWakeW fb)).ths j).pc = some q →
      q ≤ s.notify := by
    intro j q hj
    by_cases hji : j = i
    · subst hji; rw [hi'] at hj; cases hj
    · rw [hths j hji] at hj; exact hq.seqle j q hj
  refine ⟨fun _ => Or.inr (Or.inl ⟨i, by rw [hi']; rfl⟩), fun j q hj hqn => ?_, fun j q hj => ?_⟩
  · have := hle j q (preSleep_seqOf _ _ hj); omega
  · have := hle j q hj; omega

theorem wokenPc_facts (c : Cfg) (p : Pc) :
    (wparked (wokenPc c p) = false) ∧
    (∀ q, preSleep (wokenPc c p) = some q → preSleep p = some q) ∧
    (∀ q, seqOf (wokenPc c p) = some q → seqOf p = some q) ∧
    (pendA (wokenPc c p) = pendA p) ∧ (pendW (wokenPc c p) = pendW p) ∧
    (owing p = true → owing (wokenPc c p) = true) := by
  cases p <;> first
    | exact ⟨rfl, fun _ h => h, fun _ h => h, rfl, rfl, id⟩
    | exact ⟨rfl, nofun, nofun, rfl, rfl, nofun⟩

theorem wakeOne_notify (c : Cfg) (s : St) (j : Nat) : (wakeOne c s j).notify = s.notify := rfl

theorem wakeAll_notify (c : Cfg) (s : St) (l : List Nat) : (wakeAll c s l).notify = s.notify := by rw [wakeAll_eq]

theorem wakeAll_pc (c : Cfg) (s : St) (l : List Nat) (k : Nat) :
    ((wakeAll c s l).ths k).pc = (s.ths k).pc ∨ ((wakeAll c s l).ths k).pc = wokenPc c (s.ths k).pc := by
  rw [wakeAll_ths]
  split
  · exact Or.inr rfl
  · exact Or.inl rfl

theorem wq_wakeAll (c : Cfg) (s : St) (l : List Nat) (h : WQ s) : WQ (wakeAll c s l) := by
  have hst := wakeAll_state c s l
  have hnt := wakeAll_notify c s l
  have hpcs := wakeAll_pc c s l
  have fwp : ∀ k, wparked ((wakeAll c s l).ths k).pc = true → wparked (s.ths k).pc = true := by
    intro k hk; rcases hpcs k with h1 | h1 <;> rw [h1] at hk
    · exact hk
    · rw [(wokenPc_facts c _).1] at hk; cases hk
  have fpre : ∀ k q, preSleep ((wakeAll c s l).ths k).pc = some q → preSleep (s.ths k).pc = some q := by
    intro k q hk; rcases hpcs k with h1 | h1 <;> rw [h1] at hk
    · exact hk
    · exact (wokenPc_facts c _).2.1 q hk
  have fseq : ∀ k q, seqOf ((wakeAll c s l).ths k).pc = some q → seqOf (s.ths k).pc = some q := by
    intro k q hk; rcases hpcs k with h1 | h1 <;> rw [h1] at hk
    · exact hk
    · exact (wokenPc_facts c _).2.2.1 q hk
  have fA : ∀ k, pendA (s.ths k).pc = true → pendA ((wakeAll c s l).ths k).pc = true := by
    intro k hk; rcases hpcs k with h1 | h1 <;> rw [h1]
    · exact hk
    · rw [(wokenPc_facts c _).2.2.2.1]; exact hk
  have fW : ∀ k, pendW (s.ths k).pc = true → pendW ((wakeAll c s l).ths k).pc = true := by
    intro k hk; rcases hpcs k with h1 | h1 <;> rw [h1]
    · exact hk
    · rw [(wokenPc_facts c _).2.2.2.2.1]; exact hk
  have fO : ∀ k, owing (s.ths k).pc = true → owing ((wakeAll c s l).ths k).pc = true := by
    intro k hk; rcases hpcs k with h1 | h1 <;> rw [h1]
    · exact hk
    · exact (wokenPc_facts c _).2.2.2.2.2 hk
  have covA : CoverA s → CoverA (wakeAll c s l) := by
    rintro (hb | ⟨k, hk⟩)
    · left; rw [hst]; exact hb
    · right; exact ⟨k, fA k hk⟩
  have covP : CoverP s → CoverP (wakeAll c s l) := by
    rintro (hb | ⟨k, hk⟩ | ⟨k, hk⟩)
    · left; rw [hst]; exact hb
    · right; left; exact ⟨k, fW k hk⟩
    · right; right; exact ⟨k, fO k hk⟩
  refine ⟨?_, ?_, ?_⟩
  · rintro ⟨j, hj⟩; exact covP (h.park ⟨j, fwp j hj⟩)
  · intro j q hj hqn; rw [hnt] at hqn; exact covA (h.pre j q (fpre j q hj) hqn)
  · intro j q hj; rw [hnt]; exact h.seqle j q (fseq j q hj)

/-- a waker that is not (any more) announcing moves on, while nobody sleeps on `writer_notify` or an awake owing
writer exists -/
theorem wq_drop {s : St} {i : Nat} {p : Pc} (pc' : Pc) (h : WQ s) (hpc : (s.ths i).pc = p) (hAi : pendA p = false)
    (hi : Inert pc') (hcov : (∀ j, wparked (s.ths j).pc = false) ∨ ∃ j, j ≠ i ∧ owing (s.ths j).pc = true) :
    WQ (setPc s i pc') := by
  obtain ⟨i1, i2, i3, i4, i5⟩ := hi
  have hths : ∀ k, k ≠ i → (setPc s i pc').ths k = s.ths k := by intro k hk; simp [setPc, setTh_ths, hk]
  have hpi : ((setPc s i pc').ths i).pc = pc' := by simp [setPc]
  have covA : CoverA s → CoverA (setPc s i pc') := by
    rintro (hb | ⟨k, hk⟩)
    · exact Or.inl hb
    · by_cases hki : k = i
      · subst hki; rw [hpc, hAi] at hk; cases hk
      · exact Or.inr ⟨k, by rw [hths k hki]; exact hk⟩
  refine ⟨?_, ?_, ?_⟩
  · rintro ⟨k, hk⟩
    rcases hcov with hnone | ⟨j, hji, hoj⟩
    · by_cases hki : k = i
      · subst hki; rw [hpi, i1] at hk; cases hk
      · rw [hths k hki, hnone k] at hk; cases hk
    · exact Or.inr (Or.inr ⟨j, by rw [hths j hji]; exact hoj⟩)
  · intro k q hk hqn
    by_cases hki : k = i
    · subst hki; rw [hpi, i2] at hk; cases hk
    · rw [hths k hki] at hk; exact covA (h.pre k q hk hqn)
  · intro k q hk
    by_cases hki : k = i
    · subst hki; rw [hpi, i3] at hk; cases hk
    · rw [hths k hki] at hk; exact h.seqle k q hk

theorem owing_woken {c : Cfg} {p : Pc} (h : wparked p = true) : owing (wokenPc c p) = true := by
  cases p <;> first | rfl | cases h

theorem wakeAll_keeps (c : Cfg) (s : St) (l : List Nat) {i : Nat} {p : Pc} (hpc : (s.ths i).pc = p)
    (hp : wokenPc c p = p) : ((wakeAll c s l).ths i).pc = p := by
  rcases wakeAll_pc c s l i with h | h <;> rw [h, hpc]
  exact hp

theorem oww_wSpin {n : Nat} {o : Bool} (h : owing (.wSpin n o) = true) : o = true := by cases o <;> first | rfl | cases h
theorem oww_wCas {st : Nat} {o : Bool} (h : owing (.wCas st o) = true) : o = true := by cases o <;> first | rfl | cases h
theorem oww_wSetWait {st : Nat} {o : Bool} (h : owing (.wSetWait st o) = true) : o = true := by
  cases o <;> first | rfl | cases h

/-- **every step of the restricted relation preserves the writer-queue invariant** -/
theorem step_wq (c : Cfg) (s s' : St) (i : Nat) (e : Ev) (h : stepW c s i e = some s') (hinv : RInv s) (hq : WQ s) : WQ s' := by
  obtain ⟨hseq, hcur, hnw⟩ := stepW_cond h
  obtain ⟨hi, hs⟩ := step_sound (stepW_step c s s' i e h)
  have hlt := hinv.lt32
  generalize hpc : (s.ths i).pc = p at hs
  cases hs with
  | call => exact wq_move hq hpc rfl (inert_callPc _) nofun
  | rLoad _ | rWaitLoad _ | rParked _ =>
    exact wq_move hq hpc rfl (ite_pred Inert (fun _ => ⟨rfl, rfl, rfl, rfl, rfl⟩) fun _ => ⟨rfl, rfl, rfl, rfl, rfl⟩) nofun
  | rFastOk hst | rCasOk hst =>
    subst hst
    exact wq_plain_rmw _ _ _ hq hpc rfl rfl ⟨rfl, rfl, rfl, rfl, rfl⟩ fun hb =>
      absurd hb (by rw [not_hasWW_of_lockable _ (hinv.wf_at hpc)]; nofun)
  | rFastFail | rPark | rNoPark | tryFailed | wFastFail | acquired | rel | kCasBFail
  | kCasCFail => exact wq_setth _ hq hpc rfl (.of_inert ⟨rfl, rfl, rfl, rfl, rfl⟩ nofun)
  | rSpin v =>
    exact wq_move hq hpc rfl (ite_pred Inert (fun _ => inert_rNext v) fun _ => ⟨rfl, rfl, rfl, rfl, rfl⟩) nofun
  | rCasFail | rSetWaitFail => exact wq_move hq hpc rfl (inert_rNext _) nofun
  | rSetWaitOk hst =>
    subst hst
    exact wq_plain_rmw _ _ _ hq hpc rfl rfl ⟨rfl, rfl, rfl, rfl, rfl⟩ fun hb => (hasWW_orRW _ hlt).trans hb
  | tLoad _ | tCasFail => exact wq_move hq hpc rfl (inert_tNext _ _) nofun
  | @tCasOk w st hst =>
    subst hst
    have hwf := hinv.wf_at hpc
    refine wq_plain_rmw _ _ _ hq hpc rfl rfl ⟨rfl, rfl, rfl, rfl, rfl⟩ fun hb => ?_
    cases w
    · exact absurd hb (by rw [not_hasWW_of_lockable _ hwf]; nofun)
    · exact (hasWW_add_WL _ ((unlocked_iff _).mp hwf)).trans hb
  | wFastOk hst =>
    exact wq_plain_rmw _ _ _ hq hpc rfl rfl ⟨rfl, rfl, rfl, rfl, rfl⟩ fun hb => absurd (hst ▸ hb) (by decide)
  | @wSpin n oww v =>
    exact wq_move hq hpc rfl (ite_pred Inert (fun _ => inert_wNext v oww) fun _ => ⟨rfl, rfl, rfl, rfl, rfl⟩) fun ho => by
      cases oww_wSpin ho
      exact ite_pred (owing · = true) (fun _ => owing_wNext v) fun _ => rfl
  | @wCasOk st oww hst =>
    subst hst
    have hw := hasWW_orWL s.state oww ((unlocked_iff _).mp (hinv.wf_at hpc))
    exact wq_rmw _ _ _ hq hpc rfl rfl rfl nofun nofun (fun ho => Or.inr (by rw [hw, oww_wCas ho, Bool.or_true]))
      fun hb => Or.inl (by rw [hw, hb, Bool.true_or])
  | wCasFail => exact wq_move hq hpc rfl (inert_wNext _ _) fun ho => by cases oww_wCas ho; exact owing_wNext _
  | wSetWaitOk => exact wq_rmw _ _ _ hq hpc rfl rfl rfl nofun nofun (fun _ => Or.inl rfl) fun _ => Or.inl (hasWW_orWW _)
  | wSetWaitFail =>
    exact wq_move hq hpc rfl (inert_wNext _ _) fun ho => by cases oww_wSetWait ho; exact owing_wNext _
  | wSeqLoad v =>
    exact wq_setth _ hq hpc rfl ⟨nofun, nofun, fun q hq' => Or.inr (by cases hq'; exact Nat.le_of_eq (hseq v hpc rfl)),
      fun _ => Or.inl rfl⟩
  | @wStateLoad seq v =>
    refine wq_setth _ hq hpc rfl (ite_pred (WMove s _) (fun _ => .of_inert (inert_wNext v true) fun _ => owing_wNext v)
      fun hc => ⟨nofun, fun q _ => Or.inr ?_, fun q hq' => Or.inl hq', fun _ => Or.inl rfl⟩)
    -- the re-read saw the current word, locked and with the writers-waiting bit
    rw [← hcur seq v hpc rfl]
    cases hb : hasWW v with
    | true => rfl
    | false => exact absurd (Or.inr (by simp [hb])) hc
  | wWaitLoad _ =>
    exact wq_setth _ hq hpc rfl (ite_pred (WMove s _) (fun _ => .of_inert ⟨rfl, rfl, rfl, rfl, rfl⟩ fun _ => rfl)
      fun _ => ⟨nofun, fun q hq' => Or.inl hq', fun q hq' => Or.inl hq', fun _ => Or.inl rfl⟩)
  | wPark hn =>
    -- the kernel compared `writer_notify` with the sampled value
    exact wq_setth _ hq hpc rfl ⟨fun _ => Or.inr (by rw [hn]; rfl), fun q hq' => Or.inl hq', fun q hq' => Or.inl hq',
      fun _ => Or.inr (Or.inr (by rw [hn]; rfl))⟩
  | wNoPark => exact wq_setth _ hq hpc rfl (.of_inert ⟨rfl, rfl, rfl, rfl, rfl⟩ fun _ => rfl)
  | wParked _ =>
    exact wq_setth _ hq hpc rfl (ite_pred (WMove s _)
      (fun _ => ⟨nofun, fun q hq' => Or.inl hq', fun q hq' => Or.inl hq', nofun⟩)
      fun _ => .of_inert ⟨rfl, rfl, rfl, rfl, rfl⟩ nofun)
  | data => exact wq_move (s := { s with raced := _ }) ⟨hq.park, hq.pre, hq.seqle⟩ hpc rfl ⟨rfl, rfl, rfl, rfl, rfl⟩ nofun
  | @unlock w =>
    have hin := inert_unlockPc w (unlockSt c s i w).state
    exact wq_step hq hpc (fun j hj => unlockSt_other c s w hj) (by rw [unlockSt_self]) rfl
      (fun hb => Or.inl ((unlock_hasWW c hinv hpc).trans hb)) (fun hh => by rw [hin.1] at hh; cases hh)
      (fun q hh => by rw [hin.2.1] at hh; cases hh) (fun q hh => by rw [hin.2.2.1] at hh; cases hh) nofun nofun nofun
  | kCasAOk | kCasBOk => exact wq_rmw _ _ _ hq hpc rfl rfl rfl nofun nofun nofun fun _ => Or.inr rfl
  | kCasAFail => exact wq_move hq hpc rfl (inert_wakeAfterA _) nofun
  | kNotify => exact wq_notify hq (hnw _ hpc)
  | kWakeNone hemp =>
    refine wq_drop _ hq hpc rfl (ite_pred Inert (fun _ => ⟨rfl, rfl, rfl, rfl, rfl⟩) fun _ => ⟨rfl, rfl, rfl, rfl, rfl⟩)
      (Or.inl fun j => ?_)
    cases hw : wparked (s.ths j).pc with
    | false => rfl
    | true =>
      have hjn : j < s.n := Nat.lt_of_not_le fun hh => by rw [hinv.outside j hh] at hw; cases hw
      have hmem : j ∈ parkedList s 1 := (parkedList_mem s 1 j).mpr ⟨hjn, (parkedOn1_eq _).trans hw⟩
      rw [hemp] at hmem; cases hmem
  | @kWakeOne fb j hmem =>
    -- the woken writer resumes in its spin loop carrying `other_writers_waiting`
    obtain ⟨hjn, hpj⟩ := (parkedList_mem s 1 j).mp hmem
    rw [parkedOn1_eq] at hpj
    have hji : j ≠ i := fun hh => by subst hh; rw [hpc] at hpj; cases hpj
    have hpj2 : owing ((wakeAll c s [j]).ths j).pc = true := by
      have : ((wakeAll c s [j]).ths j).pc = wokenPc c (s.ths j).pc := by simp [wakeAll, wakeOne]
      rw [this]; exact owing_woken hpj
    exact wq_drop _ (wq_wakeAll c s [j] hq) (wakeAll_keeps c s [j] hpc rfl) rfl ⟨rfl, rfl, rfl, rfl, rfl⟩
      (Or.inr ⟨j, hji, hpj2⟩)
  | kCasCOk hst =>
    exact wq_plain_rmw _ _ _ hq hpc rfl rfl ⟨rfl, rfl, rfl, rfl, rfl⟩ fun hb => absurd (hst ▸ hb) (by decide)
  | @kWakeR woken =>
    exact wq_move (wq_wakeAll c s woken hq) (wakeAll_keeps c s woken hpc rfl) rfl ⟨rfl, rfl, rfl, rfl, rfl⟩ nofun

end TinyVerif.RwLock
