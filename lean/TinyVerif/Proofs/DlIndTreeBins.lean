import TinyVerif.Proofs.DlIndTree
import TinyVerif.Proofs.DlFresh
/-!
Bin-level layer of the inductiveness proof of `wfb`: what the heap wrappers of the bin operations
(`insert_small_chunk`, `take_first_small`, `unlink_small_chunk`, `insert_large_chunk`,
`unlink_large_chunk`, `insert_chunk`, `unlink_chunk`, `replace_dv`) do to

* the state (`*_spec`: exactly one bin is replaced; `BinFrame`: nothing else changes),
* the multiset of binned chunks (`binned`, `freeList`, as `List.Perm`),
* the checker's conjuncts `sbinsOk` / `tbinsOk`,

plus the relation between the derived bitmaps and bin emptiness (`mapBits_testBit`) and progress
facts for the two unlink operations.  Pure trie facts are in `Proofs/DlIndTree.lean`.
-/
namespace TinyVerif.Dl

open List

/-! ### the two conjuncts, named -/

/-- the `sbinsOk` conjunct of `wfParts` -/
def sbinsOk (h : Heap) : Bool := decide (h.sbins.length = 32) && sbinsFrom h.ents 0 h.sbins
/-- the `tbinsOk` conjunct of `wfParts` -/
def tbinsOk (h : Heap) : Bool := decide (h.tbins.length = 32) && tbinsFrom h.ents 0 h.tbins

theorem WFParts.sbinsOk {hs : Hist} (p : WFParts hs) : sbinsOk hs.st.h = true := p.sbins
theorem WFParts.tbinsOk {hs : Hist} (p : WFParts hs) : tbinsOk hs.st.h = true := p.tbins

/-- every header size fits a machine word (follows from `entsOk`, `allInSegs`, `tiles`, `segsOk`;
needed for tree bin 31 only, whose keys are the sizes themselves modulo 2^64) -/
def EntsLt (es : List Ent) : Prop := ∀ a e, findEnt es a = some e → e.size < U64

theorem sizeAt_iff {es : List Ent} {a s : Nat} : sizeAt es a s = true ↔ ∃ e, findEnt es a = some e ∧ e.size = s := by
  unfold sizeAt
  cases findEnt es a with
  | none => simp
  | some e => simp

theorem sizeAt_lt {es : List Ent} {a s : Nat} (hl : EntsLt es) (h : sizeAt es a s = true) : s < U64 := by
  obtain ⟨e, he, rfl⟩ := sizeAt_iff.1 h
  exact hl a e he

theorem sizeAt_unique {es : List Ent} {a s s' : Nat} (h : sizeAt es a s = true) (h' : sizeAt es a s' = true) :
    s = s' := by
  obtain ⟨e, he, rfl⟩ := sizeAt_iff.1 h
  obtain ⟨e', he', rfl⟩ := sizeAt_iff.1 h'
  rw [he] at he'; injection he' with he'; rw [he']

/-! ### `joinAll` -/

theorem count_joinAll_set (ls : List (List Nat)) : ∀ (i : Nat) (l l' : List Nat), ls[i]? = some l → ∀ v,
    count v (joinAll (ls.set i l')) + count v l = count v (joinAll ls) + count v l' := by
  induction ls with
  | nil => intro i l l' h; simp at h
  | cons x xs ih =>
    intro i l l' h v
    cases i with
    | zero =>
      simp only [List.getElem?_cons_zero, Option.some.injEq] at h
      subst h
      simp only [List.set_cons_zero, joinAll, List.count_append]; omega
    | succ i =>
      simp only [List.getElem?_cons_succ] at h
      have := ih i l l' h v
      simp only [List.set_cons_succ, joinAll, List.count_append]; omega

theorem mem_joinAll_iff {ls : List (List Nat)} {a : Nat} :
    a ∈ joinAll ls ↔ ∃ (i : Nat) (l : List Nat), ls[i]? = some l ∧ a ∈ l := by
  induction ls with
  | nil => simp [joinAll]
  | cons x xs ih =>
    simp only [joinAll, List.mem_append, ih]
    constructor
    · rintro (h | ⟨i, l, h1, h2⟩)
      · exact ⟨0, x, rfl, h⟩
      · exact ⟨i + 1, l, by simpa using h1, h2⟩
    · rintro ⟨i, l, h1, h2⟩
      cases i with
      | zero => simp only [List.getElem?_cons_zero, Option.some.injEq] at h1; subst h1; exact Or.inl h2
      | succ i => exact Or.inr ⟨i, l, by simpa using h1, h2⟩

theorem mem_joinAll_map_iff {ts : List Tree} {a : Nat} :
    a ∈ joinAll (ts.map Tree.members) ↔ ∃ (i : Nat) (t : Tree), ts[i]? = some t ∧ a ∈ t.members := by
  rw [mem_joinAll_iff]
  constructor
  · rintro ⟨i, l, h1, h2⟩
    rw [List.getElem?_map] at h1
    cases ht : ts[i]? with
    | none => rw [ht] at h1; cases h1
    | some t =>
      rw [ht] at h1; simp only [Option.map_some, Option.some.injEq] at h1
      subst h1; exact ⟨i, t, ht, h2⟩
  · rintro ⟨i, t, h1, h2⟩
    exact ⟨i, t.members, by rw [List.getElem?_map, h1]; rfl, h2⟩

/-! ### what the wrappers do to the state -/

/-- everything but the bins is unchanged -/
structure BinFrame (h h' : Heap) : Prop where
  ents : h'.ents = h.ents
  dv : h'.dv = h.dv
  dvsize : h'.dvsize = h.dvsize
  top : h'.top = h.top
  topsize : h'.topsize = h.topsize
  tr : h'.tr = h.tr

theorem BinFrame.refl (h : Heap) : BinFrame h h := ⟨rfl, rfl, rfl, rfl, rfl, rfl⟩
theorem BinFrame.trans {a b c : Heap} (h1 : BinFrame a b) (h2 : BinFrame b c) : BinFrame a c :=
  ⟨h2.ents.trans h1.ents, h2.dv.trans h1.dv, h2.dvsize.trans h1.dvsize, h2.top.trans h1.top,
    h2.topsize.trans h1.topsize, h2.tr.trans h1.tr⟩

theorem setBin_frame (h : Heap) (i : Nat) (l : List Nat) :
    BinFrame h (setBin h i l) ∧ (setBin h i l).tbins = h.tbins ∧ (setBin h i l).sbins = h.sbins.set i l :=
  ⟨⟨rfl, rfl, rfl, rfl, rfl, rfl⟩, rfl, rfl⟩

theorem setTree_frame (h : Heap) (i : Nat) (t : Tree) :
    BinFrame h (setTree h i t) ∧ (setTree h i t).sbins = h.sbins ∧ (setTree h i t).tbins = h.tbins.set i t :=
  ⟨⟨rfl, rfl, rfl, rfl, rfl, rfl⟩, rfl, rfl⟩

theorem insert_small_chunk_spec {h h' : Heap} {c sz : Nat} (hh : insert_small_chunk h c sz = .ok h') :
    MIN_CHUNK_SIZE ≤ sz ∧ ∃ l, h.sbins[small_index sz]? = some l ∧ h' = setBin h (small_index sz) (c :: l) := by
  unfold insert_small_chunk at hh
  dsimp only at hh
  msimp at hh
  obtain ⟨_, h1, l, h2, h3⟩ := hh
  simp only [decide_eq_false_iff_not, Nat.not_lt] at h1
  exact ⟨h1, l, getBin_ok.1 h2, h3.symm⟩

theorem unlink_small_chunk_spec {h h' : Heap} {c sz : Nat} (hh : unlink_small_chunk h c sz = .ok h') :
    ∃ l e, h.sbins[small_index sz]? = some l ∧ findEnt h.ents c = some e ∧
      e.size = small_index2size (small_index sz) ∧ c ∈ l ∧ h' = setBin h (small_index sz) (l.erase c) := by
  unfold unlink_small_chunk at hh
  dsimp only at hh
  msimp at hh
  obtain ⟨l, hl, e, he, _, hs, hh⟩ := hh
  simp only [ne_eq, decide_eq_false_iff_not, Decidable.not_not] at hs
  split at hh
  · rename_i hc
    msimp at hh
    exact ⟨l, e, getBin_ok.1 hl, getE_ok.1 he, hs, List.contains_iff_mem.1 hc, hh.symm⟩
  · msimp at hh

theorem insert_large_chunk_spec {h h' : Heap} {c sz : Nat} (hh : insert_large_chunk h c sz = .ok h') :
    ∃ t, h.tbins[compute_tree_index sz]? = some t ∧
      h' = setTree h (compute_tree_index sz) (t.insert (skey (compute_tree_index sz) sz) c sz) := by
  unfold insert_large_chunk at hh
  dsimp only at hh
  msimp at hh
  obtain ⟨t, ht, hh⟩ := hh
  exact ⟨t, getTree_ok.1 ht, hh.symm⟩

theorem unlink_large_chunk_spec {h h' : Heap} {c : Nat} (hh : unlink_large_chunk h c = .ok h') :
    ∃ e t t', findEnt h.ents c = some e ∧ h.tbins[compute_tree_index e.size]? = some t ∧
      t.remove c = some t' ∧ h' = setTree h (compute_tree_index e.size) t' := by
  unfold unlink_large_chunk at hh
  dsimp only at hh
  msimp at hh
  obtain ⟨e, he, t, ht, hh⟩ := hh
  split at hh
  · rename_i t' ht'
    msimp at hh
    exact ⟨e, t, t', getE_ok.1 he, getTree_ok.1 ht, ht', hh.symm⟩
  · msimp at hh

/-- `replace_dv`: the old `dv` (if there is one) goes to its small bin, then `dv`/`dvsize` are set -/
theorem replace_dv_spec {h h' : Heap} {c sz : Nat} (hh : replace_dv h c sz = .ok h') :
    is_small h.dvsize = true ∧ ∃ h1, (if h.dvsize ≠ 0 then insert_small_chunk h h.dv h.dvsize = .ok h1 else h1 = h) ∧
      h' = { h1 with dvsize := sz, dv := c } := by
  unfold replace_dv at hh
  msimp at hh
  obtain ⟨_, h1, hh⟩ := hh
  simp only [Bool.not_eq_false'] at h1
  refine ⟨h1, ?_⟩
  split at hh
  · rename_i hne
    msimp at hh
    obtain ⟨h2, h3, h4⟩ := hh
    exact ⟨h2, by rw [if_pos hne]; exact h3, h4.symm⟩
  · rename_i hne
    msimp at hh
    obtain ⟨h2, h3, h4⟩ := hh
    exact ⟨h2, by rw [if_neg hne]; exact h3.symm, h4.symm⟩

/-! ### the multiset of binned chunks -/

theorem count_binned_setBin {h : Heap} {i : Nat} {l : List Nat} (hl : h.sbins[i]? = some l) (l' : List Nat) (v : Nat) :
    count v (binned (setBin h i l')) + count v l = count v (binned h) + count v l' := by
  have := count_joinAll_set h.sbins i l l' hl v
  simp only [binned, setBin, List.count_append]; omega

theorem count_binned_setTree {h : Heap} {i : Nat} {t : Tree} (ht : h.tbins[i]? = some t) (t' : Tree) (v : Nat) :
    count v (binned (setTree h i t')) + count v t.members = count v (binned h) + count v t'.members := by
  have := count_joinAll_set (h.tbins.map Tree.members) i t.members t'.members
    (by rw [List.getElem?_map, ht]; rfl) v
  simp only [binned, setTree, List.count_append, List.map_set]; omega

theorem perm_cons_of_count {l l' : List Nat} {c : Nat} (h : ∀ v, count v l' = count v [c] + count v l) :
    l' ~ c :: l := by
  rw [List.perm_iff_count]; intro v
  rw [h v]; simp only [List.count_cons, List.count_nil]; omega

/-- `freeList` follows `binned` when `top` and `dv` stay -/
theorem freeList_perm_of_binned {h h' : Heap} {c : Nat} (ht : h'.top = h.top) (hd : h'.dv = h.dv)
    (hp : binned h' ~ c :: binned h) : freeList h' ~ c :: freeList h := by
  unfold freeList
  rw [ht, hd]
  refine List.Perm.trans (List.Perm.append_left _ (List.Perm.append_left _ hp)) ?_
  rw [List.perm_iff_count]; intro v
  simp only [List.count_cons, List.count_append]; omega

theorem insert_small_chunk_frame {h h' : Heap} {c sz : Nat} (hh : insert_small_chunk h c sz = .ok h') :
    BinFrame h h' ∧ h'.tbins = h.tbins := by
  obtain ⟨_, l, _, rfl⟩ := insert_small_chunk_spec hh
  exact ⟨(setBin_frame ..).1, rfl⟩

theorem insert_small_chunk_binned {h h' : Heap} {c sz : Nat} (hh : insert_small_chunk h c sz = .ok h') :
    binned h' ~ c :: binned h := by
  obtain ⟨_, l, hl, rfl⟩ := insert_small_chunk_spec hh
  apply perm_cons_of_count; intro v
  have := count_binned_setBin hl (c :: l) v
  simp only [List.count_cons, List.count_nil] at this ⊢; omega

theorem take_first_small_frame {h h' : Heap} {idx p : Nat} (hh : take_first_small h idx = .ok (h', p)) :
    BinFrame h h' ∧ h'.tbins = h.tbins := by
  obtain ⟨rest, e, _, _, _, rfl⟩ := take_first_small_spec hh
  exact ⟨(setBin_frame ..).1, rfl⟩

theorem take_first_small_binned {h h' : Heap} {idx p : Nat} (hh : take_first_small h idx = .ok (h', p)) :
    binned h ~ p :: binned h' := by
  obtain ⟨rest, e, hl, _, _, rfl⟩ := take_first_small_spec hh
  apply perm_cons_of_count; intro v
  have := count_binned_setBin hl rest v
  simp only [List.count_cons, List.count_nil] at this ⊢; omega

theorem unlink_small_chunk_frame {h h' : Heap} {c sz : Nat} (hh : unlink_small_chunk h c sz = .ok h') :
    BinFrame h h' ∧ h'.tbins = h.tbins := by
  obtain ⟨l, e, _, _, _, _, rfl⟩ := unlink_small_chunk_spec hh
  exact ⟨(setBin_frame ..).1, rfl⟩

theorem unlink_small_chunk_binned {h h' : Heap} {c sz : Nat} (hh : unlink_small_chunk h c sz = .ok h') :
    binned h ~ c :: binned h' := by
  obtain ⟨l, e, hl, _, _, hc, rfl⟩ := unlink_small_chunk_spec hh
  apply perm_cons_of_count; intro v
  have := count_binned_setBin hl (l.erase c) v
  have := count_erase_add hc v
  omega

theorem insert_large_chunk_frame {h h' : Heap} {c sz : Nat} (hh : insert_large_chunk h c sz = .ok h') :
    BinFrame h h' ∧ h'.sbins = h.sbins := by
  obtain ⟨t, _, rfl⟩ := insert_large_chunk_spec hh
  exact ⟨(setTree_frame ..).1, rfl⟩

theorem insert_large_chunk_binned {h h' : Heap} {c sz : Nat} (hh : insert_large_chunk h c sz = .ok h') :
    binned h' ~ c :: binned h := by
  obtain ⟨t, ht, rfl⟩ := insert_large_chunk_spec hh
  apply perm_cons_of_count; intro v
  have := count_binned_setTree ht (t.insert (skey (compute_tree_index sz) sz) c sz) v
  rw [insert_count] at this
  omega

theorem unlink_large_chunk_frame {h h' : Heap} {c : Nat} (hh : unlink_large_chunk h c = .ok h') :
    BinFrame h h' ∧ h'.sbins = h.sbins := by
  obtain ⟨e, t, t', _, _, _, rfl⟩ := unlink_large_chunk_spec hh
  exact ⟨(setTree_frame ..).1, rfl⟩

theorem unlink_large_chunk_binned {h h' : Heap} {c : Nat} (hh : unlink_large_chunk h c = .ok h') :
    binned h ~ c :: binned h' := by
  obtain ⟨e, t, t', _, ht, hr, rfl⟩ := unlink_large_chunk_spec hh
  apply perm_cons_of_count; intro v
  have := count_binned_setTree ht t' v
  have := remove_count t c t' hr v
  omega

theorem insert_chunk_frame {h h' : Heap} {c sz : Nat} (hh : insert_chunk h c sz = .ok h') : BinFrame h h' := by
  unfold insert_chunk at hh
  split at hh
  · exact (insert_small_chunk_frame hh).1
  · exact (insert_large_chunk_frame hh).1

theorem insert_chunk_binned {h h' : Heap} {c sz : Nat} (hh : insert_chunk h c sz = .ok h') :
    binned h' ~ c :: binned h := by
  unfold insert_chunk at hh
  split at hh
  · exact insert_small_chunk_binned hh
  · exact insert_large_chunk_binned hh

theorem unlink_chunk_frame {h h' : Heap} {c sz : Nat} (hh : unlink_chunk h c sz = .ok h') : BinFrame h h' := by
  unfold unlink_chunk at hh
  split at hh
  · exact (unlink_small_chunk_frame hh).1
  · exact (unlink_large_chunk_frame hh).1

theorem unlink_chunk_binned {h h' : Heap} {c sz : Nat} (hh : unlink_chunk h c sz = .ok h') :
    binned h ~ c :: binned h' := by
  unfold unlink_chunk at hh
  split at hh
  · exact unlink_small_chunk_binned hh
  · exact unlink_large_chunk_binned hh

/-- inserting into a bin adds the chunk to the free list … -/
theorem insert_chunk_freeList {h h' : Heap} {c sz : Nat} (hh : insert_chunk h c sz = .ok h') :
    freeList h' ~ c :: freeList h :=
  have f := insert_chunk_frame hh
  freeList_perm_of_binned f.top f.dv (insert_chunk_binned hh)

theorem insert_small_chunk_freeList {h h' : Heap} {c sz : Nat} (hh : insert_small_chunk h c sz = .ok h') :
    freeList h' ~ c :: freeList h :=
  have f := (insert_small_chunk_frame hh).1
  freeList_perm_of_binned f.top f.dv (insert_small_chunk_binned hh)

theorem insert_large_chunk_freeList {h h' : Heap} {c sz : Nat} (hh : insert_large_chunk h c sz = .ok h') :
    freeList h' ~ c :: freeList h :=
  have f := (insert_large_chunk_frame hh).1
  freeList_perm_of_binned f.top f.dv (insert_large_chunk_binned hh)

/-- … and unlinking takes it out -/
theorem unlink_chunk_freeList {h h' : Heap} {c sz : Nat} (hh : unlink_chunk h c sz = .ok h') :
    freeList h ~ c :: freeList h' :=
  have f := unlink_chunk_frame hh
  freeList_perm_of_binned f.top.symm f.dv.symm (unlink_chunk_binned hh)

theorem unlink_small_chunk_freeList {h h' : Heap} {c sz : Nat} (hh : unlink_small_chunk h c sz = .ok h') :
    freeList h ~ c :: freeList h' :=
  have f := (unlink_small_chunk_frame hh).1
  freeList_perm_of_binned f.top.symm f.dv.symm (unlink_small_chunk_binned hh)

theorem unlink_large_chunk_freeList {h h' : Heap} {c : Nat} (hh : unlink_large_chunk h c = .ok h') :
    freeList h ~ c :: freeList h' :=
  have f := (unlink_large_chunk_frame hh).1
  freeList_perm_of_binned f.top.symm f.dv.symm (unlink_large_chunk_binned hh)

theorem take_first_small_freeList {h h' : Heap} {idx p : Nat} (hh : take_first_small h idx = .ok (h', p)) :
    freeList h ~ p :: freeList h' :=
  have f := (take_first_small_frame hh).1
  freeList_perm_of_binned f.top.symm f.dv.symm (take_first_small_binned hh)

/-- the `nodupB (freeList _)` conjunct of `freeListOk` after adding a chunk -/
theorem nodupB_cons_perm {l l' : List Nat} {c : Nat} (p : l' ~ c :: l) :
    nodupB l' = (!l.contains c && nodupB l) := by
  rw [nodupB_perm p]; rfl

/-- `replace_dv`: the heap apart from the small bins and `dv`/`dvsize` is unchanged -/
theorem replace_dv_frame {h h' : Heap} {c sz : Nat} (hh : replace_dv h c sz = .ok h') :
    h'.ents = h.ents ∧ h'.tbins = h.tbins ∧ h'.top = h.top ∧ h'.topsize = h.topsize ∧ h'.tr = h.tr ∧
      h'.dv = c ∧ h'.dvsize = sz ∧ is_small h.dvsize = true ∧ (h.dvsize = 0 → h'.sbins = h.sbins) := by
  obtain ⟨hs, h1, hi, rfl⟩ := replace_dv_spec hh
  split at hi
  · rename_i hne
    obtain ⟨f, ft⟩ := insert_small_chunk_frame hi
    exact ⟨f.ents, ft, f.top, f.topsize, f.tr, rfl, rfl, hs, fun h0 => absurd h0 hne⟩
  · subst hi
    exact ⟨rfl, rfl, rfl, rfl, rfl, rfl, rfl, hs, fun _ => rfl⟩

/-- `replace_dv`: the old `dv` chunk (when `dvsize ≠ 0`) joins the binned chunks -/
theorem replace_dv_binned {h h' : Heap} {c sz : Nat} (hh : replace_dv h c sz = .ok h') :
    binned h' ~ (if h.dvsize ≠ 0 then [h.dv] else []) ++ binned h := by
  obtain ⟨hs, h1, hi, rfl⟩ := replace_dv_spec hh
  split at hi
  · rename_i hne
    rw [if_pos hne]
    exact (insert_small_chunk_binned hi : binned h1 ~ h.dv :: binned h)
  · rename_i hne
    subst hi
    rw [if_neg hne]; exact List.Perm.refl _

/-- `replace_dv` on a state whose `dv` is null exactly when `dvsize` is 0 (as `dvOk` says): the free
list only gains the new `dv` -/
theorem replace_dv_freeList {h h' : Heap} {c sz : Nat} (hh : replace_dv h c sz = .ok h')
    (hdv : h.dv = 0 ↔ h.dvsize = 0) :
    freeList h' ~ (if c = 0 then [] else [c]) ++ freeList h := by
  have hb := replace_dv_binned hh
  obtain ⟨_, _, ht, _, _, hd, _⟩ := replace_dv_frame hh
  unfold freeList
  rw [ht, hd]
  rw [List.perm_iff_count]; intro v
  have hb' := (List.perm_iff_count.1 hb) v
  simp only [List.count_append] at hb' ⊢
  rw [hb']
  by_cases h0 : h.dvsize = 0
  · have := hdv.2 h0
    simp only [h0, this, ne_eq, not_true_eq_false, if_false, if_true, List.count_nil]; omega
  · have : h.dv ≠ 0 := fun hz => h0 (hdv.1 hz)
    simp only [h0, this, ne_eq, not_false_eq_true, if_false, if_true]; omega

/-! ### `sbinsFrom` / `tbinsFrom`: reading and replacing one bin, frame -/

/-- what `sbinsFrom` says about the chunks of bin `i` -/
def sbinOk (es : List Ent) (i : Nat) (l : List Nat) : Prop :=
  ∀ a ∈ l, sizeAt es a (i * 8) = true ∧ 32 ≤ i * 8

theorem sbinsFrom_cons (es : List Ent) (i : Nat) (l : List Nat) (ls : List (List Nat)) :
    sbinsFrom es i (l :: ls) = true ↔ sbinOk es i l ∧ sbinsFrom es (i + 1) ls = true := by
  simp only [sbinsFrom, sbinOk, Bool.and_eq_true, List.all_eq_true, decide_eq_true_eq]

theorem sbinsFrom_get {es : List Ent} (ls : List (List Nat)) : ∀ (i j : Nat) (l : List Nat),
    sbinsFrom es i ls = true → ls[j]? = some l → sbinOk es (i + j) l := by
  induction ls with
  | nil => intro i j l _ h; simp at h
  | cons x xs ih =>
    intro i j l h hj
    rw [sbinsFrom_cons] at h
    cases j with
    | zero => simp only [List.getElem?_cons_zero, Option.some.injEq] at hj; subst hj; exact h.1
    | succ j =>
      simp only [List.getElem?_cons_succ] at hj
      have := ih (i + 1) j l h.2 hj
      rwa [show i + 1 + j = i + (j + 1) by omega] at this

theorem sbinsFrom_set {es : List Ent} (ls : List (List Nat)) : ∀ (i j : Nat) (l' : List Nat),
    sbinsFrom es i ls = true → sbinOk es (i + j) l' → sbinsFrom es i (ls.set j l') = true := by
  induction ls with
  | nil => intro i j l' _ _; rfl
  | cons x xs ih =>
    intro i j l' h hl
    rw [sbinsFrom_cons] at h
    cases j with
    | zero => simp only [List.set_cons_zero]; rw [sbinsFrom_cons]; exact ⟨hl, h.2⟩
    | succ j =>
      simp only [List.set_cons_succ]; rw [sbinsFrom_cons]
      exact ⟨h.1, ih (i + 1) j l' h.2 (by rwa [show i + 1 + j = i + (j + 1) by omega])⟩

/-- frame: `sbinsFrom` only reads the headers of the binned chunks -/
theorem sbinsFrom_frame {es es' : List Ent} (ls : List (List Nat)) : ∀ (i : Nat),
    (∀ a ∈ joinAll ls, findEnt es' a = findEnt es a) → sbinsFrom es' i ls = sbinsFrom es i ls := by
  induction ls with
  | nil => intro i _; rfl
  | cons x xs ih =>
    intro i hf
    simp only [sbinsFrom]
    rw [ih (i + 1) fun a ha => hf a (List.mem_append_right _ ha),
      all_congr' fun a ha => by rw [sizeAt_frame (hf a (List.mem_append_left _ ha))]]

theorem tbinsFrom_cons (es : List Ent) (i : Nat) (t : Tree) (ts : List Tree) :
    tbinsFrom es i (t :: ts) = true ↔
      (trieOk es i t [] = true ∧ nodupB t.nodeSizes = true) ∧ tbinsFrom es (i + 1) ts = true := by
  simp only [tbinsFrom, Bool.and_eq_true]

theorem tbinsFrom_get {es : List Ent} (ts : List Tree) : ∀ (i j : Nat) (t : Tree),
    tbinsFrom es i ts = true → ts[j]? = some t → trieOk es (i + j) t [] = true ∧ nodupB t.nodeSizes = true := by
  induction ts with
  | nil => intro i j l _ h; simp at h
  | cons x xs ih =>
    intro i j t h hj
    rw [tbinsFrom_cons] at h
    cases j with
    | zero => simp only [List.getElem?_cons_zero, Option.some.injEq] at hj; subst hj; exact h.1
    | succ j =>
      simp only [List.getElem?_cons_succ] at hj
      have := ih (i + 1) j t h.2 hj
      rwa [show i + 1 + j = i + (j + 1) by omega] at this

theorem tbinsFrom_set {es : List Ent} (ts : List Tree) : ∀ (i j : Nat) (t' : Tree),
    tbinsFrom es i ts = true → trieOk es (i + j) t' [] = true → nodupB t'.nodeSizes = true →
    tbinsFrom es i (ts.set j t') = true := by
  induction ts with
  | nil => intro i j l' _ _ _; rfl
  | cons x xs ih =>
    intro i j t' h h1 h2
    rw [tbinsFrom_cons] at h
    cases j with
    | zero => simp only [List.set_cons_zero]; rw [tbinsFrom_cons]; exact ⟨⟨h1, h2⟩, h.2⟩
    | succ j =>
      simp only [List.set_cons_succ]; rw [tbinsFrom_cons]
      exact ⟨h.1, ih (i + 1) j t' h.2 (by rwa [show i + 1 + j = i + (j + 1) by omega]) h2⟩

/-- frame: `tbinsFrom` only reads the headers of the binned chunks -/
theorem tbinsFrom_frame {es es' : List Ent} (ts : List Tree) : ∀ (i : Nat),
    (∀ a ∈ joinAll (ts.map Tree.members), findEnt es' a = findEnt es a) → tbinsFrom es' i ts = tbinsFrom es i ts := by
  induction ts with
  | nil => intro i _; rfl
  | cons x xs ih =>
    intro i hf
    simp only [tbinsFrom]
    rw [ih (i + 1) fun a ha => hf a (List.mem_append_right _ ha),
      trieOk_frame i x [] fun a ha => hf a (List.mem_append_left _ ha)]

/-- the two bin conjuncts only read the headers of the binned chunks -/
theorem sbinsOk_frame {h h' : Heap} (hs : sbinsOk h = true) (hb : h'.sbins = h.sbins)
    (hf : ∀ a ∈ joinAll h.sbins, findEnt h'.ents a = findEnt h.ents a) : sbinsOk h' = true := by
  unfold sbinsOk at hs ⊢
  rw [hb, sbinsFrom_frame _ 0 hf]
  exact hs

theorem tbinsOk_frame {h h' : Heap} (hs : tbinsOk h = true) (hb : h'.tbins = h.tbins)
    (hf : ∀ a ∈ joinAll (h.tbins.map Tree.members), findEnt h'.ents a = findEnt h.ents a) : tbinsOk h' = true := by
  unfold tbinsOk at hs ⊢
  rw [hb, tbinsFrom_frame _ 0 hf]
  exact hs

theorem sbinsOk_congr {h h' : Heap} (he : h'.ents = h.ents) (hb : h'.sbins = h.sbins) : sbinsOk h' = sbinsOk h := by
  unfold sbinsOk; rw [he, hb]

theorem tbinsOk_congr {h h' : Heap} (he : h'.ents = h.ents) (hb : h'.tbins = h.tbins) : tbinsOk h' = tbinsOk h := by
  unfold tbinsOk; rw [he, hb]

theorem sbinsOk_get {h : Heap} {i : Nat} {l : List Nat} (hs : sbinsOk h = true) (hget : h.sbins[i]? = some l) :
    sbinOk h.ents i l ∧ i < 32 := by
  unfold sbinsOk at hs
  rw [Bool.and_eq_true, decide_eq_true_eq] at hs
  have := sbinsFrom_get _ 0 i l hs.2 hget
  rw [Nat.zero_add] at this
  exact ⟨this, hs.1 ▸ (List.getElem?_eq_some_iff.1 hget).1⟩

theorem sbinsOk_set {h : Heap} {i : Nat} {l' : List Nat} (hs : sbinsOk h = true) (hl : sbinOk h.ents i l') :
    sbinsOk (setBin h i l') = true := by
  unfold sbinsOk at hs ⊢
  rw [Bool.and_eq_true, decide_eq_true_eq] at hs ⊢
  exact ⟨by simp only [setBin, List.length_set]; exact hs.1, sbinsFrom_set _ 0 i l' hs.2 (by rwa [Nat.zero_add])⟩

theorem tbinsOk_get {h : Heap} {i : Nat} {t : Tree} (ht : tbinsOk h = true) (hget : h.tbins[i]? = some t) :
    trieOk h.ents i t [] = true ∧ nodupB t.nodeSizes = true := by
  unfold tbinsOk at ht
  rw [Bool.and_eq_true] at ht
  have := tbinsFrom_get _ 0 i t ht.2 hget
  rwa [Nat.zero_add] at this

theorem tbinsOk_set {h : Heap} {i : Nat} {t' : Tree} (ht : tbinsOk h = true) (h1 : trieOk h.ents i t' [] = true)
    (h2 : nodupB t'.nodeSizes = true) : tbinsOk (setTree h i t') = true := by
  unfold tbinsOk at ht ⊢
  rw [Bool.and_eq_true, decide_eq_true_eq] at ht ⊢
  exact ⟨by simp only [setTree, List.length_set]; exact ht.1, tbinsFrom_set _ 0 i t' ht.2 (by rwa [Nat.zero_add]) h2⟩

/-! ### the bin operations preserve `tbinsOk` / `sbinsOk` -/

/-- `insert_large_chunk` keeps the tree bins well-formed.  Bounds needed: `256 ≤ sz` (not small) and
every header size `< 2^64` (hence also `sz < 2^64`, through `sizeAt`). -/
theorem insert_large_chunk_tbinsOk {h h' : Heap} {c sz : Nat} (hh : insert_large_chunk h c sz = .ok h')
    (h256 : 256 ≤ sz) (hlt : EntsLt h.ents) (hc : sizeAt h.ents c sz = true) (ht : tbinsOk h = true) :
    tbinsOk h' = true := by
  obtain ⟨t, hget, rfl⟩ := insert_large_chunk_spec hh
  obtain ⟨g1, g2⟩ := tbinsOk_get ht hget
  have hb : ∀ s ∈ t.nodeSizes, s < U64 := by
    intro s hs
    obtain ⟨a, _, ha, _⟩ := trieOk_size_at t [] g1 s hs
    exact sizeAt_lt hlt ha
  have hszlt : sz < U64 := sizeAt_lt hlt hc
  have hk : skey (compute_tree_index sz) sz
      = (skey (compute_tree_index sz) sz <<< ([] : List Bool).length) % U64 := by
    simp only [List.length_nil, Nat.shiftLeft_zero, Nat.mod_mod]
  exact tbinsOk_set ht (trieOk_insert hc rfl h256 hszlt t [] _ g1 hb rfl hk)
    (nodup_insert hc rfl h256 hszlt t [] _ g1 hb rfl hk g2)

theorem insert_large_chunk_sbinsOk {h h' : Heap} {c sz : Nat} (hh : insert_large_chunk h c sz = .ok h') :
    sbinsOk h' = sbinsOk h :=
  have f := insert_large_chunk_frame hh
  sbinsOk_congr f.1.ents f.2

/-- `unlink_large_chunk` keeps the tree bins well-formed (no side condition) -/
theorem unlink_large_chunk_tbinsOk {h h' : Heap} {c : Nat} (hh : unlink_large_chunk h c = .ok h')
    (ht : tbinsOk h = true) : tbinsOk h' = true := by
  obtain ⟨e, t, t', _, hget, hrem, rfl⟩ := unlink_large_chunk_spec hh
  obtain ⟨g1, g2⟩ := tbinsOk_get ht hget
  exact tbinsOk_set ht (trieOk_remove t [] c t' g1 hrem) (nodup_remove hrem g2)

theorem unlink_large_chunk_sbinsOk {h h' : Heap} {c : Nat} (hh : unlink_large_chunk h c = .ok h') :
    sbinsOk h' = sbinsOk h :=
  have f := unlink_large_chunk_frame hh
  sbinsOk_congr f.1.ents f.2

/-- `insert_small_chunk` keeps the small bins well-formed: the size must be a small multiple of 8 and
be the size in the chunk's header (`32 ≤ sz` is checked by the operation itself) -/
theorem insert_small_chunk_sbinsOk {h h' : Heap} {c sz : Nat} (hh : insert_small_chunk h c sz = .ok h')
    (h8 : sz % 8 = 0) (hlt : sz < 256) (hc : sizeAt h.ents c sz = true) (hs : sbinsOk h = true) :
    sbinsOk h' = true := by
  obtain ⟨h32, l, hget, rfl⟩ := insert_small_chunk_spec hh
  rw [MIN_CHUNK_SIZE_eq] at h32
  have hi : small_index sz * 8 = sz := by rw [small_index_eq sz (by omega)]; omega
  refine sbinsOk_set hs fun a ha => ?_
  rcases List.mem_cons.1 ha with rfl | ha
  · rw [hi]; exact ⟨hc, h32⟩
  · exact (sbinsOk_get hs hget).1 a ha

theorem insert_small_chunk_tbinsOk {h h' : Heap} {c sz : Nat} (hh : insert_small_chunk h c sz = .ok h') :
    tbinsOk h' = tbinsOk h :=
  have f := insert_small_chunk_frame hh
  tbinsOk_congr f.1.ents f.2

theorem take_first_small_sbinsOk {h h' : Heap} {idx p : Nat} (hh : take_first_small h idx = .ok (h', p))
    (hs : sbinsOk h = true) : sbinsOk h' = true := by
  obtain ⟨rest, e, hget, _, _, rfl⟩ := take_first_small_spec hh
  exact sbinsOk_set hs fun a ha => (sbinsOk_get hs hget).1 a (List.mem_cons_of_mem _ ha)

theorem take_first_small_tbinsOk {h h' : Heap} {idx p : Nat} (hh : take_first_small h idx = .ok (h', p)) :
    tbinsOk h' = tbinsOk h :=
  have f := take_first_small_frame hh
  tbinsOk_congr f.1.ents f.2

theorem unlink_small_chunk_sbinsOk {h h' : Heap} {c sz : Nat} (hh : unlink_small_chunk h c sz = .ok h')
    (hs : sbinsOk h = true) : sbinsOk h' = true := by
  obtain ⟨l, e, hget, _, _, _, rfl⟩ := unlink_small_chunk_spec hh
  exact sbinsOk_set hs fun a ha => (sbinsOk_get hs hget).1 a (List.mem_of_mem_erase ha)

theorem unlink_small_chunk_tbinsOk {h h' : Heap} {c sz : Nat} (hh : unlink_small_chunk h c sz = .ok h') :
    tbinsOk h' = tbinsOk h :=
  have f := unlink_small_chunk_frame hh
  tbinsOk_congr f.1.ents f.2

/-- `insert_chunk` keeps both bin conjuncts: `sz` is the header size of `c`, a multiple of 8, and all
header sizes are `< 2^64` -/
theorem insert_chunk_binsOk {h h' : Heap} {c sz : Nat} (hh : insert_chunk h c sz = .ok h')
    (h8 : sz % 8 = 0) (hlt : EntsLt h.ents) (hc : sizeAt h.ents c sz = true)
    (hs : sbinsOk h = true) (ht : tbinsOk h = true) : sbinsOk h' = true ∧ tbinsOk h' = true := by
  unfold insert_chunk at hh
  split at hh
  · rename_i hsm
    exact ⟨insert_small_chunk_sbinsOk hh h8 ((is_small_iff sz).1 hsm) hc hs,
      by rw [insert_small_chunk_tbinsOk hh]; exact ht⟩
  · rename_i hsm
    have h256 : 256 ≤ sz := by
      apply Nat.le_of_not_lt; intro hl; exact hsm ((is_small_iff sz).2 hl)
    exact ⟨by rw [insert_large_chunk_sbinsOk hh]; exact hs, insert_large_chunk_tbinsOk hh h256 hlt hc ht⟩

theorem unlink_chunk_binsOk {h h' : Heap} {c sz : Nat} (hh : unlink_chunk h c sz = .ok h')
    (hs : sbinsOk h = true) (ht : tbinsOk h = true) : sbinsOk h' = true ∧ tbinsOk h' = true := by
  unfold unlink_chunk at hh
  split at hh
  · exact ⟨unlink_small_chunk_sbinsOk hh hs, by rw [unlink_small_chunk_tbinsOk hh]; exact ht⟩
  · exact ⟨by rw [unlink_large_chunk_sbinsOk hh]; exact hs, unlink_large_chunk_tbinsOk hh ht⟩

/-- `replace_dv` keeps both bin conjuncts when the old `dv` is a proper small chunk (what `dvOk`,
`shapeOk` and the `is_small` assertion give): header size `dvsize`, a multiple of 8 -/
theorem replace_dv_binsOk {h h' : Heap} {c sz : Nat} (hh : replace_dv h c sz = .ok h')
    (hdv : h.dvsize ≠ 0 → sizeAt h.ents h.dv h.dvsize = true ∧ h.dvsize % 8 = 0)
    (hs : sbinsOk h = true) (ht : tbinsOk h = true) : sbinsOk h' = true ∧ tbinsOk h' = true := by
  obtain ⟨hsm, h1, hi, rfl⟩ := replace_dv_spec hh
  split at hi
  · rename_i hne
    obtain ⟨d1, d2⟩ := hdv hne
    have s1 := insert_small_chunk_sbinsOk hi d2 ((is_small_iff _).1 hsm) d1 hs
    have t1 := insert_small_chunk_tbinsOk hi
    exact ⟨s1, by rw [← t1] at ht; exact ht⟩
  · subst hi; exact ⟨hs, ht⟩

/-! ### the derived bitmaps: bit `i` set ↔ bin `i` non-empty -/

theorem mapBits_scale {α : Type} (empty : α → Bool) (bs : List α) : ∀ w,
    mapBits empty bs w = w * mapBits empty bs 1 := by
  induction bs with
  | nil => intro w; simp [mapBits]
  | cons b bs ih =>
    intro w
    simp only [mapBits]
    rw [ih (2 * w), ih (2 * 1)]
    cases empty b <;> simp [Nat.mul_add, Nat.mul_assoc, Nat.mul_left_comm]

theorem mapBits_cons_one {α : Type} (empty : α → Bool) (b : α) (bs : List α) :
    mapBits empty (b :: bs) 1 = (if empty b then 0 else 1) + 2 * mapBits empty bs 1 := by
  simp only [mapBits]; rw [mapBits_scale empty bs (2 * 1)]

theorem mapBits_testBit {α : Type} (empty : α → Bool) (bs : List α) : ∀ i,
    (mapBits empty bs 1).testBit i = match bs[i]? with
      | some b => !empty b
      | none => false := by
  induction bs with
  | nil => intro i; simp [mapBits]
  | cons b bs ih =>
    intro i
    rw [mapBits_cons_one]
    cases i with
    | zero =>
      rw [Nat.testBit_zero, List.getElem?_cons_zero]
      show decide (_ % 2 = 1) = !empty b
      cases empty b
      · simp only [Bool.false_eq_true, if_false, Bool.not_false, decide_eq_true_eq]; omega
      · simp only [if_true, Bool.not_true, decide_eq_false_iff_not]; omega
    | succ i =>
      rw [Nat.testBit_succ, List.getElem?_cons_succ, ← ih i]
      congr 1
      split <;> omega

theorem mapBits_lt {α : Type} (empty : α → Bool) (bs : List α) : mapBits empty bs 1 < 2 ^ bs.length := by
  induction bs with
  | nil => simp [mapBits]
  | cons b bs ih =>
    rw [mapBits_cons_one, List.length_cons, Nat.pow_succ]
    cases empty b <;> simp <;> omega

/-- bit `i` of `smallmap` is set exactly when small bin `i` is non-empty -/
theorem smallmap_testBit (h : Heap) (i : Nat) :
    (smallmap h).testBit i = true ↔ ∃ l, h.sbins[i]? = some l ∧ l ≠ [] := by
  unfold smallmap
  rw [mapBits_testBit]
  cases h.sbins[i]? with
  | none => simp
  | some l => cases l <;> simp

/-- bit `i` of `treemap` is set exactly when tree bin `i` is non-empty -/
theorem treemap_testBit (h : Heap) (i : Nat) :
    (treemap h).testBit i = true ↔ ∃ t, h.tbins[i]? = some t ∧ t ≠ Tree.nil := by
  unfold treemap
  rw [mapBits_testBit]
  cases h.tbins[i]? with
  | none => simp
  | some t => cases t <;> simp

theorem smallmap_lt (h : Heap) (hl : h.sbins.length = 32) : smallmap h < U32 := by
  have := mapBits_lt (fun (l : List Nat) => l.isEmpty) h.sbins
  rw [hl] at this; exact this

theorem treemap_lt (h : Heap) (hl : h.tbins.length = 32) : treemap h < U32 := by
  have := mapBits_lt (fun (t : Tree) => match t with | .nil => true | _ => false) h.tbins
  rw [hl] at this; exact this

/-- the form in which the code tests a map bit -/
theorem shift_and_one (x i : Nat) : (x >>> i) &&& 1 = if x.testBit i then 1 else 0 := by
  rw [Nat.testBit_eq_decide_div_mod_eq, Nat.and_one_is_mod, Nat.shiftRight_eq_div_pow]
  have := Nat.mod_lt (x / 2 ^ i) (show 0 < 2 by decide)
  by_cases h : x / 2 ^ i % 2 = 1
  · simp [h]
  · simp [h]; omega

/-- `smallbits & 3 != 0` in `malloc`: bin `idx` or bin `idx + 1` is non-empty -/
theorem shift_and_three (x i : Nat) :
    (x >>> i) &&& 3 ≠ 0 ↔ x.testBit i = true ∨ x.testBit (i + 1) = true := by
  rw [show (3 : Nat) = 2 ^ 2 - 1 from rfl, Nat.and_two_pow_sub_one_eq_mod,
    Nat.testBit_eq_decide_div_mod_eq, Nat.testBit_eq_decide_div_mod_eq, Nat.shiftRight_eq_div_pow,
    show 2 ^ (i + 1) = 2 ^ i * 2 from Nat.pow_succ .., ← Nat.div_div_eq_div_mul]
  simp only [decide_eq_true_eq, Nat.reducePow]
  generalize x / 2 ^ i = y
  omega

/-- a map is non-zero exactly when one of its bits is set -/
theorem ne_zero_iff_testBit (x : Nat) : x ≠ 0 ↔ ∃ i, x.testBit i = true := by
  constructor
  · intro h
    exact Nat.exists_testBit_of_ne_zero h
  · rintro ⟨i, hi⟩ h0
    subst h0; simp at hi

theorem treemap_ne_zero (h : Heap) : treemap h ≠ 0 ↔ ∃ (i : Nat) (t : Tree), h.tbins[i]? = some t ∧ t ≠ Tree.nil := by
  rw [ne_zero_iff_testBit]
  constructor
  · rintro ⟨i, hi⟩; exact ⟨i, (treemap_testBit h i).1 hi⟩
  · rintro ⟨i, hi⟩; exact ⟨i, (treemap_testBit h i).2 hi⟩

/-! ### progress: the unlink operations do not fail on binned chunks -/

/-- a chunk found in the tree bin its header size indexes can be unlinked -/
theorem unlink_large_chunk_progress' {h : Heap} {c : Nat} {e : Ent} {t : Tree}
    (he : findEnt h.ents c = some e) (hget : h.tbins[compute_tree_index e.size]? = some t)
    (hc : c ∈ t.members) : ∃ h', unlink_large_chunk h c = .ok h' := by
  obtain ⟨t', hr⟩ := remove_isSome_of_mem hc
  refine ⟨setTree h (compute_tree_index e.size) t', ?_⟩
  unfold unlink_large_chunk
  rw [getE_ok.2 he]
  simp only [bind, Except.bind]
  rw [getTree_ok.2 hget]
  simp only [hr]
  rfl

/-- a chunk sitting in a tree bin of a state with well-formed tree bins can be unlinked -/
theorem unlink_large_chunk_progress {h : Heap} {c : Nat} (ht : tbinsOk h = true)
    (hm : c ∈ joinAll (h.tbins.map Tree.members)) : ∃ h', unlink_large_chunk h c = .ok h' := by
  obtain ⟨i, t, hget, hc⟩ := mem_joinAll_map_iff.1 hm
  obtain ⟨s, _, hs, hidx, _⟩ := trieOk_member_sized t [] (tbinsOk_get ht hget).1 c hc
  obtain ⟨e, he, rfl⟩ := sizeAt_iff.1 hs
  exact unlink_large_chunk_progress' he (hidx ▸ hget) hc

/-- a chunk sitting in a small bin of a state with well-formed small bins can be unlinked, with the
size of its header as the size argument -/
theorem unlink_small_chunk_progress {h : Heap} {c sz : Nat} (hs : sbinsOk h = true)
    (hm : c ∈ joinAll h.sbins) (hsz : sizeAt h.ents c sz = true) :
    ∃ h', unlink_small_chunk h c sz = .ok h' := by
  obtain ⟨i, l, hget, hc⟩ := mem_joinAll_iff.1 hm
  obtain ⟨g, hi⟩ := sbinsOk_get hs hget
  have e1 : sz = i * 8 := sizeAt_unique hsz (g c hc).1
  have e2 : small_index sz = i := by rw [small_index_eq sz (by omega)]; omega
  obtain ⟨e, he, hes⟩ := sizeAt_iff.1 hsz
  refine ⟨setBin h i (l.erase c), ?_⟩
  unfold unlink_small_chunk
  simp only [e2]
  rw [getBin_ok.2 hget, getE_ok.2 he]
  simp only [bind, Except.bind]
  have : (e.size ≠ small_index2size i) = False := by
    rw [small_index2size_eq i (by omega), hes, e1]; simp
  simp only [failIf, this, decide_false, Bool.false_eq_true, if_false, pure, Except.pure,
    List.contains_iff_mem.2 hc, if_true]

/-- sizes of binned chunks: small bins hold sizes `< 256`, tree bins sizes `≥ 256` -/
theorem sbins_size_lt {h : Heap} {c sz : Nat} (hs : sbinsOk h = true) (hm : c ∈ joinAll h.sbins)
    (hsz : sizeAt h.ents c sz = true) : 32 ≤ sz ∧ sz < 256 ∧ sz % 8 = 0 := by
  obtain ⟨i, l, hget, hc⟩ := mem_joinAll_iff.1 hm
  obtain ⟨g, hi⟩ := sbinsOk_get hs hget
  have e1 : sz = i * 8 := sizeAt_unique hsz (g c hc).1
  have := (g c hc).2
  omega

theorem tbins_size_ge {h : Heap} {c sz : Nat} (ht : tbinsOk h = true)
    (hm : c ∈ joinAll (h.tbins.map Tree.members)) (hsz : sizeAt h.ents c sz = true) : 256 ≤ sz := by
  obtain ⟨i, t, hget, hc⟩ := mem_joinAll_map_iff.1 hm
  obtain ⟨s, _, hs, _, h256⟩ := trieOk_member_sized t _ (tbinsOk_get ht hget).1 c hc
  rw [sizeAt_unique hsz hs]; exact h256

/-- `unlink_chunk` does not fail on a binned chunk when called with the chunk's header size -/
theorem unlink_chunk_progress {h : Heap} {c sz : Nat} (hs : sbinsOk h = true) (ht : tbinsOk h = true)
    (hm : c ∈ binned h) (hsz : sizeAt h.ents c sz = true) : ∃ h', unlink_chunk h c sz = .ok h' := by
  unfold unlink_chunk
  unfold binned at hm
  rcases List.mem_append.1 hm with hm | hm
  · have := sbins_size_lt hs hm hsz
    rw [if_pos ((is_small_iff sz).2 this.2.1)]
    exact unlink_small_chunk_progress hs hm hsz
  · have := tbins_size_ge ht hm hsz
    have hns : ¬ is_small sz = true := fun h => by have := (is_small_iff sz).1 h; omega
    rw [if_neg hns]
    exact unlink_large_chunk_progress ht hm

/-! ### `EntsLt` from a check, and non-vacuity -/

theorem entsLt_of_all {es : List Ent} (h : (es.all fun e => decide (e.size < U64)) = true) : EntsLt es := by
  intro a e he
  have := List.all_eq_true.1 h e (findEnt_some he).1
  simpa using this

/-- `EntsLt` is a consequence of `WF`: every header lies in a tiled segment that ends at or below 2^64 -/
theorem WF.entsLt {hs : Hist} (h : WF hs) : EntsLt hs.st.h.ents := by
  intro a e he
  obtain ⟨g, _, hmem, ht, hg0, hg64⟩ := h.seg_of (findEnt_some he).1
  have := tiles_end ht e hmem
  simp only [U64]; omega

/-- a heap with three free large chunks (sizes 512, 520, 512 — all of tree bin 2) and a small one, nothing binned yet -/
def exHeap : Heap :=
  { ents := [⟨4096, 512, false, true, 0⟩, ⟨8192, 520, false, true, 0⟩, ⟨12288, 512, false, true, 0⟩,
             ⟨16384, 48, false, true, 0⟩],
    sbins := emptyBins, tbins := emptyTrees, dv := 0, dvsize := 0, top := 0, topsize := 0, tr := [] }

/-- run a sequence of bin operations -/
def exRun (h : Heap) : List (Heap → M Heap) → M Heap
  | [] => pure h
  | f :: fs => do let h ← f h; exRun h fs

def exOk (r : M Heap) (p : Heap → Bool) : Bool :=
  match r with
  | .ok h => p h
  | .error _ => false

example : EntsLt exHeap.ents := entsLt_of_all (by decide +kernel)
example : tbinsOk exHeap = true ∧ sbinsOk exHeap = true := by decide +kernel
example : sizeAt exHeap.ents 4096 512 = true ∧ sizeAt exHeap.ents 8192 520 = true := by decide +kernel

/-- the hypotheses of `insert_large_chunk_tbinsOk` hold at each step of: insert 512, insert 520 (a
second trie node below the first), insert the second 512 (into the ring), unlink the root (the ring
successor takes its place), unlink that one too (the leaf 520 moves up), and the conclusion is
observed on the way -/
example : exOk (exRun exHeap [(insert_chunk · 4096 512), (insert_chunk · 8192 520), (insert_chunk · 12288 512),
      (insert_chunk · 16384 48)])
    (fun h => tbinsOk h && sbinsOk h && decide (h.tbins[2]? = some (.node 4096 512 [12288] (.node 8192 520 [] .nil .nil) .nil))
      && decide (treemap h = 4) && decide (smallmap h = 64)) = true := by decide +kernel

example : exOk (exRun exHeap [(insert_chunk · 4096 512), (insert_chunk · 8192 520), (insert_chunk · 12288 512),
      (unlink_chunk · 4096 512), (unlink_large_chunk · 12288)])
    (fun h => tbinsOk h && decide (h.tbins[2]? = some (.node 8192 520 [] .nil .nil))) = true := by decide +kernel

/-! ### the header-size bound is needed (tree bin 31)

The model's sizes are unbounded naturals and bin 31 keys are the sizes modulo 2^64.  Without the bound
on the sizes already in the trie the insertion lemma is false, even for `sz < 2^63`: below, a trie of
bin 31 satisfying `trieOk` and `nodupB nodeSizes` whose node at depth 64 has size `sz + 2^64` (same
key as `sz`); `insert` walks past it with an exhausted key (`k = 0`, "left") and creates a node at a
65-step path whose last step contradicts what `pathOk` reads there (bit 0 of the key, which is 1). -/

def cexSize (d : Nat) : Nat :=
  if d = 0 then 2 ^ 64 - 1 else if d = 64 then 2 ^ 64 + (2 ^ 63 - 1) else 2 ^ 63 - 1 - 2 ^ (63 - d)
def cexChain : Nat → Nat → Tree
  | 0, _ => .nil
  | n + 1, d => .node (4096 * (d + 1)) (cexSize d) [] .nil (cexChain n (d + 1))
def cexTree : Tree := .node 4096 (cexSize 0) [] (cexChain 64 1) .nil
def cexEnts : List Ent :=
  (List.range 65).map (fun d => ⟨4096 * (d + 1), cexSize d, false, true, 0⟩) ++
    [⟨409600, 2 ^ 63 - 1, false, true, 0⟩]

example : trieOk cexEnts 31 cexTree [] = true ∧ nodupB cexTree.nodeSizes = true ∧
    sizeAt cexEnts 409600 (2 ^ 63 - 1) = true ∧ compute_tree_index (2 ^ 63 - 1) = 31 ∧
    trieOk cexEnts 31 (cexTree.insert (skey 31 (2 ^ 63 - 1)) 409600 (2 ^ 63 - 1)) [] = false := by
  decide +kernel

end TinyVerif.Dl
