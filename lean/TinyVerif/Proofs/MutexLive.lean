import TinyVerif.Proofs.MutexInv
namespace TinyVerif.Mutex

/-! ### possibility-form liveness: from every reachable state a thread inside `lock()` can be driven to
hold the lock using only steps the model allows (the current holder runs to its unlocking swap, then the
waiter runs alone) -/

theorem run_append (c : Cfg) (s : St) (a b : List (Nat × Ev)) :
    run c s (a ++ b) = (run c s a).bind (fun s' => run c s' b) := by
  induction a generalizing s with
  | nil => rfl
  | cons x rest ih =>
    obtain ⟨i, e⟩ := x
    simp only [List.cons_append, run]
    cases h : step c s i e with
    | none => rfl
    | some s1 => simp [ih]

theorem run_single (c : Cfg) (s s' : St) (i : Nat) (e : Ev) (h : step c s i e = some s') :
    run c s [(i, e)] = some s' := by simp [run, h]

/-- a thread that is not idle has its current transaction at the head of its program -/
def PInv (s : St) : Prop := ∀ i, (s.ths i).pc ≠ .idle → (s.ths i).prog ≠ []

theorem init_pinv (progs : List (List Txn)) : PInv (init progs) := by
  intro i h; simp [init] at h

theorem pinv_upd {s s0 : St} (hp : PInv s) (h0 : s0.ths = s.ths) (i : Nat) (t' : Th)
    (ht : t'.pc ≠ .idle → t'.prog ≠ []) : PInv (setTh s0 i t') := by
  intro j hj
  by_cases hji : j = i
  · subst hji; simp at hj ⊢; exact ht hj
  · simp [setTh_ths, hji, h0] at hj ⊢; exact hp j hj

theorem pinv_keep {s s0 : St} (hp : PInv s) (h0 : s0.ths = s.ths) {i : Nat} {p : Pc} (hpc : (s.ths i).pc = p)
    (hne : p ≠ .idle) (t' : Th) (ht : t'.prog = (s.ths i).prog) : PInv (setTh s0 i t') :=
  pinv_upd hp h0 i t' (fun _ => ht ▸ hp i (hpc ▸ hne))

theorem step_pinv (c : Cfg) (s s' : St) (i : Nat) (e : Ev) (h : step c s i e = some s') (hp : PInv s) : PInv s' := by
  obtain ⟨_, hs⟩ := step_sound h
  generalize hpc : (s.ths i).pc = p at hs
  cases hs with
  | callLock hpr | callTry hpr | acq hpr => exact pinv_upd hp rfl i _ (fun _ => by simp [hpr])
  | tryfail | wakeNone => exact pinv_upd hp rfl i _ (fun h => absurd rfl h)
  | fastOk | fastFail | spinStop _ | spinOn _ | cas2Ok | cas2Fail | swap2 | waitLoad _
  | park | noPark | spur _ | data | rel => exact pinv_keep hp rfl hpc nofun _ rfl
  | unlock =>
    refine pinv_upd hp rfl i _ ?_
    split
    · exact fun _ => hp i (by simp [hpc])
    · exact fun h => absurd rfl h
  | @wakeOne j _ _ hjp =>
    have hj := pinv_keep hp rfl hjp nofun { s.ths j with pc := .spin c.spinMax false } rfl
    exact pinv_upd hj rfl i _ (fun h => absurd rfl h)

/-- `s'` is reachable from `s` by steps of thread `u` alone (spurious futex returns of `u` included) -/
def Drives (c : Cfg) (s s' : St) (u : Nat) : Prop :=
  ∃ evs : List (Nat × Ev), (∀ x ∈ evs, x.1 = u) ∧ run c s evs = some s' ∧ s'.n = s.n ∧ ∀ j, j ≠ u → s'.ths j = s.ths j

theorem Drives.refl (c : Cfg) (s : St) (u : Nat) : Drives c s s u := ⟨[], by simp, rfl, rfl, fun _ _ => rfl⟩

theorem Drives.trans {c : Cfg} {s s1 s2 : St} {u : Nat} (h1 : Drives c s s1 u) (h2 : Drives c s1 s2 u) : Drives c s s2 u := by
  obtain ⟨e1, a1, r1, n1, o1⟩ := h1
  obtain ⟨e2, a2, r2, n2, o2⟩ := h2
  refine ⟨e1 ++ e2, ?_, ?_, by rw [n2, n1], fun j hj => by rw [o2 j hj, o1 j hj]⟩
  · intro x hx; rcases List.mem_append.mp hx with h | h
    · exact a1 x h
    · exact a2 x h
  · rw [run_append, r1]; exact r2

theorem Step.frame {c : Cfg} {s s' : St} {i : Nat} {p : Pc} {e : Ev} (h : Step c s i p e s')
    (he : ∀ j, e ≠ .fwake 1 (some j)) :
    s'.n = s.n ∧ ∀ k, k ≠ i → s'.ths k = s.ths k := by
  cases h
  case wakeOne => exact absurd rfl (he _)
  all_goals exact ⟨rfl, fun k hk => by simp [rmw, setTh_ths, hk]⟩

theorem Drives.step {c : Cfg} {s s' : St} {u : Nat} {p : Pc} {e : Ev} (hu : u < s.n) (hpc : (s.ths u).pc = p)
    (h : Step c s u p e s') (he : ∀ j, e ≠ .fwake 1 (some j)) : Drives c s s' u :=
  ⟨[(u, e)], by simp, run_single c s s' u e (h.accepted hu hpc), h.frame he⟩

theorem drives_then {c : Cfg} {s s1 : St} {u : Nat} {p : Pc} {e : Ev} {P : St → Prop} (hu : u < s.n)
    (hpc : (s.ths u).pc = p) (h : Step c s u p e s1) (he : ∀ j, e ≠ .fwake 1 (some j))
    (hnext : ∃ s', Drives c s1 s' u ∧ P s') : ∃ s', Drives c s s' u ∧ P s' :=
  let ⟨s', d, hp⟩ := hnext
  ⟨s', (Drives.step hu hpc h he).trans d, hp⟩

section release
variable (c : Cfg)

theorem release_unlockSwap (s : St) (u : Nat) (hu : u < s.n) (hpc : (s.ths u).pc = .unlockSwap) :
    ∃ s', Drives c s s' u ∧ s'.wval = 0 :=
  ⟨_, .step hu hpc .unlock nofun, rfl⟩

theorem release_hold (s : St) (u k : Nat) (hu : u < s.n) (hpc : (s.ths u).pc = .hold k) :
    ∃ s', Drives c s s' u ∧ s'.wval = 0 := by
  induction k generalizing s with
  | zero => exact drives_then hu hpc .rel nofun (release_unlockSwap c _ u hu (by simp))
  | succ k ih => exact drives_then hu hpc .data nofun (ih _ hu (by simp))

theorem release_holder (s : St) (u : Nat) (hu : u < s.n) (hp : PInv s) (hh : holds (s.ths u) = true) :
    ∃ s', Drives c s s' u ∧ s'.wval = 0 := by
  cases hpc : (s.ths u).pc <;> simp [holds, hpc] at hh
  case acquired =>
    cases hprog : (s.ths u).prog with
    | nil => exact absurd hprog (hp u (by simp [hpc]))
    | cons tx rest => exact drives_then hu hpc (.acq hprog) nofun (release_hold c _ u tx.acc hu (by simp))
  case hold k => exact release_hold c s u k hu hpc
  case unlockSwap => exact release_unlockSwap c s u hu hpc

end release

/-- thread `t` is inside a blocking `lock()` call -/
def inLock (t : Th) : Bool :=
  match t.pc with
  | .fastCas false | .spin _ _ | .casAfterSpin | .swap2 | .waitLoad | .waitSys | .parked => true
  | _ => false

section acquire
variable (c : Cfg)

theorem acquire_cas (s : St) (t : Nat) (ht : t < s.n) (h0 : s.wval = 0)
    (hpc : (s.ths t).pc = .fastCas false ∨ (s.ths t).pc = .casAfterSpin) :
    ∃ s', Drives c s s' t ∧ holds (s'.ths t) = true := by
  rcases hpc with hpc | hpc
  · exact ⟨_, .step ht hpc (.fastOk h0) nofun, by simp [rmw, holds]⟩
  · exact ⟨_, .step ht hpc (.cas2Ok h0) nofun, by simp [rmw, holds]⟩

theorem acquire_swap2 (s : St) (t : Nat) (ht : t < s.n) (h0 : s.wval = 0) (hpc : (s.ths t).pc = .swap2) :
    ∃ s', Drives c s s' t ∧ holds (s'.ths t) = true :=
  ⟨_, .step ht hpc .swap2 nofun, by simp [rmw, holds, h0]⟩

/-- the spin load observes the (latest) value 0 -/
theorem acquire_spin (s : St) (t n : Nat) (first : Bool) (ht : t < s.n) (h0 : s.wval = 0) (hpc : (s.ths t).pc = .spin n first) :
    ∃ s', Drives c s s' t ∧ holds (s'.ths t) = true := by
  refine drives_then ht hpc (.spinStop 0 (Or.inl (by decide))) nofun ?_
  cases first
  · exact acquire_swap2 c _ t ht h0 (by simp [loopTop])
  · exact acquire_cas c _ t ht h0 (Or.inr (by simp))

/-- with the word free, a thread anywhere inside `lock()` can be driven (alone) to hold the lock -/
theorem acquire_when_free (s : St) (t : Nat) (ht : t < s.n) (h0 : s.wval = 0) (hl : inLock (s.ths t) = true) :
    ∃ s', Drives c s s' t ∧ holds (s'.ths t) = true := by
  cases hpc : (s.ths t).pc <;> simp [inLock, hpc] at hl
  case fastCas tr => cases tr <;> simp at hl; exact acquire_cas c s t ht h0 (Or.inl hpc)
  case spin n first => exact acquire_spin c s t n first ht h0 hpc
  case casAfterSpin => exact acquire_cas c s t ht h0 (Or.inr hpc)
  case swap2 => exact acquire_swap2 c s t ht h0 hpc
  case waitLoad => exact drives_then ht hpc (.waitLoad 0) nofun (acquire_spin c _ t c.spinMax false ht h0 (by simp))
  case waitSys => exact drives_then ht hpc (.noPark (by omega)) nofun (acquire_spin c _ t c.spinMax false ht h0 (by simp))
  case parked => exact drives_then ht hpc (.spur false) nofun (acquire_spin c _ t c.spinMax false ht h0 (by simp))

end acquire

end TinyVerif.Mutex
