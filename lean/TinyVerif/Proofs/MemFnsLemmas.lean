/-
Helper lemmas for C08 (Model/MemFns.lean): the two array laws of the memory, word access = 8 byte
accesses, the `Blit` (memmove-semantics) predicate with its forward/backward composition, one lemma for
the ascending and one for the descending copy loops (which the six loops of the model instantiate), and
the same for memset (`Filled`) and the compare loop.
-/
import TinyVerif.Model.MemFns
namespace TinyVerif.MemFns

theorem rd_wr (m : Mem) (a b : Nat) (v : UInt8) : (m.wr a v).rd b = if b = a then v else m.rd b := by
  have hab : b = a ↔ a = b := eq_comm
  unfold Mem.wr
  split
  · simp only [Mem.rd, lookup, hab]
    by_cases hb : a = b
    · subst hb; simp [*]
    · simp [hb]
  · split
    · next h1 h2 =>
      simp only [Mem.rd, Array.size_setIfInBounds]
      by_cases hb : b = a
      · subst hb; simp [h1, h2]
      · simp only [hb, if_false]
        split
        · rfl
        · split
          · rw [Array.getElem_setIfInBounds (by assumption), if_neg (by omega)]
          · rfl
    · simp only [Mem.rd, lookup, hab]
      by_cases hb : a = b
      · subst hb; simp [*]
      · simp [hb]

/-- The arena with its content as a list.  (`Array.ofFn` fills the array by `push`, which is slow for the kernel to
evaluate; concrete runs on an arena are evaluated after rewriting with this.) -/
theorem mkArena_eq (base size seed : Nat) : mkArena base size seed =
    { base := base, data := (List.ofFn (n := size) fun i => pattern seed i.val).toArray, oob := [], bad := 0,
      rlog := [], wlog := [] } := by
  rw [mkArena, ← Array.toList_ofFn, Array.toArray_toList]

@[simp] theorem bad_wr (m : Mem) (a : Nat) (v : UInt8) : (m.wr a v).bad = m.bad := by
  unfold Mem.wr; split
  · rfl
  · split <;> rfl

@[simp] theorem rlog_wr (m : Mem) (a : Nat) (v : UInt8) : (m.wr a v).rlog = m.rlog := by
  unfold Mem.wr; split
  · rfl
  · split <;> rfl

@[simp] theorem wlog_wr (m : Mem) (a : Nat) (v : UInt8) : (m.wr a v).wlog = a :: m.wlog := by
  unfold Mem.wr; split
  · rfl
  · split <;> rfl

@[simp] theorem rd_note (m : Mem) (a x : Nat) : (m.note a).rd x = m.rd x := rfl
@[simp] theorem bad_note (m : Mem) (a : Nat) : (m.note a).bad = m.bad := rfl
@[simp] theorem rlog_note (m : Mem) (a : Nat) : (m.note a).rlog = a :: m.rlog := rfl
@[simp] theorem wlog_note (m : Mem) (a : Nat) : (m.note a).wlog = m.wlog := rfl
@[simp] theorem rd_noteWord (m : Mem) (a x : Nat) : (noteWord m a).rd x = m.rd x := rfl
@[simp] theorem bad_noteWord (m : Mem) (a : Nat) : (noteWord m a).bad = m.bad := rfl
@[simp] theorem wlog_noteWord (m : Mem) (a : Nat) : (noteWord m a).wlog = m.wlog := rfl
theorem rlog_noteWord (m : Mem) (a : Nat) : (noteWord m a).rlog =
    (a + 7) :: (a + 6) :: (a + 5) :: (a + 4) :: (a + 3) :: (a + 2) :: (a + 1) :: a :: m.rlog := rfl
@[simp] theorem rdWord_noteWord (m : Mem) (a s : Nat) : rdWord (noteWord m a) s = rdWord m s := rfl

/-- `m'` came from `m0` by loads at addresses in `[rlo, rhi)` and stores at addresses in `[wlo, whi)` only:
every entry of the logs of `m'` is an entry of the logs of `m0` or lies in the respective range -/
def Acc (m0 m' : Mem) (rlo rhi wlo whi : Nat) : Prop :=
  (∀ a, a ∈ m'.rlog → a ∈ m0.rlog ∨ (rlo ≤ a ∧ a < rhi)) ∧
  (∀ a, a ∈ m'.wlog → a ∈ m0.wlog ∨ (wlo ≤ a ∧ a < whi))

theorem Acc.of_append {m0 m' : Mem} {rlo rhi wlo whi : Nat} (rs ws : List Nat)
    (hr : m'.rlog = rs ++ m0.rlog) (hw : m'.wlog = ws ++ m0.wlog)
    (hrs : ∀ a ∈ rs, rlo ≤ a ∧ a < rhi) (hws : ∀ a ∈ ws, wlo ≤ a ∧ a < whi) : Acc m0 m' rlo rhi wlo whi := by
  refine ⟨fun a ha => ?_, fun a ha => ?_⟩
  · rw [hr, List.mem_append] at ha
    exact ha.symm.imp_right (hrs a)
  · rw [hw, List.mem_append] at ha
    exact ha.symm.imp_right (hws a)

theorem Acc.refl (m : Mem) (rlo rhi wlo whi : Nat) : Acc m m rlo rhi wlo whi :=
  ⟨fun _ h => Or.inl h, fun _ h => Or.inl h⟩

theorem Acc.comp {m0 m1 m2 : Mem} {rl1 rh1 wl1 wh1 rl2 rh2 wl2 wh2 rl rh wl wh : Nat}
    (h1 : Acc m0 m1 rl1 rh1 wl1 wh1) (h2 : Acc m1 m2 rl2 rh2 wl2 wh2)
    (hr1 : rl ≤ rl1 ∧ rh1 ≤ rh) (hr2 : rl ≤ rl2 ∧ rh2 ≤ rh) (hw1 : wl ≤ wl1 ∧ wh1 ≤ wh) (hw2 : wl ≤ wl2 ∧ wh2 ≤ wh) :
    Acc m0 m2 rl rh wl wh := by
  refine ⟨fun a ha => ?_, fun a ha => ?_⟩
  · rcases h2.1 a ha with h | h
    · rcases h1.1 a h with h | h
      · exact Or.inl h
      · exact Or.inr (by omega)
    · exact Or.inr (by omega)
  · rcases h2.2 a ha with h | h
    · rcases h1.2 a h with h | h
      · exact Or.inl h
      · exact Or.inr (by omega)
    · exact Or.inr (by omega)

theorem wlog_wrWord (m : Mem) (a w : Nat) : (wrWord m a w).wlog =
    (a + 7) :: (a + 6) :: (a + 5) :: (a + 4) :: (a + 3) :: (a + 2) :: (a + 1) :: a :: m.wlog := by
  simp only [wrWord, wlog_wr]

@[simp] theorem rlog_wrWord (m : Mem) (a w : Nat) : (wrWord m a w).rlog = m.rlog := by
  simp only [wrWord, rlog_wr]

theorem mem_word {a x : Nat} (h : x ∈ [a + 7, a + 6, a + 5, a + 4, a + 3, a + 2, a + 1, a]) : a ≤ x ∧ x < a + 8 := by
  simp only [List.mem_cons, List.not_mem_nil, or_false] at h
  omega

theorem mem_byte {a x : Nat} (h : x ∈ [a]) : a ≤ x ∧ x < a + 1 := by
  rw [List.mem_singleton] at h
  omega

theorem rd_wrWord (m : Mem) (a w x : Nat) :
    (wrWord m a w).rd x = if a ≤ x ∧ x < a + 8 then byteOf w (x - a) else m.rd x := by
  simp only [wrWord, rd_wr]
  by_cases h : a ≤ x ∧ x < a + 8
  · obtain ⟨j, rfl⟩ : ∃ j, x = a + j := ⟨x - a, by omega⟩
    have hj : j < 8 := by omega
    rw [if_pos h, Nat.add_sub_cancel_left]
    simp only [Nat.add_left_cancel_iff, Nat.add_eq_left]
    match j, hj with
    | 0, _ | 1, _ | 2, _ | 3, _ | 4, _ | 5, _ | 6, _ | 7, _ => rfl
  · rw [if_neg h]
    repeat rw [if_neg (by omega)]

@[simp] theorem bad_wrWord (m : Mem) (a w : Nat) : (wrWord m a w).bad = m.bad := by
  simp only [wrWord, bad_wr]

theorem byteOf_zero (b : UInt8) (x : Nat) : byteOf (b.toNat + 256 * x) 0 = b := by
  have := b.toNat_lt
  rw [byteOf, Nat.pow_zero, Nat.div_one, Nat.add_mul_mod_self_left, Nat.mod_eq_of_lt this, UInt8.ofNat_toNat]

theorem byteOf_succ (b : UInt8) (x j : Nat) : byteOf (b.toNat + 256 * x) (j + 1) = byteOf x j := by
  have := b.toNat_lt
  rw [byteOf, byteOf, Nat.pow_succ', ← Nat.div_div_eq_div_mul, Nat.add_mul_div_left _ _ (by decide),
    Nat.div_eq_of_lt this, Nat.zero_add]

theorem byteOf_rdWord (m : Mem) (s j : Nat) (hj : j < 8) : byteOf (rdWord m s) j = m.rd (s + j) := by
  unfold rdWord
  match j, hj with
  | 0, _ => exact byteOf_zero _ _
  | 1, _ | 2, _ | 3, _ | 4, _ | 5, _ | 6, _ => simp only [byteOf_succ, byteOf_zero]
  | 7, _ => simp only [byteOf_succ]; exact byteOf_zero _ 0

/-- `m'` is `m0` after a `memmove`-semantics copy of `r` bytes from `s` to `d`: the destination range holds
the *original* source bytes, every other address is unchanged, and no bad event was recorded -/
def Blit (m0 m' : Mem) (d s r : Nat) : Prop :=
  m'.bad = m0.bad ∧ (∀ x, m'.rd x = if d ≤ x ∧ x < d + r then m0.rd (s + (x - d)) else m0.rd x) ∧
  Acc m0 m' s (s + r) d (d + r)

theorem Blit.zero (m : Mem) (d s : Nat) : Blit m m d s 0 :=
  ⟨rfl, fun x => by rw [if_neg (by omega)], Acc.refl _ _ _ _ _⟩

theorem Blit.rd_dest {m m' : Mem} {d s r : Nat} (h : Blit m m' d s r) {i : Nat} (hi : i < r) :
    m'.rd (d + i) = m.rd (s + i) := by
  rw [h.2.1, if_pos (by omega), Nat.add_sub_cancel_left]

theorem Blit.rd_outside {m m' : Mem} {d s r : Nat} (h : Blit m m' d s r) {x : Nat} (hx : x < d ∨ d + r ≤ x) :
    m'.rd x = m.rd x := by
  rw [h.2.1, if_neg (by omega)]

/-- Two copies in ascending order make one, provided the first does not overwrite what the second still has to read.
The parts may assume the same of themselves: it follows from `hz`. -/
theorem Blit.fwd_comp {m0 m1 m2 : Mem} {d s a b : Nat}
    (h1 : (d ≤ s ∨ s + a ≤ d) → Blit m0 m1 d s a)
    (h2 : (d + a ≤ s + a ∨ s + a + b ≤ d + a) → Blit m1 m2 (d + a) (s + a) b)
    (hz : d ≤ s ∨ s + (a + b) ≤ d) : Blit m0 m2 d s (a + b) := by
  have h1 := h1 (by omega)
  have h2 := h2 (by omega)
  refine ⟨h2.1.trans h1.1, fun x => ?_,
    Acc.comp h1.2.2 h2.2.2 (by omega) (by omega) (by omega) (by omega)⟩
  rw [h2.2.1 x]
  by_cases hx : d + a ≤ x ∧ x < d + a + b
  · rw [if_pos hx, h1.2.1, if_neg (by omega), if_pos (by omega)]
    congr 1; omega
  · rw [if_neg hx, h1.2.1 x]
    by_cases hx2 : d ≤ x ∧ x < d + a
    · rw [if_pos hx2, if_pos (by omega)]
    · rw [if_neg hx2, if_neg (by omega)]

theorem Blit.bwd_comp {m0 m1 m2 : Mem} {d s a b : Nat}
    (h1 : (s + a ≤ d + a ∨ d + a + b ≤ s + a) → Blit m0 m1 (d + a) (s + a) b)
    (h2 : (s ≤ d ∨ d + a ≤ s) → Blit m1 m2 d s a)
    (hz : s ≤ d ∨ d + (a + b) ≤ s) : Blit m0 m2 d s (a + b) := by
  have h1 := h1 (by omega)
  have h2 := h2 (by omega)
  refine ⟨h2.1.trans h1.1, fun x => ?_,
    Acc.comp h1.2.2 h2.2.2 (by omega) (by omega) (by omega) (by omega)⟩
  rw [h2.2.1 x]
  by_cases hx : d ≤ x ∧ x < d + a
  · rw [if_pos hx, h1.2.1, if_neg (by omega), if_pos (by omega)]
  · rw [if_neg hx, h1.2.1 x]
    by_cases hx2 : d + a ≤ x ∧ x < d + a + b
    · rw [if_pos hx2, if_pos (by omega)]
      congr 1; omega
    · rw [if_neg hx2, if_neg (by omega)]

theorem Blit.byte (m : Mem) (d s : Nat) : Blit m ((m.note s).wr d ((m.note s).rd s)) d s 1 := by
  refine ⟨bad_wr .., fun x => ?_,
    .of_append [s] [d] (rlog_wr ..) (wlog_wr ..) (fun _ => mem_byte) (fun _ => mem_byte)⟩
  rw [rd_wr, rd_note, rd_note]
  by_cases hx : x = d
  · subst hx; rw [if_pos rfl, if_pos (by omega), Nat.sub_self]; rfl
  · rw [if_neg hx, if_neg (by omega)]

theorem Blit.word (m : Mem) (d s : Nat) :
    Blit m (wrWord (noteWord m s) d (rdWord (noteWord m s) s)) d s 8 := by
  refine ⟨bad_wrWord .., fun x => ?_,
    .of_append _ _ (rlog_wrWord ..) (wlog_wrWord ..) (fun _ => mem_word) (fun _ => mem_word)⟩
  rw [rd_wrWord, rdWord_noteWord, rd_noteWord]
  by_cases hx : d ≤ x ∧ x < d + 8
  · rw [if_pos hx, if_pos hx, byteOf_rdWord _ _ _ (by omega)]
  · rw [if_neg hx, if_neg hx]

/-- A `while dest < dest_end` loop `L` (arguments: fuel, memory, `dest`, `src`, `dest_end`) that advances both pointers by `w`
and whose body copies `w` bytes wherever the invariant `P` holds copies `w * k` bytes in `k` rounds. -/
theorem Blit.upLoop {w : Nat} (hw : 0 < w) {P : Nat → Nat → Prop} {body : Mem → Nat → Nat → Mem}
    {L : Nat → Mem → Nat → Nat → Nat → Mem}
    (hL0 : ∀ m d s e, L 0 m d s e = if d < e then m.flag 2 else m)
    (hL : ∀ f m d s e, L (f + 1) m d s e = if d < e then L f (body m d s) (d + w) (s + w) e else m)
    (hbody : ∀ m d s, P d s → Blit m (body m d s) d s w) (hP : ∀ d s, P d s → P (d + w) (s + w)) :
    ∀ k f m d s, k ≤ f → P d s → (d ≤ s ∨ s + w * k ≤ d) → Blit m (L f m d s (d + w * k)) d s (w * k)
  | 0, f, m, d, s, _, _, _ => by
    have : L f m d s (d + w * 0) = m := by
      cases f
      · rw [hL0, if_neg (by omega)]
      · rw [hL, if_neg (by omega)]
    rw [this]; exact Blit.zero m d s
  | k + 1, 0, _, _, _, hf, _, _ => by omega
  | k + 1, f + 1, m, d, s, hf, hp, hz => by
    rw [Nat.mul_succ, Nat.add_comm (w * k)] at hz ⊢
    rw [hL, if_pos (by omega), ← Nat.add_assoc]
    exact Blit.fwd_comp (fun _ => hbody m d s hp) (upLoop hw hL0 hL hbody hP k f _ _ _ (by omega) (hP d s hp)) hz

/-- The mirror image: a `while dest_start < dest` loop that first steps both pointers (past the end) down by `w` and then
copies `w` bytes there.  Stated from the low ends `d`, `s`, so that no subtraction is left. -/
theorem Blit.downLoop {w : Nat} (hw : 0 < w) {P : Nat → Nat → Prop} {body : Mem → Nat → Nat → Mem}
    {L : Nat → Mem → Nat → Nat → Nat → Mem}
    (hL0 : ∀ m d s e, L 0 m d s e = if e < d then m.flag 2 else m)
    (hL : ∀ f m d s e, L (f + 1) m d s e = if e < d then L f (body m (d - w) (s - w)) (d - w) (s - w) e else m)
    (hbody : ∀ m d s, P d s → Blit m (body m d s) d s w) (hP : ∀ d s, P d s → P (d + w) (s + w))
    {d s : Nat} (hp : P d s) :
    ∀ k f m, k ≤ f → (s ≤ d ∨ d + w * k ≤ s) → Blit m (L f m (d + w * k) (s + w * k) d) d s (w * k)
  | 0, f, m, _, _ => by
    have : L f m (d + w * 0) (s + w * 0) d = m := by
      cases f
      · rw [hL0, if_neg (by omega)]
      · rw [hL, if_neg (by omega)]
    rw [this]; exact Blit.zero m d s
  | k + 1, 0, _, hf, _ => by omega
  | k + 1, f + 1, m, hf, hz => by
    have hpk : ∀ j, P (d + w * j) (s + w * j) := fun j => by
      induction j with
      | zero => exact hp
      | succ j ih => rw [Nat.mul_succ, ← Nat.add_assoc, ← Nat.add_assoc]; exact hP _ _ ih
    rw [Nat.mul_succ] at hz ⊢
    rw [hL, if_pos (by omega), ← Nat.add_assoc, ← Nat.add_assoc, Nat.add_sub_cancel, Nat.add_sub_cancel]
    exact Blit.bwd_comp (fun _ => hbody m _ _ (hpk k)) (downLoop hw hL0 hL hbody hP hp k f _ (by omega)) hz

theorem copyForwardBytes_spec (m : Mem) (dest src r : Nat) (hz : dest ≤ src ∨ src + r ≤ dest) :
    Blit m (copyForwardBytes m dest src r) dest src r := by
  have := Blit.upLoop (w := 1) (P := fun _ _ => True) (L := copyForwardBytesLoop) (by omega) (fun _ _ _ _ => rfl)
    (fun _ _ _ _ _ => rfl) (fun m d s _ => Blit.byte m d s) (fun _ _ _ => trivial) r r m dest src (Nat.le_refl r) trivial
  rw [Nat.one_mul] at this
  exact this hz

theorem copyBackwardBytes_spec (m : Mem) (dest src r : Nat) (hz : src ≤ dest ∨ dest + r ≤ src) :
    Blit m (copyBackwardBytes m (dest + r) (src + r) r) dest src r := by
  have := Blit.downLoop (w := 1) (P := fun _ _ => True) (L := copyBackwardBytesLoop) (by omega) (fun _ _ _ _ => rfl)
    (fun _ _ _ _ _ => rfl) (fun m d s _ => Blit.byte m d s) (fun _ _ _ => trivial) (d := dest) (s := src) trivial r r m
    (Nat.le_refl r)
  rw [Nat.one_mul] at this
  rw [copyBackwardBytes, Nat.add_sub_cancel]
  exact this hz

theorem chkAligned_of (m : Mem) (a : Nat) (h : a % 8 = 0) : chkAligned m a = m := if_pos h

theorem mod8_add8 {d : Nat} (h : d % 8 = 0) : (d + 8) % 8 = 0 := by rwa [Nat.add_mod_right]

theorem Blit.alignedWord {m : Mem} {d s : Nat} (h : d % 8 = 0 ∧ s % 8 = 0) :
    Blit m (wrWord (chkAligned (noteWord (chkAligned m s) s) d) d (rdWord (noteWord (chkAligned m s) s) s)) d s 8 := by
  rw [chkAligned_of _ _ h.2, chkAligned_of _ _ h.1]
  exact Blit.word m d s

theorem Blit.misalignedWord {m : Mem} {d s : Nat} (h : d % 8 = 0) :
    Blit m (wrWord (chkAligned (noteWord m s) d) d (rdWord (noteWord m s) s)) d s 8 := by
  rw [chkAligned_of _ _ h]
  exact Blit.word m d s

theorem copyForwardAlignedWords_spec (m : Mem) (dest src k : Nat) (ha : dest % 8 = 0 ∧ src % 8 = 0)
    (hz : dest ≤ src ∨ src + 8 * k ≤ dest) : Blit m (copyForwardAlignedWords m dest src (8 * k)) dest src (8 * k) :=
  Blit.upLoop (w := 8) (P := fun d s => d % 8 = 0 ∧ s % 8 = 0) (by omega) (fun _ _ _ _ => rfl) (fun _ _ _ _ _ => rfl)
    (fun _ _ _ => Blit.alignedWord) (fun _ _ h => ⟨mod8_add8 h.1, mod8_add8 h.2⟩) k (8 * k) m dest src (by omega) ha hz

theorem copyForwardMisalignedWords_spec (m : Mem) (dest src k : Nat) (ha : dest % 8 = 0)
    (hz : dest ≤ src ∨ src + 8 * k ≤ dest) : Blit m (copyForwardMisalignedWords m dest src (8 * k)) dest src (8 * k) :=
  Blit.upLoop (w := 8) (P := fun d _ => d % 8 = 0) (by omega) (fun _ _ _ _ => rfl) (fun _ _ _ _ _ => rfl)
    (fun _ _ _ => Blit.misalignedWord) (fun _ _ => mod8_add8) k (8 * k) m dest src (by omega) ha hz

theorem copyBackwardAlignedWords_spec (m : Mem) (dest src k : Nat) (ha : dest % 8 = 0 ∧ src % 8 = 0)
    (hz : src ≤ dest ∨ dest + 8 * k ≤ src) :
    Blit m (copyBackwardAlignedWords m (dest + 8 * k) (src + 8 * k) (8 * k)) dest src (8 * k) := by
  rw [copyBackwardAlignedWords, Nat.add_sub_cancel]
  exact Blit.downLoop (w := 8) (P := fun d s => d % 8 = 0 ∧ s % 8 = 0) (by omega) (fun _ _ _ _ => rfl)
    (fun _ _ _ _ _ => rfl) (fun _ _ _ => Blit.alignedWord) (fun _ _ h => ⟨mod8_add8 h.1, mod8_add8 h.2⟩) ha k (8 * k) m
    (by omega) hz

theorem copyBackwardMisalignedWords_spec (m : Mem) (dest src k : Nat) (ha : dest % 8 = 0)
    (hz : src ≤ dest ∨ dest + 8 * k ≤ src) :
    Blit m (copyBackwardMisalignedWords m (dest + 8 * k) (src + 8 * k) (8 * k)) dest src (8 * k) := by
  rw [copyBackwardMisalignedWords, Nat.add_sub_cancel]
  exact Blit.downLoop (w := 8) (P := fun d _ => d % 8 = 0) (by omega) (fun _ _ _ _ => rfl) (fun _ _ _ _ _ => rfl)
    (fun _ _ _ => Blit.misalignedWord) (fun _ _ => mod8_add8) ha k (8 * k) m (by omega) hz

theorem and_mask (x : Nat) : x &&& WORD_MASK = x % 8 := Nat.and_two_pow_sub_one_eq_mod x 3

theorem andNotMask_eq (n : Nat) : andNotMask n = 8 * (n / 8) := by
  unfold andNotMask; rw [and_mask]; omega

/-- `dest_misalignment` of the ascending copies: what is missing to the next word boundary -/
theorem fwd_mis (dest : Nat) :
    (dest + (wrappingNeg dest &&& WORD_MASK)) % 8 = 0 ∧ (wrappingNeg dest &&& WORD_MASK) < 8 := by
  rw [and_mask]; unfold wrappingNeg; simp only [TWO64] at *; omega

/-- `n ≥ mis` is `mis` bytes, the words the code counts, and a rest -/
theorem split_words {n mis : Nat} (h : mis ≤ n) : ∃ t, n = mis + (8 * ((n - mis) / 8) + t) := ⟨(n - mis) % 8, by omega⟩

theorem wrappingSub_eq (a b : Nat) (ha : a < TWO64) (hb : b < TWO64) :
    wrappingSub a b = if b ≤ a then a - b else a + TWO64 - b := by
  unfold wrappingSub
  generalize TWO64 = T at *
  rw [Nat.mod_eq_of_lt ha, Nat.mod_eq_of_lt hb]
  split
  · rw [show a + (T - b) = a - b + T by omega, Nat.add_mod_right, Nat.mod_eq_of_lt (by omega)]
  · rw [Nat.mod_eq_of_lt (by omega)]; omega

/-- `m'` is `m0` with `[d, d+r)` filled with `c`, everything else unchanged, no bad event -/
def Filled (m0 m' : Mem) (d : Nat) (c : UInt8) (r : Nat) : Prop :=
  m'.bad = m0.bad ∧ (∀ x, m'.rd x = if d ≤ x ∧ x < d + r then c else m0.rd x) ∧ Acc m0 m' 0 0 d (d + r)

theorem Filled.zero (m : Mem) (d : Nat) (c : UInt8) : Filled m m d c 0 :=
  ⟨rfl, fun x => by rw [if_neg (by omega)], Acc.refl _ _ _ _ _⟩

theorem Filled.rd_dest {m m' : Mem} {d r : Nat} {c : UInt8} (h : Filled m m' d c r) {i : Nat} (hi : i < r) :
    m'.rd (d + i) = c := by
  rw [h.2.1, if_pos (by omega)]

theorem Filled.rd_outside {m m' : Mem} {d r : Nat} {c : UInt8} (h : Filled m m' d c r) {x : Nat}
    (hx : x < d ∨ d + r ≤ x) : m'.rd x = m.rd x := by
  rw [h.2.1, if_neg (by omega)]

theorem Filled.comp {m0 m1 m2 : Mem} {d a b : Nat} {c : UInt8}
    (h1 : Filled m0 m1 d c a) (h2 : Filled m1 m2 (d + a) c b) : Filled m0 m2 d c (a + b) := by
  refine ⟨h2.1.trans h1.1, fun x => ?_,
    Acc.comp h1.2.2 h2.2.2 (by omega) (by omega) (by omega) (by omega)⟩
  rw [h2.2.1 x]
  by_cases hx : d + a ≤ x ∧ x < d + a + b
  · rw [if_pos hx, if_pos (by omega)]
  · rw [if_neg hx, h1.2.1 x]
    by_cases hx2 : d ≤ x ∧ x < d + a
    · rw [if_pos hx2, if_pos (by omega)]
    · rw [if_neg hx2, if_neg (by omega)]

theorem Filled.byte (m : Mem) (d : Nat) (c : UInt8) : Filled m (m.wr d c) d c 1 := by
  refine ⟨bad_wr .., fun x => ?_, .of_append [] [d] (rlog_wr ..) (wlog_wr ..) (fun _ h => nomatch h) (fun _ => mem_byte)⟩
  rw [rd_wr]
  by_cases hx : x = d
  · rw [if_pos hx, if_pos (by omega)]
  · rw [if_neg hx, if_neg (by omega)]

theorem broadcast_table : ∀ n, n < 256 → ∀ j, j < 8 → broadcastLoop 8 n 8 / 256 ^ j % 256 = n := by
  decide +kernel

theorem byteOf_broadcast (c : UInt8) (j : Nat) (hj : j < 8) : byteOf (broadcast c) j = c := by
  unfold byteOf broadcast
  rw [broadcast_table c.toNat c.toNat_lt j hj, UInt8.ofNat_toNat]

theorem Filled.word {m : Mem} {d : Nat} (c : UInt8) (h : d % 8 = 0) :
    Filled m (wrWord (chkAligned m d) d (broadcast c)) d c 8 := by
  rw [chkAligned_of _ _ h]
  refine ⟨bad_wrWord .., fun x => ?_,
    .of_append [] _ (rlog_wrWord ..) (wlog_wrWord ..) (fun _ h => nomatch h) (fun _ => mem_word)⟩
  rw [rd_wrWord]
  by_cases hx : d ≤ x ∧ x < d + 8
  · rw [if_pos hx, if_pos hx, byteOf_broadcast _ _ (by omega)]
  · rw [if_neg hx, if_neg hx]

/-- `Blit.upLoop` for a loop that fills -/
theorem Filled.upLoop {w : Nat} (hw : 0 < w) {c : UInt8} {P : Nat → Prop} {body : Mem → Nat → Mem}
    {L : Nat → Mem → Nat → Nat → Mem}
    (hL0 : ∀ m d e, L 0 m d e = if d < e then m.flag 2 else m)
    (hL : ∀ f m d e, L (f + 1) m d e = if d < e then L f (body m d) (d + w) e else m)
    (hbody : ∀ m d, P d → Filled m (body m d) d c w) (hP : ∀ d, P d → P (d + w)) :
    ∀ k f m d, k ≤ f → P d → Filled m (L f m d (d + w * k)) d c (w * k)
  | 0, f, m, d, _, _ => by
    have : L f m d (d + w * 0) = m := by
      cases f
      · rw [hL0, if_neg (by omega)]
      · rw [hL, if_neg (by omega)]
    rw [this]; exact Filled.zero m d c
  | k + 1, 0, _, _, hf, _ => by omega
  | k + 1, f + 1, m, d, hf, hp => by
    rw [Nat.mul_succ, Nat.add_comm (w * k), hL, if_pos (by omega), ← Nat.add_assoc]
    exact (hbody m d hp).comp (upLoop hw hL0 hL hbody hP k f _ _ (by omega) (hP d hp))

theorem setBytesBytes_spec (m : Mem) (s : Nat) (c : UInt8) (r : Nat) : Filled m (setBytesBytes m s c r) s c r := by
  have := Filled.upLoop (w := 1) (P := fun _ => True) (L := fun f m d e => setBytesBytesLoop f m d c e) (by omega)
    (fun _ _ _ => rfl) (fun _ _ _ _ => rfl) (fun m d _ => Filled.byte m d c) (fun _ _ => trivial) r r m s (Nat.le_refl _) trivial
  rwa [Nat.one_mul] at this

theorem setBytesWords_spec (m : Mem) (s : Nat) (c : UInt8) (k : Nat) (hs : s % 8 = 0) :
    Filled m (setBytesWords m s c (8 * k)) s c (8 * k) :=
  Filled.upLoop (w := 8) (P := fun d => d % 8 = 0) (L := fun f m d e => setBytesWordsLoop f m d (broadcast c) e) (by omega)
    (fun _ _ _ => rfl) (fun _ _ _ _ => rfl) (fun _ _ => Filled.word c) (fun d h => by omega) k (8 * k) m s (by omega) hs

theorem setBytes_filled (m : Mem) (s : Nat) (c : UInt8) (n : Nat) : Filled m (setBytes m s c n) s c n := by
  unfold setBytes
  split
  · next hn =>
    have hn : 16 ≤ n := hn
    obtain ⟨hal, hlt⟩ := fwd_mis s
    generalize wrappingNeg s &&& WORD_MASK = mis at hal hlt ⊢
    simp only [andNotMask_eq]
    obtain ⟨t, ht⟩ := split_words (show mis ≤ n by omega)
    generalize (n - mis) / 8 = q at ht ⊢
    subst ht
    rw [if_neg (Nat.not_lt.2 (Nat.le_add_right mis _)), Nat.add_sub_cancel_left, Nat.add_sub_cancel_left]
    exact (setBytesBytes_spec m s c mis).comp ((setBytesWords_spec _ _ c q hal).comp (setBytesBytes_spec _ _ c t))
  · exact setBytesBytes_spec m s c n

def CmpPost (m : Mem) (s1 s2 n : Nat) : Option Int → Prop
  | none => False
  | some v =>
    (v = 0 ∧ ∀ j, j < n → m.rd (s1 + j) = m.rd (s2 + j)) ∨
    (∃ p, p < n ∧ (∀ j, j < p → m.rd (s1 + j) = m.rd (s2 + j)) ∧ m.rd (s1 + p) ≠ m.rd (s2 + p) ∧
      v = ((m.rd (s1 + p)).toNat : Int) - ((m.rd (s2 + p)).toNat : Int))

theorem compareBytesLoop_spec (s1 s2 n : Nat) : ∀ (f : Nat) (m : Mem) (i : Nat), n - i ≤ f → i ≤ n →
    (∀ j, j < i → m.rd (s1 + j) = m.rd (s2 + j)) → CmpPost m s1 s2 n (compareBytesLoop f m s1 s2 n i).2
  | 0, m, i, hf, hi, hpre => by
    obtain rfl : i = n := by omega
    rw [compareBytesLoop, if_neg (Nat.lt_irrefl _)]
    exact Or.inl ⟨rfl, hpre⟩
  | f + 1, m, i, hf, hi, hpre => by
    rw [compareBytesLoop]
    split
    · next hlt =>
      simp only []
      split
      · next hne => exact Or.inr ⟨i, hlt, hpre, hne, rfl⟩
      · next heq =>
        -- `note` does not change what `rd` returns, so the postcondition is about the same memory
        refine compareBytesLoop_spec s1 s2 n f ((m.note _).note _) (i + 1) (by omega) hlt fun j hj => ?_
        rcases Nat.lt_succ_iff_lt_or_eq.1 hj with h | rfl
        · exact hpre j h
        · exact Classical.not_not.1 heq
    · obtain rfl : i = n := by omega
      exact Or.inl ⟨rfl, hpre⟩

/-- what the compare loop touches: loads of `s1[i]`, `s2[i]` with `i < n` only, no store, and the memory content
(and `bad`) comes back as it was -/
def CmpAcc (m0 m' : Mem) (s1 s2 n : Nat) : Prop :=
  (∀ a, a ∈ m'.rlog → a ∈ m0.rlog ∨ (∃ i, i < n ∧ (a = s1 + i ∨ a = s2 + i))) ∧
  m'.wlog = m0.wlog ∧ m'.bad = m0.bad ∧ ∀ x, m'.rd x = m0.rd x

theorem compareBytesLoop_acc (s1 s2 n : Nat) : ∀ (f : Nat) (m : Mem) (i : Nat),
    CmpAcc m (compareBytesLoop f m s1 s2 n i).1 s1 s2 n := by
  intro f
  induction f with
  | zero => intro m i; exact ⟨fun _ h => Or.inl h, rfl, rfl, fun _ => rfl⟩
  | succ f ih =>
    intro m i
    unfold compareBytesLoop
    by_cases hlt : i < n
    · rw [if_pos hlt]
      have step : CmpAcc m ((m.note (s1 + i)).note (s2 + i)) s1 s2 n := by
        refine ⟨fun a ha => ?_, rfl, rfl, fun _ => rfl⟩
        simp only [rlog_note, List.mem_cons] at ha
        rcases ha with h | h | h
        · exact Or.inr ⟨i, hlt, Or.inr h⟩
        · exact Or.inr ⟨i, hlt, Or.inl h⟩
        · exact Or.inl h
      simp only []
      split
      · exact step
      · have h2 := ih ((m.note (s1 + i)).note (s2 + i)) (i + 1)
        refine ⟨fun a ha => ?_, h2.2.1.trans step.2.1, h2.2.2.1.trans step.2.2.1, fun x => (h2.2.2.2 x).trans (step.2.2.2 x)⟩
        rcases h2.1 a ha with h | h
        · exact step.1 a h
        · exact Or.inr h
    · rw [if_neg hlt]
      exact ⟨fun _ h => Or.inl h, rfl, rfl, fun _ => rfl⟩

theorem compareBytes_acc (m : Mem) (s1 s2 n : Nat) : CmpAcc m (compareBytes m s1 s2 n).1 s1 s2 n :=
  compareBytesLoop_acc s1 s2 n n m 0

end TinyVerif.MemFns
