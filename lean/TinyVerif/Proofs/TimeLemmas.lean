import TinyVerif.Model.Time
namespace TinyVerif.Time

@[simp] theorem bind_val {α β} (a : α) (f : α → R β) : (R.val a >>= f) = f a := rfl
@[simp] theorem bind_none {α β} (f : α → R β) : ((R.none : R α) >>= f) = R.none := rfl
@[simp] theorem bind_panic {α β} (f : α → R β) : ((R.panic : R α) >>= f) = R.panic := rfl
@[simp] theorem pure_eq {α} (a : α) : (pure a : R α) = R.val a := rfl

@[simp] theorem bind_ite {α β} (c : Prop) [Decidable c] (x y : R α) (f : α → R β) :
    ((if c then x else y) >>= f) = if c then (x >>= f) else (y >>= f) := by
  split <;> rfl

theorem plainI64_in (rel : Bool) (x : Int) (h : inI64 x) : plainI64 rel x = R.val x := by
  simp only [plainI64, if_pos h]

theorem post_ite {α : Type} {P : R α → Prop} {c : Prop} [Decidable c] {x y : R α} (hx : c → P x) (hy : ¬ c → P y) :
    P (if c then x else y) := by
  split
  · exact hx ‹_›
  · exact hy ‹_›

end TinyVerif.Time
