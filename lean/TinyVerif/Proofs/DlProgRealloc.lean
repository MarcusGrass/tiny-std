import TinyVerif.Proofs.DlProgSpec
import TinyVerif.Proofs.DlIndAll
/-!
# Progress for `split_inuse`, `try_realloc_chunk`, `memalign_fix` (tag `rp_`)

`rp_split_inuse_prog : split_inuse_Prog`,
`rp_try_realloc_chunk_prog : dispose_chunk_Prog → try_realloc_chunk_Prog`,
`rp_memalign_fix_prog : dispose_chunk_Prog → memalign_fix_Prog`.

`set_inuse` / `writeHead` fail only on a size with flag bits (`set_inuse_total`); the `mmapped` guards are
dead for user chunks; `getE next` finds the header after a user chunk (`ra_user_parts`); a free successor that
is neither `top` nor `dv` is binned, so `unlink_chunk` succeeds (`unlink_free_total`); `setFoot` / `clearPin` find the
header after the old `dv`, which the header writes before it leave alone (`dv_facts`, `free_chunk_total`);
`dispose_chunk` is applied to a user chunk (≥ 32 bytes) of the state after the split (`rp_dispose_after_split`,
`ra_into_next_split_mid`, `ma_leader_mid`).  memalign: `leadsize ≤ e.size`, `nb ≤ e.size` at the end and
`align_up mem' = mem'` follow from the arithmetic (`rp_leader_pos`; `rp_aligned_room`: an aligned address below
`2^64` has room for one more alignment unit, so `align_up` does not overflow), not from an ok-hypothesis.
-/
namespace TinyVerif.Dl

/-- **`split_inuse_Prog`** -/
theorem rp_split_inuse_prog : split_inuse_Prog := by
  intro s _ p nb rsize _ hnb _ hrs _
  obtain ⟨h1, e1, _⟩ := set_inuse_total s.h p (sz := nb) (by omega)
  obtain ⟨h2, e2, _⟩ := set_inuse_total h1 (p + nb) (sz := rsize) (by omega)
  exact ⟨h1, h2, e1, e2⟩

/-- after a split: `dispose_chunk` of the remainder, called on the tagged heap, is applied to a user chunk -/
theorem rp_dispose_after_split (hdp : dispose_chunk_Prog) {s : St} {h2 : Heap} {p nb rs : Nat} (t : String)
    (i2 : SInv { s with h := h2 }) (sp : ra_SplitU s { s with h := h2 } p nb rs) (hrs : 32 ≤ rs) :
    Total (dispose_chunk (h2.tag t) (p + nb) rs) := by
  obtain ⟨i2t, _, _, hut⟩ := ra_split_tagged t i2 sp
  exact hdp (s := { s with h := h2.tag t }) i2t hut hrs

theorem rp_split_dispose (hdp : dispose_chunk_Prog) {s : St} (hi : SInv s) {p nb rs : Nat} (hu : User s p (nb + rs))
    (hnb16 : nb % 16 = 0) (hnb : 16 ≤ nb) (hrs16 : rs % 16 = 0) (hrs : 32 ≤ rs) :
    ∃ h1 h2, set_inuse s.h p nb = .ok h1 ∧ set_inuse h1 (p + nb) rs = .ok h2 ∧
      ∀ t, Total (dispose_chunk (h2.tag t) (p + nb) rs) := by
  obtain ⟨h1, e1, _⟩ := set_inuse_total s.h p (sz := nb) (by omega)
  obtain ⟨h2, e2, _⟩ := set_inuse_total h1 (p + nb) (sz := rs) (by omega)
  obtain ⟨i2, sp⟩ := ra_split_inuse hi hu hnb16 hnb hrs16 (by omega) e1 e2
  exact ⟨h1, h2, e1, e2, fun t => rp_dispose_after_split hdp t i2 sp hrs⟩

/-- **`try_realloc_chunk_Prog`** (given `dispose_chunk_Prog`) -/
theorem rp_try_realloc_chunk_prog : dispose_chunk_Prog → try_realloc_chunk_Prog := by
  intro hdp s hi p nb z hu hz32 hnb
  have w := hi.wfs
  obtain ⟨pre, post, e, x, g, u⟩ := ra_user_parts w hu
  obtain ⟨hnb16, hnb32, _⟩ := hnb
  have hfx : findEnt s.h.ents (p + z) = some x := by rw [← u.ya]; exact entsOk_find x u.mem_y w.ents
  unfold try_realloc_chunk
  dsimp only
  refine Total.bind_ok (getE_ok.2 (u.find w)) (Total.bind_ok (failIf_false (not_mmapped_of_cin u.ec)) ?_)
  rw [u.es, MIN_CHUNK_SIZE_eq]
  refine Total.ite (fun hge => Total.ite (fun hrs => ?_) (fun _ => total_pure _)) (fun _ => Total.ite
    (fun _ => Total.ite (fun _ => total_pure _) (fun _ => ?_)) (fun hnt => Total.ite (fun hdv => Total.ite
    (fun _ => total_pure _) (fun _ => Total.ite (fun hds => ?_) (fun _ => ?_))) (fun hndv => ?_)))
  · -- shrink-split
    obtain ⟨h1, h2, e1, e2, hd⟩ := rp_split_dispose hdp hi (nb := nb) (rs := z - nb)
      (by rw [Nat.add_sub_cancel' hge]; exact hu) hnb16 (by omega) (mod16_sub u.z16 hnb16) hrs
    exact Total.bind_ok e1 (Total.bind_ok e2 (Total.bind (hd _) (fun _ _ => total_pure _)))
  · -- into-top
    obtain ⟨h1, e1, _⟩ := set_inuse_total s.h p (mod16_mod8 hnb16)
    exact Total.bind_ok e1 (Total.bind_ok
      (writeHead_eq (mod16_mod8 (mod16_sub (mod16_add u.z16 (topsize_mod16 w)) hnb16))) (total_pure _))
  · -- into-dv-split: the header after the old `dv` survives the writes before it
    obtain ⟨hd16, _, y, hy⟩ := dv_facts w (fr_dvsize_ne w (by omega))
    obtain ⟨h1, e1, _, k1⟩ := set_inuse_total s.h p (mod16_mod8 hnb16)
    have hend : p + nb + (z + s.h.dvsize - nb) = s.h.dv + s.h.dvsize := by omega
    obtain ⟨h2, e2, _, y2, hy2⟩ := free_chunk_total (h := h1) (a := p + nb) (y := y)
      (mod16_mod8 (mod16_sub (mod16_add u.z16 hd16) hnb16)) (by omega) (by rw [hend, k1 _ (by omega)]; exact hy)
    obtain ⟨h3, e3, _⟩ := clearPin_total hy2
    exact Total.bind_ok e1 (Total.bind_ok e2 (Total.bind_ok e3 (total_pure _)))
  · -- into-dv-exhaust
    obtain ⟨hd16, _⟩ := dv_facts w (fr_dvsize_ne w (by omega))
    obtain ⟨h1, e1, _⟩ := set_inuse_total s.h p (mod16_mod8 (mod16_add u.z16 hd16))
    exact Total.bind_ok e1 (total_pure _)
  · refine Total.bind_ok (getE_ok.2 hfx) (Total.ite (fun hcin => ?_) (fun _ => total_pure _))
    have hxf : isFree x = true := isFree_iff.2 ⟨by simpa using hcin, u.yp⟩
    have hxs16 := mod16_add u.z16 (shapeOk_free w.shape u.mem_y (isFree_iff.1 hxf).1).2.1
    refine Total.ite (fun _ => total_pure _) (fun _ => ?_)
    obtain ⟨h0, e0⟩ := unlink_free_total w u.mem_y hxf (by rw [u.ya]; exact hnt) (by rw [u.ya]; exact hndv)
    rw [u.ya] at e0
    refine Total.bind_ok e0 (Total.ite (fun _ => ?_) (fun hrs => ?_))
    · -- into-next-exhaust
      obtain ⟨h1, e1, _⟩ := set_inuse_total h0 p (mod16_mod8 hxs16)
      exact Total.bind_ok e1 (total_pure _)
    · -- into-next-split
      obtain ⟨y, post', hp, ga⟩ := ra_grow_parts w u hxf (by rw [u.ya]; exact hnt)
      obtain ⟨h1, e1, _⟩ := set_inuse_total h0 p (mod16_mod8 hnb16)
      obtain ⟨h2, e2, _⟩ := set_inuse_total h1 (p + nb) (mod16_mod8 (mod16_sub hxs16 hnb16))
      obtain ⟨i2, sp⟩ := ra_into_next_split_mid hi ga (by rw [u.ya]; exact hndv) hnb16 (by omega) (by omega)
        (by omega) (by rw [u.ya]; exact e0) e1 e2
      exact Total.bind_ok e1 (Total.bind_ok e2
        (Total.bind (rp_dispose_after_split hdp _ i2 sp (by omega)) (fun _ _ => total_pure _)))

/-! ## `memalign_fix` -/

/-- an aligned address below `2^64` has room for one more alignment unit -/
theorem rp_aligned_room {a k : Nat} (hk : k ≤ 64) (ha : a % 2 ^ k = 0) (hlt : a < 2 ^ 64) : a + 2 ^ k ≤ 2 ^ 64 := by
  obtain ⟨c, hc⟩ := Nat.dvd_of_mod_eq_zero ha
  have h64 : (2 : Nat) ^ 64 = 2 ^ k * 2 ^ (64 - k) := by rw [← Nat.pow_add]; congr 1; omega
  rw [h64] at hlt ⊢
  rw [hc] at hlt ⊢
  have hc' : c < 2 ^ (64 - k) := Nat.lt_of_mul_lt_mul_left hlt
  calc 2 ^ k * c + 2 ^ k = 2 ^ k * (c + 1) := by rw [Nat.mul_add, Nat.mul_one]
    _ ≤ 2 ^ k * 2 ^ (64 - k) := Nat.mul_le_mul_left _ hc'

/-- where the aligned chunk starts when the chunk at `p0` is not aligned: at `br`, the aligned address after `p0`, or
one alignment unit `P` further when the leader would have less than `MIN_CHUNK_SIZE` bytes; a chunk of `z` bytes has
room for the leader and `nb` more -/
theorem rp_leader_pos {p0 br P nb z : Nat} (hle : p0 ≤ br) (hlt : br < p0 + P) (hP32 : 32 ≤ P)
    (hz : nb + P + 32 ≤ z) :
    ∃ lead, (if br - p0 > 32 then br else br + P) = p0 + lead ∧ 32 ≤ lead ∧ nb + lead ≤ z ∧
      (lead = br - p0 ∨ lead = br - p0 + P) := by
  split
  · exact ⟨br - p0, by omega, by omega, by omega, Or.inl rfl⟩
  · exact ⟨br - p0 + P, by omega, by omega, by omega, Or.inr rfl⟩

/-- **`memalign_fix_Prog`** (given `dispose_chunk_Prog`) -/
theorem rp_memalign_fix_prog : dispose_chunk_Prog → memalign_fix_Prog := by
  intro hdp s hi mem k nb z h16 hu hnb hk hk2 hz
  unfold memalign_fix
  dsimp only
  rw [MEM_OFFSET_eq, MIN_CHUNK_SIZE_eq]
  refine Total.bind_ok (failIf_false (by simp only [decide_eq_false_iff_not]; omega)) ?_
  -- the leader: afterwards a user chunk of at least `nb` bytes sits at an aligned address
  refine Total.bind_post (Q := fun r => ∃ z1, SInv { s with h := r.1 } ∧ User { s with h := r.1 } r.2 z1 ∧ nb ≤ z1 ∧
    align_up (r.2 + 16) (2 ^ k) = r.2 + 16) ?_ ?_
  · have w := hi.wfs
    obtain ⟨pre, post, e, y, g, u⟩ := ra_user_parts w hu
    have hzend : mem - 16 + z ≤ 2 ^ 64 := by
      have := (w.struct.in_seg u.hg u.mem_e u.ge).2
      have := ma_segs_le w u.hg
      have := u.ea
      have := u.es
      omega
    have hov : mem + 2 ^ k ≤ 2 ^ 64 := by omega
    by_cases hc : mem &&& 2 ^ k - 1 ≠ 0
    · rw [if_pos hc]
      have hP32 : 32 ≤ 2 ^ k :=
        calc 32 = 2 ^ 5 := by decide
          _ ≤ 2 ^ k := Nat.pow_le_pow_right (by decide) hk
      have hP16 : 2 ^ k % 16 = 0 := Nat.mod_eq_zero_of_dvd (Nat.pow_dvd_pow 2 (show 4 ≤ k by omega))
      have hz' : nb + 2 ^ k + 32 ≤ z := by
        have := u.z16
        have := hnb.1
        omega
      have hA1 := align_up_ge mem k hov
      have hA2 := align_up_lt mem k hov
      have hA3 := align_up_dvd mem k hov
      have hd := mod16_sub (mod16_sub (Nat.mod_eq_zero_of_dvd (Nat.dvd_trans (Nat.dvd_of_mod_eq_zero hP16) hA3))
        (show 16 % 16 = 0 from rfl)) u.p16
      have hle : mem - 16 ≤ align_up mem (2 ^ k) - 16 := Nat.sub_le_sub_right hA1 16
      obtain ⟨lead, hpos, f3, f4, f5⟩ := rp_leader_pos (p0 := mem - 16) (br := align_up mem (2 ^ k) - 16)
        hle (by omega) hP32 hz'
      -- the leader is a multiple of 16: both `mem` and the aligned address are
      have f2 : lead % 16 = 0 := by
        rcases f5 with h | h <;> rw [h]
        · exact hd
        · exact mod16_add hd hP16
      have hnb32 := hnb.2.1
      rw [hpos, Nat.add_sub_cancel_left]
      have hmod : (mem - 16 + lead + 16) % 2 ^ k = 0 := by
        rcases f5 with h | h <;> rw [h]
        · rw [Nat.add_sub_cancel' hle, Nat.sub_add_cancel (Nat.le_trans h16 hA1)]
          exact Nat.mod_eq_zero_of_dvd hA3
        · rw [← Nat.add_assoc, Nat.add_sub_cancel' hle, Nat.add_right_comm, Nat.sub_add_cancel (Nat.le_trans h16 hA1),
            Nat.add_mod_right]
          exact Nat.mod_eq_zero_of_dvd hA3
      have hal : align_up (mem - 16 + lead + 16) (2 ^ k) = mem - 16 + lead + 16 :=
        align_up_of_aligned _ k (rp_aligned_room (by omega) hmod (by omega)) hmod
      refine bind_ok_post (getE_ok.2 (u.find w)) ?_
      rw [u.es]
      refine bind_ok_post (failIf_false (by simp only [decide_eq_false_iff_not]; omega)) ?_
      refine bind_ok_post (failIf_false (not_mmapped_of_cin u.ec)) ?_
      obtain ⟨h1, e1, _⟩ := set_inuse_total s.h (mem - 16 + lead) (mod16_mod8 (mod16_sub u.z16 f2))
      obtain ⟨h2, e2, _⟩ := set_inuse_total h1 (mem - 16) (mod16_mod8 f2)
      obtain ⟨i2, sp⟩ := ma_leader_mid hi hu f2 (by omega) (by omega) e1 e2
      obtain ⟨i2t, _, hut, _⟩ := ra_split_tagged "memalign-leader" i2 sp
      obtain ⟨h3, e3⟩ := hdp (s := { s with h := h2.tag "memalign-leader" }) i2t hut f3
      obtain ⟨r1, r2, _⟩ := ma_leader all_dispose_chunk hi hu f2 (by omega) (by omega) e1 e2 e3
      exact bind_ok_post e1 (bind_ok_post e2 (bind_ok_post e3 ⟨_, rfl, z - lead, r1,
        (r2 _ _).2 (Or.inr ⟨rfl, rfl⟩), by omega, hal⟩))
    · rw [if_neg hc]
      have hm : mem % 2 ^ k = 0 := by
        rw [← Nat.and_two_pow_sub_one_eq_mod]
        exact Decidable.not_not.1 hc
      refine ⟨_, rfl, z, ra_sinv_same hi (ra_sameHeap_tag _ _),
        (ra_user_same (H := s.h.tag "memalign-aligned") rfl _ _).2 hu, by omega, ?_⟩
      show align_up (mem - 16 + 16) (2 ^ k) = mem - 16 + 16
      rw [Nat.sub_add_cancel h16]
      exact align_up_of_aligned mem k hov hm
  rintro ⟨h1, p1⟩ ⟨z1, i1, hu1, hz1, hal⟩
  dsimp only at i1 hu1 hal ⊢
  obtain ⟨e1, he1, hc1, hs1, _⟩ := id hu1
  refine Total.bind_ok (getE_ok.2 he1) (Total.bind_ok (failIf_false (not_mmapped_of_cin hc1)) ?_)
  rw [hs1]
  refine Total.bind ?_ (fun h2 hh2 => ?_)
  · refine Total.ite (fun hgt => ?_) (fun _ => total_pure _)
    obtain ⟨_, _, _, _, _, u1⟩ := ra_user_parts i1.wfs hu1
    have hz16 := u1.z16
    obtain ⟨hnb16, hnb32, _⟩ := hnb
    obtain ⟨h1', h2', e1', e2', hd⟩ := rp_split_dispose hdp i1 (nb := nb) (rs := z1 - nb)
      (by rw [Nat.add_sub_cancel' hz1]; exact hu1) hnb16 (by omega) (by omega) (by omega)
    exact Total.bind_ok e1' (Total.bind_ok e2' (hd _))
  · obtain ⟨_, sz, hsz, rt⟩ := ma_trailer all_dispose_chunk i1 hu1 hnb hz1 hh2
    obtain ⟨e2, he2, _, hs2, _⟩ := (rt p1 sz).2 (Or.inr ⟨rfl, rfl⟩)
    refine Total.bind_ok (getE_ok.2 he2) ?_
    refine Total.bind_ok (failIf_false (by simp only [decide_eq_false_iff_not]; omega)) ?_
    exact Total.bind_ok (failIf_false (by simp [hal])) (total_pure _)

end TinyVerif.Dl
