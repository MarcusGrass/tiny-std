import TinyVerif.Model.Dlmalloc
import TinyVerif.Proofs.DlPure
/-! What the functions of `Model/Dlmalloc.lean` do, as far as it can be said without well-formedness: the
primitives as equations, the case analysis of each entry point, the bookkeeping of footprint vs. segment
list and OS calls, behaviour under refusal. -/
namespace TinyVerif.Dl

/-! ### Except plumbing -/

theorem bind_ok {α β : Type} {x : M α} {f : α → M β} {b : β} :
    (x >>= f) = .ok b ↔ ∃ a, x = .ok a ∧ f a = .ok b := by
  cases x with
  | error e => simp [bind, Except.bind]
  | ok a => simp [bind, Except.bind]

theorem pure_ok {α : Type} {a b : α} : (pure a : M α) = .ok b ↔ a = b := by
  simp [pure, Except.pure]

theorem throw_ok {α : Type} {e : String} {b : α} : (throw e : M α) = .ok b ↔ False := by
  simp [throw, throwThe, MonadExceptOf.throw]

theorem failIf_ok {c : Bool} {msg : String} {u : Unit} : failIf c msg = .ok u ↔ c = false := by
  unfold failIf; cases c <;> simp [pure, Except.pure, throw, throwThe, MonadExceptOf.throw]

/-- normalise a hypothesis `(do …) = .ok r` -/
macro "msimp" "at" h:ident : tactic =>
  `(tactic| try simp only [bind_ok, pure_ok, throw_ok, failIf_ok, false_and, and_false, exists_false] at $h:ident)

/-- drop the leading components of a nested `∃ a, x = .ok a ∧ …` until the last conjunct remains -/
macro "mlast" h:ident : tactic => `(tactic| repeat (first
  | (obtain ⟨_, $h:ident⟩ : ∃ _, _ := $h:ident)
  | (obtain ⟨_, $h:ident⟩ : _ ∧ _ := $h:ident)))

theorem getE_ok {h : Heap} {a : Nat} {e : Ent} : getE h a = .ok e ↔ findEnt h.ents a = some e := by
  unfold getE
  cases findEnt h.ents a with
  | none => simp [throw, throwThe, MonadExceptOf.throw]
  | some l' => simp [pure, Except.pure]

theorem getE_spec {h : Heap} {a : Nat} {e : Ent} (he : getE h a = .ok e) : findEnt h.ents a = some e := getE_ok.1 he

theorem getBin_ok {h : Heap} {i : Nat} {l : List Nat} : getBin h i = .ok l ↔ h.sbins[i]? = some l := by
  unfold getBin
  cases h.sbins[i]? with
  | none => simp [throw, throwThe, MonadExceptOf.throw]
  | some l' => simp [pure, Except.pure]

theorem getTree_ok {h : Heap} {i : Nat} {t : Tree} : getTree h i = .ok t ↔ h.tbins[i]? = some t := by
  unfold getTree
  cases h.tbins[i]? with
  | none => simp [throw, throwThe, MonadExceptOf.throw]
  | some l' => simp [pure, Except.pure]

theorem find?_mem {α : Type} {p : α → Bool} {l : List α} {a : α} (h : l.find? p = some a) : a ∈ l := by
  induction l with
  | nil => simp at h
  | cons x xs ih =>
    simp only [List.find?] at h
    split at h
    · injection h with h; subst h; exact List.mem_cons_self
    · exact List.mem_cons_of_mem _ (ih h)

/-- sum of the segment sizes -/
def segSum : List Seg → Nat
  | [] => 0
  | g :: gs => g.size + segSum gs

/-- bookkeeping relation: footprint and the segment sizes moved by the same amount -/
def FpRel (s s' : St) : Prop := s'.footprint + segSum s.segs = s.footprint + segSum s'.segs

theorem FpRel.refl (s : St) : FpRel s s := rfl
theorem FpRel.trans {a b c : St} (h1 : FpRel a b) (h2 : FpRel b c) : FpRel a c := by
  unfold FpRel at *; omega

theorem FpRel.of_eq {s s' : St} (h1 : s'.footprint = s.footprint) (h2 : s'.segs = s.segs) : FpRel s s' := by
  unfold FpRel; rw [h1, h2]

theorem segSum_replace (segs : List Seg) (old new : Seg) (h : old ∈ segs) :
    segSum (replaceSeg segs old new) + old.size = segSum segs + new.size := by
  induction segs with
  | nil => cases h
  | cons g gs ih =>
    simp only [replaceSeg]
    split
    · rename_i hg; subst hg; simp only [segSum]; omega
    · rename_i hg
      have : old ∈ gs := by
        cases h with
        | head => exact absurd rfl hg
        | tail _ h' => exact h'
      have := ih this
      simp only [segSum]; omega

def got : List OsEv → Nat
  | [] => 0
  | .mmap len (some _) :: es => len + got es
  | _ :: es => got es

def gave : List OsEv → Nat
  | [] => 0
  | .munmap _ len true :: es => len + gave es
  | .mremap _ old new true :: es => (old - new) + gave es
  | _ :: es => gave es

theorem got_append (a b : List OsEv) : got (a ++ b) = got a + got b := by
  induction a with
  | nil => simp [got]
  | cons e es ih =>
    cases e with
    | mmap len res => cases res <;> simp [got, ih] <;> omega
    | mremap => simp [got, ih]
    | munmap => simp [got, ih]

theorem gave_append (a b : List OsEv) : gave (a ++ b) = gave a + gave b := by
  induction a with
  | nil => simp [gave]
  | cons e es ih =>
    cases e with
    | mmap => simp [gave, ih]
    | mremap _ _ _ ok => cases ok <;> simp [gave, ih] <;> omega
    | munmap _ _ ok => cases ok <;> simp [gave, ih] <;> omega

/-- bookkeeping relation between two states of one run: the footprint moved exactly by what the
segment list gained/lost, and exactly by what the OS calls recorded in between obtained/returned -/
structure Book (s s' : St) : Prop where
  fp : s'.footprint + segSum s.segs = s.footprint + segSum s'.segs
  os : s'.footprint + gave s'.evs + got s.evs = s.footprint + got s'.evs + gave s.evs

theorem Book.refl (s : St) : Book s s := ⟨rfl, by omega⟩

theorem Book.trans {a b c : St} (h1 : Book a b) (h2 : Book b c) : Book a c := by
  obtain ⟨f1, o1⟩ := h1
  obtain ⟨f2, o2⟩ := h2
  exact ⟨by omega, by omega⟩

theorem Book.of_same {s s' : St} (h1 : s'.footprint = s.footprint) (h2 : s'.segs = s.segs)
    (h3 : s'.evs = s.evs) : Book s s' := by
  constructor
  · rw [h1, h2]
  · rw [h1, h3]; omega

/-- some mmap in the list was refused -/
def refused : List OsEv → Bool
  | [] => false
  | .mmap _ none :: _ => true
  | _ :: es => refused es

theorem refused_append (a b : List OsEv) : refused (a ++ b) = (refused a || refused b) := by
  induction a with
  | nil => simp [refused]
  | cons e es ih =>
    cases e with
    | mmap len res => cases res <;> simp [refused, ih]
    | mremap => simp [refused, ih]
    | munmap => simp [refused, ih]

/-- the allocator's own state: everything except the environment queue and the ghost fields -/
def St.core (s : St) : St := { s with osq := [], evs := [], h := { s.h with tr := [] } }

theorem core_tag (s : St) (t : String) : (s.tag t).core = s.core := rfl

/-- `Book`, and no `mmap` was made in between (so none was refused) -/
structure Quiet (s s' : St) : Prop where
  book : Book s s'
  quiet : refused s'.evs = refused s.evs

theorem Quiet.refl (s : St) : Quiet s s := ⟨Book.refl s, rfl⟩

theorem Quiet.trans {a b c : St} (h1 : Quiet a b) (h2 : Quiet b c) : Quiet a c :=
  ⟨h1.book.trans h2.book, h2.quiet.trans h1.quiet⟩

theorem Quiet.of_same {s s' : St} (h1 : s'.footprint = s.footprint) (h2 : s'.segs = s.segs)
    (h3 : s'.evs = s.evs) : Quiet s s' :=
  ⟨Book.of_same h1 h2 h3, by rw [h3]⟩

/-- the state an operation starts from: the previous state with the op's OS answers installed -/
def Hist.start (hs : Hist) (os : List OsDir) : St :=
  { hs.st with osq := os, evs := [], h := { hs.st.h with tr := [] } }

theorem popM_spec {s s' : St} {len : Nat} {res : Option Nat} (h : popM s len = .ok (res, s')) :
    ∃ q, s.osq = .m res :: q ∧ s' = { s with osq := q, evs := s.evs ++ [.mmap len res] } := by
  unfold popM at h
  split at h
  · rename_i r q hq
    obtain ⟨rfl, rfl⟩ := Prod.mk.inj (pure_ok.1 h)
    exact ⟨q, hq, rfl⟩
  · msimp at h

theorem popR_spec {s s' : St} {a o n : Nat} {ok : Bool} (h : popR s a o n = .ok (ok, s')) :
    ∃ q, s.osq = .r ok :: q ∧ s' = { s with osq := q, evs := s.evs ++ [.mremap a o n ok] } := by
  unfold popR at h
  split at h
  · rename_i r q hq
    obtain ⟨rfl, rfl⟩ := Prod.mk.inj (pure_ok.1 h)
    exact ⟨q, hq, rfl⟩
  · msimp at h

theorem popU_spec {s s' : St} {a l : Nat} {ok : Bool} (h : popU s a l = .ok (ok, s')) :
    ∃ q, s.osq = .u ok :: q ∧ s' = { s with osq := q, evs := s.evs ++ [.munmap a l ok] } := by
  unfold popU at h
  split at h
  · rename_i r q hq
    obtain ⟨rfl, rfl⟩ := Prod.mk.inj (pure_ok.1 h)
    exact ⟨q, hq, rfl⟩
  · msimp at h

theorem tag_fields (s : St) (t : String) :
    (s.tag t).footprint = s.footprint ∧ (s.tag t).segs = s.segs ∧ (s.tag t).evs = s.evs ∧ (s.tag t).osq = s.osq :=
  ⟨rfl, rfl, rfl, rfl⟩

theorem writeHead_keeps {h h' : Heap} {a size : Nat} {c p : Bool} (hh : writeHead h a size c p = .ok h') :
    h'.top = h.top ∧ h'.topsize = h.topsize ∧ h'.dv = h.dv ∧ h'.dvsize = h.dvsize ∧ h'.sbins = h.sbins ∧ h'.tbins = h.tbins := by
  unfold writeHead at hh
  split at hh
  · msimp at hh
  · msimp at hh
    subst hh
    exact ⟨rfl, rfl, rfl, rfl, rfl, rfl⟩

/-- the fields of the heap that header / bin writes never touch -/
def SameTop (h h' : Heap) : Prop := h'.top = h.top ∧ h'.topsize = h.topsize

theorem SameTop.refl (h : Heap) : SameTop h h := ⟨rfl, rfl⟩
theorem SameTop.trans {a b c : Heap} (h1 : SameTop a b) (h2 : SameTop b c) : SameTop a c :=
  ⟨h2.1.trans h1.1, h2.2.trans h1.2⟩

theorem writeHead_sameTop {h h' : Heap} {a size : Nat} {c p : Bool} (hh : writeHead h a size c p = .ok h') : SameTop h h' :=
  ⟨(writeHead_keeps hh).1, (writeHead_keeps hh).2.1⟩

theorem setFoot_sameTop {h h' : Heap} {a v : Nat} (hh : setFoot h a v = .ok h') : SameTop h h' := by
  unfold setFoot at hh
  split at hh
  · msimp at hh; subst hh; exact ⟨rfl, rfl⟩
  · msimp at hh

theorem clearPin_sameTop {h h' : Heap} {a : Nat} (hh : clearPin h a = .ok h') : SameTop h h' := by
  unfold clearPin at hh
  split at hh
  · msimp at hh; subst hh; exact ⟨rfl, rfl⟩
  · msimp at hh

theorem set_free_sameTop {h h' : Heap} {p size n : Nat} (hh : set_free_with_pinuse h p size n = .ok h') : SameTop h h' := by
  unfold set_free_with_pinuse set_size_and_pinuse_of_free_chunk at hh
  msimp at hh
  obtain ⟨h1, e1, h2, e2, e3⟩ := hh
  exact (clearPin_sameTop e1).trans ((writeHead_sameTop e2).trans (setFoot_sameTop e3))

theorem insert_chunk_sameTop {h h' : Heap} {c size : Nat} (hh : insert_chunk h c size = .ok h') : SameTop h h' := by
  unfold insert_chunk at hh
  split at hh
  · unfold insert_small_chunk at hh
    dsimp only at hh
    msimp at hh
    mlast hh
    subst hh; exact ⟨rfl, rfl⟩
  · unfold insert_large_chunk at hh
    dsimp only at hh
    msimp at hh
    mlast hh
    subst hh; exact ⟨rfl, rfl⟩

theorem fences_sameTop : ∀ (fuel : Nat) {h h' : Heap} {p oe n n' : Nat}, fences fuel h p oe n = .ok (h', n') → SameTop h h' := by
  intro fuel
  induction fuel with
  | zero => intro h h' p oe n n' hh; unfold fences at hh; msimp at hh
  | succ k ih =>
    intro h h' p oe n n' hh
    unfold fences at hh
    dsimp only at hh
    msimp at hh
    obtain ⟨h1, e1, hh⟩ := hh
    split at hh
    · exact (writeHead_sameTop e1).trans (ih hh)
    · msimp at hh
      simp only [Prod.mk.injEq] at hh
      obtain ⟨e2, _⟩ := hh; subst e2
      exact writeHead_sameTop e1

theorem add_segment_oldtop_sameTop {h h' : Heap} {csp ot : Nat} (hh : add_segment_oldtop h csp ot = .ok h') : SameTop h h' := by
  unfold add_segment_oldtop at hh
  dsimp only at hh
  split at hh
  · msimp at hh
    obtain ⟨h4, e4, e5⟩ := hh
    have ht : SameTop h4 (h4.tag "addseg-oldtop-binned") := ⟨rfl, rfl⟩
    exact (set_free_sameTop e4).trans (SameTop.trans ht (insert_chunk_sameTop e5))
  · msimp at hh; subst hh; exact ⟨rfl, rfl⟩

theorem init_top_spec {s s' : St} {ptr size : Nat} (h : init_top s ptr size = .ok s') :
    ∃ h', s' = { s with h := h', trim_check := DEFAULT_TRIM_THRESHOLD } ∧
      h'.top = ptr + align_offset_usize (ptr + MEM_OFFSET) ∧
      h'.topsize = size - align_offset_usize (ptr + MEM_OFFSET) := by
  unfold init_top at h
  dsimp only at h
  msimp at h
  obtain ⟨_, _, h1, hw1, h2, hw2, h⟩ := h
  have t := (writeHead_sameTop hw1).trans (writeHead_sameTop hw2)
  exact ⟨h2, h.symm, t.1, t.2⟩

/-- `prepend_alloc` only works on the heap part -/
theorem prepend_alloc_spec {s s' : St} {nb ob size mem : Nat}
    (h : prepend_alloc s nb ob size = .ok (s', mem)) : ∃ h', s' = { s with h := h' } := by
  unfold prepend_alloc at h
  dsimp only at h
  msimp at h
  mlast h
  simp only [Prod.mk.injEq] at h
  exact ⟨_, h.1.symm⟩

theorem prepend_alloc_mem {s s' : St} {nb ob size mem : Nat} (h : prepend_alloc s nb ob size = .ok (s', mem)) :
    mem = align_as_chunk nb + MEM_OFFSET := by
  unfold prepend_alloc at h
  dsimp only at h
  msimp at h
  mlast h
  simp only [Prod.mk.injEq] at h
  exact h.2.symm

theorem add_segment_spec {s s' : St} {tbase tsize : Nat} (h : add_segment s tbase tsize = .ok s') :
    s'.footprint = s.footprint ∧ s'.evs = s.evs ∧ s'.osq = s.osq ∧ segSum s'.segs = segSum s.segs + tsize ∧
      s'.h.top = align_as_chunk tbase ∧ s'.h.topsize ≤ tsize := by
  unfold add_segment at h
  dsimp only at h
  split at h
  · msimp at h
  · msimp at h
    obtain ⟨_, _, _, _, s1, hs1, _, _, h1, e1, ⟨h2, nf⟩, e2, _, _, h3, e3, h⟩ := h
    obtain ⟨h0, rfl, i1, i2⟩ := init_top_spec hs1
    have t := ((writeHead_sameTop (show writeHead h0 _ _ true true = .ok h1 from e1)).trans
      (fences_sameTop _ e2)).trans (add_segment_oldtop_sameTop e3)
    subst h
    refine ⟨rfl, rfl, rfl, ?_, t.1.trans i1, ?_⟩
    · cases s.segs with
      | nil => simp [segSum]
      | cons g gs => simp [segSum]; omega
    · show h3.topsize ≤ _; rw [t.2, i2]; omega

/-- every branch of `sys_alloc_place` adds exactly the new mapping to the segment list -/
theorem sys_alloc_place_spec {s : St} {tbase tsize nb : Nat} {r : Sum St (St × Nat)}
    (h : sys_alloc_place s tbase tsize nb = .ok r) :
    ∃ s', s'.footprint = s.footprint ∧ s'.evs = s.evs ∧ s'.osq = s.osq ∧ segSum s'.segs = segSum s.segs + tsize ∧
      ((r = .inl s' ∧
          ((s'.h.top = align_as_chunk tbase ∧ s'.h.topsize ≤ tsize) ∨
           ((∃ sp ∈ s.segs, sp.top = tbase ∧ sp.holds s.h.top = true) ∧ s'.h.top = align_as_chunk s.h.top ∧
             s'.h.topsize ≤ s.h.topsize + tsize))) ∨
       r = .inr (s', align_as_chunk tbase + MEM_OFFSET)) := by
  unfold sys_alloc_place at h
  dsimp only at h
  split at h
  · msimp at h
    obtain ⟨_, he, _, _, s1, hs1, h⟩ := h
    obtain ⟨h1, rfl, i1, i2⟩ := init_top_spec hs1
    subst h
    refine ⟨_, ?_, ?_, ?_, ?_, Or.inl ⟨rfl, Or.inl ⟨i1, ?_⟩⟩⟩ <;> try rfl
    · have : s.segs = [] := by
        cases hs : s.segs with
        | nil => rfl
        | cons g gs => rw [hs] at he; simp at he
      simp only [tag_fields, segSum, this]; omega
    · show h1.topsize ≤ _; rw [i2]; omega
  · split at h
    · rename_i sp hext
      msimp at h
      obtain ⟨s1, hs1, h⟩ := h
      obtain ⟨h1, rfl, i1, i2⟩ := init_top_spec hs1
      subst h
      have hsp : sp ∈ s.segs ∧ sp.top = tbase ∧ sp.holds s.h.top = true := by
        split at hext
        · rename_i sp' hf
          split at hext
          · rename_i hh
            injection hext with hext; subst hext
            exact ⟨find?_mem hf, by simpa using List.find?_some hf, hh⟩
          · cases hext
        · cases hext
      refine ⟨_, ?_, ?_, ?_, ?_, Or.inl ⟨rfl, Or.inr ⟨⟨sp, hsp⟩, i1, ?_⟩⟩⟩ <;> try rfl
      · have := segSum_replace s.segs sp { sp with size := sp.size + tsize } hsp.1
        simp only [tag_fields] at this ⊢
        omega
      · show h1.topsize ≤ _; rw [i2]; exact Nat.sub_le _ _
    · split at h
      · rename_i sq hf
        msimp at h
        obtain ⟨⟨s1, m⟩, hp, h⟩ := h
        obtain ⟨h', hh⟩ := prepend_alloc_spec hp
        have hm := prepend_alloc_mem hp
        subst h; subst hh; subst hm
        refine ⟨_, ?_, ?_, ?_, ?_, Or.inr rfl⟩ <;> try rfl
        have := segSum_replace s.segs sq { sq with base := tbase, size := sq.size + tsize } (find?_mem hf)
        simp only at this
        show segSum (replaceSeg s.segs sq _) = _
        omega
      · msimp at h
        obtain ⟨s1, ha, h⟩ := h
        obtain ⟨a1, a2, a3, a4, a5⟩ := add_segment_spec ha
        subst h
        exact ⟨s1.tag "sys-addseg", a1, a2, a3, a4, Or.inl ⟨rfl, Or.inl a5⟩⟩


theorem sys_alloc_spec {s s' : St} {nb mem asize : Nat}
    (ha : align_up (nb + top_foot_size + MALLOC_ALIGNMENT) DEFAULT_GRANULARITY = asize)
    (h : sys_alloc s nb = .ok (s', mem)) :
    ∃ res q, s.osq = .m res :: q ∧ s'.osq = q ∧ s'.evs = s.evs ++ [.mmap asize res] ∧
      (res = none → mem = 0 ∧ s' = { s with osq := q, evs := s.evs ++ [.mmap asize none] }) ∧
      ∀ tbase, res = some tbase →
        s'.footprint = s.footprint + asize ∧ segSum s'.segs = segSum s.segs + asize ∧
        (mem ≠ 0 → mem = align_as_chunk tbase + MEM_OFFSET ∨
          ((∃ sp ∈ s.segs, sp.top = tbase ∧ sp.holds s.h.top = true) ∧ mem = align_as_chunk s.h.top + MEM_OFFSET ∧
            nb < s.h.topsize + asize)) := by
  unfold sys_alloc at h
  dsimp only at h
  rw [ha] at h
  msimp at h
  obtain ⟨⟨res, s1⟩, hp, h⟩ := h
  obtain ⟨q, hq, rfl⟩ := popM_spec hp
  refine ⟨res, q, hq, ?_⟩
  dsimp only at h
  split at h
  · msimp at h
    simp only [Prod.mk.injEq] at h
    obtain ⟨rfl, rfl⟩ := h
    exact ⟨rfl, rfl, fun _ => ⟨rfl, rfl⟩, fun _ h => nomatch h⟩
  · rename_i tbase
    msimp at h
    obtain ⟨r, hr, h⟩ := h
    obtain ⟨s2, hf, he, ho, hsum, hcase⟩ := sys_alloc_place_spec hr
    have hfin : ∀ {h'}, s' = { s2 with h := h' } → s'.osq = q ∧ s'.evs = s.evs ++ [.mmap asize (some tbase)] ∧
        s'.footprint = s.footprint + asize ∧ segSum s'.segs = segSum s.segs + asize := by
      rintro h' rfl; exact ⟨ho, he, hf, hsum⟩
    rcases hcase with ⟨rfl, hcase⟩ | rfl
    · dsimp only at h
      split at h
      · rename_i hlt
        msimp at h
        mlast h
        simp only [Prod.mk.injEq] at h
        obtain ⟨h1, rfl⟩ := h
        obtain ⟨f1, f2, f3, f4⟩ := hfin h1.symm
        refine ⟨f1, f2, (fun h => by cases h), ?_⟩
        rintro _ ⟨⟩
        refine ⟨f3, f4, fun _ => ?_⟩
        rcases hcase with ⟨ht, _⟩ | ⟨hsp, ht, hts⟩
        · exact Or.inl (by rw [ht])
        · exact Or.inr ⟨hsp, by rw [ht], Nat.lt_of_lt_of_le hlt hts⟩
      · msimp at h
        simp only [Prod.mk.injEq] at h
        obtain ⟨h1, rfl⟩ := h
        obtain ⟨f1, f2, f3, f4⟩ := hfin (h' := (s2.tag "sys-alloc-too-small").h) h1.symm
        refine ⟨f1, f2, (fun h => by cases h), ?_⟩
        rintro _ ⟨⟩
        exact ⟨f3, f4, fun h => absurd rfl h⟩
    · dsimp only at h
      msimp at h
      simp only [Prod.mk.injEq] at h
      obtain ⟨h1, rfl⟩ := h
      obtain ⟨f1, f2, f3, f4⟩ := hfin (h' := s2.h) h1.symm
      refine ⟨f1, f2, (fun h => by cases h), ?_⟩
      rintro _ ⟨⟩
      exact ⟨f3, f4, fun _ => Or.inl rfl⟩


theorem inner_malloc_cases {s s' : St} {size mem : Nat} (h : inner_malloc s size = .ok (s', mem)) :
    (∃ h', malloc_nosys s.h size = .ok (.done h' mem) ∧ s' = { s with h := h' }) ∨
    (malloc_nosys s.h size = .ok .tooBig ∧ s' = s ∧ mem = 0) ∨
    (∃ nb, malloc_nosys s.h size = .ok (.needSys nb) ∧ sys_alloc s nb = .ok (s', mem)) := by
  unfold inner_malloc at h
  msimp at h
  obtain ⟨r, hr, h⟩ := h
  split at h
  · msimp at h
    simp only [Prod.mk.injEq] at h
    exact Or.inl ⟨_, h.2 ▸ hr, h.1.symm⟩
  · msimp at h
    simp only [Prod.mk.injEq] at h
    exact Or.inr (Or.inl ⟨hr, h.1.symm, h.2.symm⟩)
  · exact Or.inr (Or.inr ⟨_, hr, h⟩)

theorem memalign_body_cases {s s' : St} {al bytes mem : Nat} (h : memalign_body s al bytes = .ok (s', mem)) :
    (s' = s ∧ mem = 0) ∨
    ∃ s1 m1, inner_malloc (s.tag "memalign") (request2size bytes + al + MIN_CHUNK_SIZE - CHUNK_OVERHEAD) = .ok (s1, m1) ∧
      ((m1 = 0 ∧ s' = s1 ∧ mem = 0) ∨
       (m1 ≠ 0 ∧ ∃ h2, memalign_fix s1.h m1 al (request2size bytes) = .ok (h2, mem) ∧ s' = { s1 with h := h2 })) := by
  unfold memalign_body at h
  dsimp only at h
  msimp at h
  obtain ⟨_, _, h⟩ := h
  split at h
  · msimp at h
    simp only [Prod.mk.injEq] at h
    exact Or.inl ⟨h.1.symm, h.2.symm⟩
  · msimp at h
    obtain ⟨⟨s1, m1⟩, hm, h⟩ := h
    refine Or.inr ⟨s1, m1, hm, ?_⟩
    dsimp only at h
    split at h
    · rename_i hz
      msimp at h
      simp only [Prod.mk.injEq] at h
      exact Or.inl ⟨hz, h.1.symm, h.2.symm⟩
    · rename_i hz
      msimp at h
      obtain ⟨⟨h2, m2⟩, hf, h⟩ := h
      simp only [Prod.mk.injEq] at h
      exact Or.inr ⟨hz, h2, h.2 ▸ hf, h.1.symm⟩

theorem calloc_cases {s s' : St} {size al mem : Nat} {z : Bool} (h : calloc s size al = .ok (s', mem, z)) :
    ∃ p, malloc s size al = .ok (s', p) ∧
      ((p = 0 ∧ mem = 0 ∧ z = false) ∨
       (p ≠ 0 ∧ mem = p ∧ ∃ e, findEnt s'.h.ents (p - MEM_OFFSET) = some e ∧ z = !e.mmapped)) := by
  unfold calloc at h
  msimp at h
  obtain ⟨⟨s1, p⟩, hm, h⟩ := h
  dsimp only at h
  split at h
  · rename_i hp
    msimp at h
    obtain ⟨_, _, e, he, h⟩ := h
    simp only [Prod.mk.injEq] at h
    obtain ⟨rfl, rfl, rfl⟩ := h
    exact ⟨_, hm, Or.inr ⟨hp, rfl, e, getE_ok.1 he, rfl⟩⟩
  · rename_i hp
    msimp at h
    simp only [Prod.mk.injEq] at h
    obtain ⟨rfl, rfl, rfl⟩ := h
    exact ⟨p, hm, Or.inl ⟨Decidable.not_not.1 hp, rfl, rfl⟩⟩

theorem free_cases {s s' : St} {mem : Nat} (h : free s mem = .ok s') :
    ∃ h1 t, free_heap s.h mem = .ok (h1, t) ∧
      (s' = { s with h := h1 } ∨ (∃ b, sys_trim { s with h := h1 } 0 = .ok (s', b)) ∨
       s' = { s with h := h1, release_checks := s.release_checks - 1 } ∨
       ∃ r, release_unused_segments (({ s with h := h1, release_checks := s.release_checks - 1 } : St).tag "release-check")
         = .ok (s', r)) := by
  unfold free at h
  msimp at h
  obtain ⟨⟨h1, t⟩, hf, h⟩ := h
  refine ⟨h1, t, hf, ?_⟩
  dsimp only at h
  split at h
  · msimp at h; exact Or.inl h.symm
  · split at h
    · msimp at h
      obtain ⟨⟨s1, b⟩, ht, h⟩ := h
      exact Or.inr (Or.inl ⟨b, h ▸ ht⟩)
    · msimp at h; exact Or.inl h.symm
  · msimp at h
    obtain ⟨_, _, h⟩ := h
    split at h
    · msimp at h
      obtain ⟨⟨s1, r⟩, ht, h⟩ := h
      exact Or.inr (Or.inr (Or.inr ⟨r, h ▸ ht⟩))
    · msimp at h; exact Or.inr (Or.inr (Or.inl h.symm))

theorem inner_realloc_cases {s s' : St} {oldmem bytes mem : Nat} {c : Option Copy}
    (h : inner_realloc s oldmem bytes = .ok (s', mem, c)) :
    (s' = s ∧ mem = 0 ∧ c = none) ∨
    (∃ h', try_realloc_chunk s.h (oldmem - MEM_OFFSET) (request2size bytes) = .ok (some h') ∧
      s' = { s with h := h' } ∧ mem = oldmem ∧ c = none) ∨
    ∃ s1 p, inner_malloc (s.tag "realloc-move") bytes = .ok (s1, p) ∧
      ((p = 0 ∧ s' = s1 ∧ mem = 0 ∧ c = none) ∨
       (p ≠ 0 ∧ mem = p ∧ free s1 oldmem = .ok s' ∧ ∃ e, findEnt s1.h.ents (oldmem - MEM_OFFSET) = some e ∧
         c = some { src := oldmem, dst := p, len := min (e.size - CHUNK_OVERHEAD) bytes })) := by
  unfold inner_realloc at h
  split at h
  · msimp at h
    simp only [Prod.mk.injEq] at h
    exact Or.inl ⟨h.1.symm, h.2.1.symm, h.2.2.symm⟩
  · dsimp only at h
    msimp at h
    obtain ⟨_, _, r, hr, h⟩ := h
    split at h
    · msimp at h
      simp only [Prod.mk.injEq] at h
      exact Or.inr (Or.inl ⟨_, hr, h.1.symm, h.2.1.symm, h.2.2.symm⟩)
    · msimp at h
      obtain ⟨⟨s1, p⟩, hm, h⟩ := h
      refine Or.inr (Or.inr ⟨s1, p, hm, ?_⟩)
      dsimp only at h
      split at h
      · rename_i hp
        msimp at h
        obtain ⟨e, he, _, _, _, _, s2, hf, h⟩ := h
        simp only [Prod.mk.injEq] at h
        obtain ⟨rfl, rfl, rfl⟩ := h
        exact Or.inr ⟨hp, rfl, hf, e, getE_ok.1 he, rfl⟩
      · rename_i hp
        msimp at h
        simp only [Prod.mk.injEq] at h
        exact Or.inl ⟨Decidable.not_not.1 hp, h.1.symm, h.2.1.symm, h.2.2.symm⟩

theorem realloc_cases {s s' : St} {ptr os oa ns mem : Nat} {c : Option Copy}
    (h : realloc s ptr os oa ns = .ok (s', mem, c)) :
    (oa ≤ MALLOC_ALIGNMENT ∧ inner_realloc s ptr ns = .ok (s', mem, c)) ∨
    (MALLOC_ALIGNMENT < oa ∧ ∃ s1 p, malloc (s.tag "realloc-overaligned") ns oa = .ok (s1, p) ∧
      ((p = 0 ∧ s' = s1 ∧ mem = 0 ∧ c = none) ∨
       (p ≠ 0 ∧ mem = p ∧ free s1 ptr = .ok s' ∧ c = some { src := ptr, dst := p, len := min os ns }))) := by
  unfold realloc at h
  split at h
  · rename_i hal; exact Or.inl ⟨hal, h⟩
  · rename_i hal
    msimp at h
    obtain ⟨⟨s1, p⟩, hm, h⟩ := h
    refine Or.inr ⟨Nat.lt_of_not_le hal, s1, p, hm, ?_⟩
    dsimp only at h
    split at h
    · rename_i hp
      msimp at h
      obtain ⟨s2, hf, h⟩ := h
      simp only [Prod.mk.injEq] at h
      obtain ⟨rfl, rfl, rfl⟩ := h
      exact Or.inr ⟨hp, rfl, hf, rfl⟩
    · rename_i hp
      msimp at h
      simp only [Prod.mk.injEq] at h
      exact Or.inl ⟨Decidable.not_not.1 hp, h.1.symm, h.2.1.symm, h.2.2.symm⟩


theorem step_malloc_cases {hs hs' : Hist} {id size align : Nat} {os : List OsDir} {out : Out}
    (h : hs.step (.malloc id size align) os = .ok (hs', out)) :
    findBlock hs.live id = none ∧ ∃ s p, malloc (hs.start os) size align = .ok (s, p) ∧
      hs' = { st := s, live := if p ≠ 0 then { id := id, ptr := p, size := size, align := align } :: hs.live else hs.live } ∧
      out = { ptr := p, zeroed := false, copy := none } := by
  unfold Hist.step at h
  dsimp only at h
  msimp at h
  obtain ⟨_, hid, ⟨s, p⟩, hm, _, _, h⟩ := h
  simp only [Prod.mk.injEq] at h
  refine ⟨?_, s, p, hm, h.1.symm, h.2.symm⟩
  cases hf : findBlock hs.live id with
  | none => rfl
  | some b => rw [hf] at hid; cases hid

theorem step_calloc_cases {hs hs' : Hist} {id size align : Nat} {os : List OsDir} {out : Out}
    (h : hs.step (.calloc id size align) os = .ok (hs', out)) :
    findBlock hs.live id = none ∧ ∃ s p z, calloc (hs.start os) size align = .ok (s, p, z) ∧
      hs' = { st := s, live := if p ≠ 0 then { id := id, ptr := p, size := size, align := align } :: hs.live else hs.live } ∧
      out = { ptr := p, zeroed := z, copy := none } := by
  unfold Hist.step at h
  dsimp only at h
  msimp at h
  obtain ⟨_, hid, ⟨s, p, z⟩, hm, _, _, h⟩ := h
  simp only [Prod.mk.injEq] at h
  refine ⟨?_, s, p, z, hm, h.1.symm, h.2.symm⟩
  cases hf : findBlock hs.live id with
  | none => rfl
  | some b => rw [hf] at hid; cases hid

theorem step_realloc_cases {hs hs' : Hist} {id newsize : Nat} {os : List OsDir} {out : Out}
    (h : hs.step (.realloc id newsize) os = .ok (hs', out)) :
    ∃ b, findBlock hs.live id = some b ∧ ∃ s p c, realloc (hs.start os) b.ptr b.size b.align newsize = .ok (s, p, c) ∧
      hs' = { st := s, live := if p ≠ 0 then { b with ptr := p, size := newsize } :: hs.live.filter (fun x => x.id ≠ id)
        else hs.live } ∧
      out = { ptr := p, zeroed := false, copy := c } := by
  unfold Hist.step at h
  dsimp only at h
  split at h
  · msimp at h
  · rename_i b hb
    msimp at h
    obtain ⟨⟨s, p, c⟩, hm, _, _, h⟩ := h
    simp only [Prod.mk.injEq] at h
    exact ⟨b, hb, s, p, c, hm, h.1.symm, h.2.symm⟩

theorem step_free_cases {hs hs' : Hist} {id : Nat} {os : List OsDir} {out : Out}
    (h : hs.step (.free id) os = .ok (hs', out)) :
    ∃ b, findBlock hs.live id = some b ∧ ∃ s, free (hs.start os) b.ptr = .ok s ∧
      hs' = { st := s, live := hs.live.filter (fun x => x.id ≠ id) } ∧ out = { ptr := 1, zeroed := false, copy := none } := by
  unfold Hist.step at h
  dsimp only at h
  split at h
  · msimp at h
  · rename_i b hb
    msimp at h
    obtain ⟨s, hm, _, _, h⟩ := h
    simp only [Prod.mk.injEq] at h
    exact ⟨b, hb, s, hm, h.1.symm, h.2.symm⟩


theorem releaseLoop_spec (rest : List Seg) : ∀ {s s' : St} {rel n rel' n' : Nat} {rest' : List Seg},
    releaseLoop rest s rel n = .ok (rest', s', rel', n') →
    s'.segs = s.segs ∧ s'.footprint + segSum rest = s.footprint + segSum rest' ∧
    s'.footprint + gave s'.evs + got s.evs = s.footprint + got s'.evs + gave s.evs ∧
    refused s'.evs = refused s.evs := by
  induction rest with
  | nil =>
    intro s s' rel n rel' n' rest' h
    unfold releaseLoop at h
    msimp at h
    simp only [Prod.mk.injEq] at h
    obtain ⟨rfl, rfl, _, _⟩ := h
    exact ⟨rfl, rfl, by omega, rfl⟩
  | cons g rest ih =>
    intro s s' rel n rel' n' rest' h
    unfold releaseLoop at h
    dsimp only at h
    msimp at h
    obtain ⟨e, he, _, _, h⟩ := h
    generalize (!e.inuse && _) = c at h
    cases c
    · rw [if_neg Bool.false_ne_true] at h
      msimp at h
      obtain ⟨⟨r1, s2, rl, nn⟩, hrec, h⟩ := h
      obtain ⟨t1, t2, t3, t4⟩ := ih hrec
      simp only [Prod.mk.injEq] at h
      obtain ⟨rfl, rfl, _, _⟩ := h
      exact ⟨t1, by simp only [segSum]; omega, t3, t4⟩
    · rw [if_pos rfl] at h
      msimp at h
      obtain ⟨_, _, h1, hh1, ⟨ok, s1⟩, hu, h⟩ := h
      obtain ⟨q, hq, rfl⟩ := popU_spec hu
      dsimp only at h
      cases ok
      · rw [if_neg Bool.false_ne_true] at h
        msimp at h
        obtain ⟨h2, _, ⟨r1, s2, rl, nn⟩, hrec, h⟩ := h
        obtain ⟨t1, t2, t3, t4⟩ := ih hrec
        simp only [Prod.mk.injEq] at h
        obtain ⟨rfl, rfl, _, _⟩ := h
        simp only [got_append, gave_append, got, gave, refused_append, refused, Bool.or_false, segSum] at t2 t3 t4 ⊢
        exact ⟨t1, by omega, by omega, t4⟩
      · rw [if_pos rfl] at h
        msimp at h
        obtain ⟨_, hlt, ⟨r1, s2, rl, nn⟩, hrec, h⟩ := h
        obtain ⟨t1, t2, t3, t4⟩ := ih hrec
        simp only [Prod.mk.injEq] at h
        obtain ⟨rfl, rfl, _, _⟩ := h
        simp only [decide_eq_false_iff_not, Nat.not_lt] at hlt
        simp only [got_append, gave_append, got, gave, refused_append, refused, Bool.or_false, segSum] at t2 t3 t4 hlt ⊢
        exact ⟨t1, by omega, by omega, t4⟩

theorem release_unused_segments_quiet {s s' : St} {r : Nat} (h : release_unused_segments s = .ok (s', r)) :
    Quiet s s' := by
  unfold release_unused_segments at h
  split at h
  · msimp at h
    simp only [Prod.mk.injEq] at h
    obtain ⟨rfl, _⟩ := h
    exact Quiet.of_same rfl rfl rfl
  · rename_i hd rest hsegs
    msimp at h
    obtain ⟨⟨r1, s2, rl, nn⟩, hrec, h⟩ := h
    obtain ⟨t1, t2, t3, t4⟩ := releaseLoop_spec rest hrec
    simp only [Prod.mk.injEq] at h
    obtain ⟨rfl, _⟩ := h
    exact ⟨⟨by simp only [hsegs, segSum]; omega, t3⟩, t4⟩

/-- what `trim_release` did: nothing but OS calls, none of them an `mmap`; the bytes it reports released are
exactly what those calls returned to the OS -/
theorem trim_release_facts {s s' : St} {sp : Seg} {extra rel : Nat} (h : trim_release s sp extra = .ok (s', rel)) :
    refused s'.evs = refused s.evs ∧ s'.h = s.h ∧ s'.segs = s.segs ∧ s'.footprint = s.footprint ∧
    gave s'.evs = gave s.evs + rel ∧ got s'.evs = got s.evs ∧ (rel ≠ 0 → rel ≤ sp.size) := by
  unfold trim_release at h
  dsimp only at h
  split at h
  · rename_i hc
    simp only [Bool.and_eq_true, decide_eq_true_eq] at hc
    msimp at h
    obtain ⟨⟨ok, s1⟩, hr, h⟩ := h
    obtain ⟨q, hq, rfl⟩ := popR_spec hr
    dsimp only at h
    split at h
    · rename_i hok
      msimp at h
      simp only [Prod.mk.injEq] at h
      obtain ⟨rfl, rfl⟩ := h
      subst hok
      refine ⟨?_, rfl, rfl, rfl, ?_, ?_, fun _ => hc.1⟩
      · simp [refused_append, refused]
      · simp only [gave_append, gave]; omega
      · simp only [got_append, got]; omega
    · rename_i hok
      simp only [Bool.not_eq_true] at hok
      msimp at h
      obtain ⟨⟨ok2, s2⟩, hu, h⟩ := h
      obtain ⟨q2, hq2, rfl⟩ := popU_spec hu
      simp only [Prod.mk.injEq] at h
      obtain ⟨rfl, rfl⟩ := h
      subst hok
      refine ⟨by simp [refused_append, refused], rfl, rfl, rfl, ?_⟩
      cases ok2
      · exact ⟨by simp [gave_append, gave], by simp [got_append, got], fun hh => absurd rfl hh⟩
      · exact ⟨by simp only [gave_append, gave, if_true]; omega, by simp [got_append, got], fun _ => hc.1⟩
  · msimp at h
    simp only [Prod.mk.injEq] at h
    obtain ⟨rfl, rfl⟩ := h
    exact ⟨rfl, rfl, rfl, rfl, by omega, rfl, fun hh => absurd rfl hh⟩

theorem trim_release_spec {s s' : St} {sp : Seg} {extra rel : Nat} (h : trim_release s sp extra = .ok (s', rel)) :
    s'.h = s.h ∧ s'.segs = s.segs ∧ s'.footprint = s.footprint ∧
    gave s'.evs = gave s.evs + rel ∧ got s'.evs = got s.evs ∧ (rel ≠ 0 → rel ≤ sp.size) :=
  (trim_release_facts h).2

theorem trim_top_quiet {s s' : St} {pad rel : Nat} (h : trim_top s pad = .ok (s', rel)) : Quiet s s' := by
  unfold trim_top at h
  dsimp only at h
  split at h
  · split at h
    · msimp at h
    · rename_i sp hsp
      msimp at h
      obtain ⟨⟨s1, r1⟩, ht, h⟩ := h
      obtain ⟨t0, t1, t2, t3, t4, t5, t6⟩ := trim_release_facts ht
      dsimp only at h
      split at h
      · rename_i hne
        msimp at h
        obtain ⟨_, hlt, s2, hi, h⟩ := h
        obtain ⟨h2, rfl, _, _⟩ := init_top_spec hi
        simp only [Prod.mk.injEq] at h
        obtain ⟨rfl, _⟩ := h
        simp only [decide_eq_false_iff_not, Nat.not_lt] at hlt
        have := segSum_replace s1.segs sp { sp with size := sp.size - r1 } (t2 ▸ find?_mem hsp)
        have hle := t6 hne
        simp only at this
        refine ⟨⟨?_, ?_⟩, t0⟩
        · simp only [tag_fields]; rw [t2] at this ⊢; omega
        · simp only [tag_fields]; omega
      · rename_i hz
        msimp at h
        simp only [Prod.mk.injEq] at h
        obtain ⟨rfl, rfl⟩ := h
        simp only [ne_eq, Decidable.not_not] at hz
        refine ⟨⟨?_, ?_⟩, t0⟩
        · simp only [tag_fields, t2, t3]
        · simp only [tag_fields, t3]; omega
  · msimp at h
    simp only [Prod.mk.injEq] at h
    obtain ⟨rfl, _⟩ := h
    exact Quiet.refl _

theorem trim_top_book {s s' : St} {pad rel : Nat} (h : trim_top s pad = .ok (s', rel)) : Book s s' :=
  (trim_top_quiet h).book

theorem sys_trim_quiet {s s' : St} {pad : Nat} {b : Bool} (h : sys_trim s pad = .ok (s', b)) : Quiet s s' := by
  unfold sys_trim at h
  dsimp only at h
  split at h
  · msimp at h
    obtain ⟨⟨s1, rel⟩, h1, ⟨s2, r2⟩, h2, h⟩ := h
    simp only [Prod.mk.injEq] at h
    obtain ⟨rfl, _⟩ := h
    refine ((trim_top_quiet h1).trans (release_unused_segments_quiet h2)).trans ?_
    split
    · exact Quiet.of_same rfl rfl rfl
    · exact Quiet.refl _
  · msimp at h
    simp only [Prod.mk.injEq] at h
    obtain ⟨rfl, _⟩ := h
    exact Quiet.refl _

theorem free_quiet {s s' : St} {mem : Nat} (h : free s mem = .ok s') : Quiet s s' := by
  obtain ⟨h1, t, _, hc⟩ := free_cases h
  rcases hc with rfl | ⟨b, ht⟩ | rfl | ⟨r, ht⟩
  · exact Quiet.of_same rfl rfl rfl
  · exact Quiet.trans (b := { s with h := h1 }) (Quiet.of_same rfl rfl rfl) (sys_trim_quiet ht)
  · exact Quiet.of_same rfl rfl rfl
  · refine Quiet.trans ?_ (release_unused_segments_quiet ht)
    exact Quiet.of_same rfl rfl rfl

theorem sys_alloc_book {s s' : St} {nb mem : Nat} (h : sys_alloc s nb = .ok (s', mem)) : Book s s' := by
  obtain ⟨res, q, _, _, he, hn, hs⟩ := sys_alloc_spec rfl h
  cases res with
  | none =>
    obtain ⟨_, rfl⟩ := hn rfl
    exact ⟨rfl, by simp only [got_append, gave_append, got, gave]; omega⟩
  | some tbase =>
    obtain ⟨hf, hsum, _⟩ := hs tbase rfl
    exact ⟨by omega, by rw [he]; simp only [got_append, gave_append, got, gave]; omega⟩

theorem inner_malloc_book {s s' : St} {size mem : Nat} (h : inner_malloc s size = .ok (s', mem)) : Book s s' := by
  rcases inner_malloc_cases h with ⟨h', _, rfl⟩ | ⟨_, rfl, _⟩ | ⟨nb, _, hs⟩
  · exact Book.of_same rfl rfl rfl
  · exact Book.refl _
  · exact sys_alloc_book hs

theorem memalign_book {s s' : St} {al bytes mem : Nat} (h : memalign s al bytes = .ok (s', mem)) : Book s s' := by
  rcases memalign_body_cases h with ⟨rfl, _⟩ | ⟨s1, m1, hm, hc⟩
  · exact Book.refl _
  · have b1 : Book s s1 := (Book.of_same rfl rfl rfl : Book s (s.tag "memalign")).trans (inner_malloc_book hm)
    rcases hc with ⟨_, rfl, _⟩ | ⟨_, h2, _, rfl⟩
    · exact b1
    · exact b1.trans (Book.of_same rfl rfl rfl)

theorem malloc_book {s s' : St} {size al mem : Nat} (h : malloc s size al = .ok (s', mem)) : Book s s' := by
  unfold malloc at h
  split at h
  · exact inner_malloc_book h
  · exact memalign_book h

theorem calloc_book {s s' : St} {size al mem : Nat} {z : Bool} (h : calloc s size al = .ok (s', mem, z)) :
    Book s s' := by
  obtain ⟨p, hm, _⟩ := calloc_cases h
  exact malloc_book hm

theorem free_book {s s' : St} {mem : Nat} (h : free s mem = .ok s') : Book s s' := (free_quiet h).book

theorem inner_realloc_book {s s' : St} {oldmem bytes mem : Nat} {c : Option Copy}
    (h : inner_realloc s oldmem bytes = .ok (s', mem, c)) : Book s s' := by
  rcases inner_realloc_cases h with ⟨rfl, _⟩ | ⟨h', _, rfl, _⟩ | ⟨s1, p, hm, hc⟩
  · exact Book.refl _
  · exact Book.of_same rfl rfl rfl
  · have b1 : Book s s1 := (Book.of_same rfl rfl rfl : Book s (s.tag "realloc-move")).trans (inner_malloc_book hm)
    rcases hc with ⟨_, rfl, _⟩ | ⟨_, _, hf, _⟩
    · exact b1
    · exact b1.trans (free_book hf)

theorem realloc_book {s s' : St} {ptr os oa ns mem : Nat} {c : Option Copy}
    (h : realloc s ptr os oa ns = .ok (s', mem, c)) : Book s s' := by
  rcases realloc_cases h with ⟨_, hi⟩ | ⟨_, s1, p, hm, hc⟩
  · exact inner_realloc_book hi
  · have b1 : Book s s1 := (Book.of_same rfl rfl rfl : Book s (s.tag "realloc-overaligned")).trans (malloc_book hm)
    rcases hc with ⟨_, rfl, _⟩ | ⟨_, _, hf, _⟩
    · exact b1
    · exact b1.trans (free_book hf)

theorem step_book {hs hs' : Hist} {op : Op} {os : List OsDir} {out : Out}
    (h : hs.step op os = .ok (hs', out)) : Book (hs.start os) hs'.st := by
  cases op with
  | malloc id size align => obtain ⟨_, s, p, hm, rfl, _⟩ := step_malloc_cases h; exact malloc_book hm
  | calloc id size align => obtain ⟨_, s, p, z, hm, rfl, _⟩ := step_calloc_cases h; exact calloc_book hm
  | realloc id newsize => obtain ⟨b, _, s, p, c, hm, rfl, _⟩ := step_realloc_cases h; exact realloc_book hm
  | free id => obtain ⟨b, _, s, hm, rfl, _⟩ := step_free_cases h; exact free_book hm

/-- footprint = sum of the segment sizes -/
def FpInv (s : St) : Prop := s.footprint = segSum s.segs

theorem step_fp {hs hs' : Hist} {op : Op} {os : List OsDir} {out : Out}
    (h : hs.step op os = .ok (hs', out)) (hi : FpInv hs.st) : FpInv hs'.st := by
  have b := (step_book h).fp
  unfold FpInv at *
  simp only [Hist.start] at b
  omega

theorem step_os {hs hs' : Hist} {op : Op} {os : List OsDir} {out : Out}
    (h : hs.step op os = .ok (hs', out)) :
    hs'.st.footprint + gave hs'.st.evs = hs.st.footprint + got hs'.st.evs := by
  have b := (step_book h).os
  simp only [Hist.start, got, gave] at b
  omega

theorem run_fp (ops : List (Op × List OsDir)) : ∀ {hs hs' : Hist} {evs : List OsEv},
    hs.run ops = .ok (hs', evs) → FpInv hs.st →
    FpInv hs'.st ∧ hs'.st.footprint + gave evs = hs.st.footprint + got evs := by
  induction ops with
  | nil =>
    intro hs hs' evs h hi
    unfold Hist.run at h
    msimp at h
    simp only [Prod.mk.injEq] at h
    obtain ⟨h1, h2⟩ := h; subst h1; subst h2
    exact ⟨hi, by simp [got, gave]⟩
  | cons x rest ih =>
    intro hs hs' evs h hi
    obtain ⟨op, os⟩ := x
    unfold Hist.run at h
    msimp at h
    obtain ⟨⟨hs1, o1⟩, h1, ⟨hs2, e2⟩, h2, h⟩ := h
    simp only [Prod.mk.injEq] at h
    obtain ⟨e1, e3⟩ := h; subst e1; subst e3
    have i1 := step_fp h1 hi
    have o1' := step_os h1
    obtain ⟨i2, o2⟩ := ih h2 i1
    refine ⟨i2, ?_⟩
    simp only [got_append, gave_append] at o2 ⊢
    omega

/-! ### refusal of memory by the OS -/

/-- outcome of an allocating call with respect to refusal: either no mmap was refused during it, or
it returned null and left the allocator exactly as it was -/
def RefusalOk (s s' : St) (mem : Nat) : Prop :=
  refused s'.evs = false ∨ (mem = 0 ∧ s'.core = s.core)

theorem sys_alloc_refusal {s s' : St} {nb mem : Nat} (h0 : refused s.evs = false)
    (h : sys_alloc s nb = .ok (s', mem)) : RefusalOk s s' mem := by
  obtain ⟨res, q, _, _, he, hn, _⟩ := sys_alloc_spec rfl h
  cases res with
  | none => obtain ⟨rfl, rfl⟩ := hn rfl; exact Or.inr ⟨rfl, rfl⟩
  | some tbase => left; rw [he, refused_append, h0]; rfl

theorem inner_malloc_refusal {s s' : St} {size mem : Nat} (h0 : refused s.evs = false)
    (h : inner_malloc s size = .ok (s', mem)) : RefusalOk s s' mem := by
  rcases inner_malloc_cases h with ⟨h', _, rfl⟩ | ⟨_, rfl, _⟩ | ⟨nb, _, hs⟩
  · exact Or.inl h0
  · exact Or.inl h0
  · exact sys_alloc_refusal h0 hs

theorem RefusalOk.pass {s s0 s1 s' : St} {m mem : Nat} (hc : s0.core = s.core) (b : RefusalOk s0 s1 m)
    (h : (m = 0 ∧ s' = s1 ∧ mem = 0) ∨ (m ≠ 0 ∧ refused s'.evs = refused s1.evs)) : RefusalOk s s' mem := by
  rcases h with ⟨hm, rfl, rfl⟩ | ⟨hm, hq⟩
  · rcases b with b | ⟨_, b⟩
    · exact Or.inl b
    · exact Or.inr ⟨rfl, b.trans hc⟩
  · rcases b with b | ⟨b, _⟩
    · exact Or.inl (hq.trans b)
    · exact absurd b hm

theorem memalign_refusal {s s' : St} {al bytes mem : Nat} (h0 : refused s.evs = false)
    (h : memalign s al bytes = .ok (s', mem)) : RefusalOk s s' mem := by
  rcases memalign_body_cases h with ⟨rfl, _⟩ | ⟨s1, m1, hm, hc⟩
  · exact Or.inl h0
  · refine (inner_malloc_refusal (s := s.tag "memalign") h0 hm).pass rfl ?_
    rcases hc with hc | ⟨hz, h2, _, rfl⟩
    · exact Or.inl hc
    · exact Or.inr ⟨hz, rfl⟩

theorem malloc_refusal {s s' : St} {size al mem : Nat} (h0 : refused s.evs = false)
    (h : malloc s size al = .ok (s', mem)) : RefusalOk s s' mem := by
  unfold malloc at h
  split at h
  · exact inner_malloc_refusal h0 h
  · exact memalign_refusal h0 h

theorem calloc_refusal {s s' : St} {size al mem : Nat} {z : Bool} (h0 : refused s.evs = false)
    (h : calloc s size al = .ok (s', mem, z)) : RefusalOk s s' mem := by
  obtain ⟨p, hm, hc⟩ := calloc_cases h
  refine (malloc_refusal h0 hm).pass rfl ?_
  rcases hc with ⟨hp, rfl, _⟩ | ⟨hp, _⟩
  · exact Or.inl ⟨hp, rfl, rfl⟩
  · exact Or.inr ⟨hp, rfl⟩

theorem inner_realloc_refusal {s s' : St} {oldmem bytes mem : Nat} {c : Option Copy}
    (h0 : refused s.evs = false)
    (h : inner_realloc s oldmem bytes = .ok (s', mem, c)) : RefusalOk s s' mem := by
  rcases inner_realloc_cases h with ⟨rfl, _⟩ | ⟨h', _, rfl, _⟩ | ⟨s1, p, hm, hc⟩
  · exact Or.inl h0
  · exact Or.inl h0
  · refine (inner_malloc_refusal (s := s.tag "realloc-move") h0 hm).pass rfl ?_
    rcases hc with ⟨hp, rfl, rfl, _⟩ | ⟨hp, _, hf, _⟩
    · exact Or.inl ⟨hp, rfl, rfl⟩
    · exact Or.inr ⟨hp, (free_quiet hf).quiet⟩

theorem realloc_refusal {s s' : St} {ptr os oa ns mem : Nat} {c : Option Copy}
    (h0 : refused s.evs = false)
    (h : realloc s ptr os oa ns = .ok (s', mem, c)) : RefusalOk s s' mem := by
  rcases realloc_cases h with ⟨_, hi⟩ | ⟨_, s1, p, hm, hc⟩
  · exact inner_realloc_refusal h0 hi
  · refine (malloc_refusal (s := s.tag "realloc-overaligned") h0 hm).pass rfl ?_
    rcases hc with ⟨hp, rfl, rfl, _⟩ | ⟨hp, _, hf, _⟩
    · exact Or.inl ⟨hp, rfl, rfl⟩
    · exact Or.inr ⟨hp, (free_quiet hf).quiet⟩

theorem step_refusal {hs hs' : Hist} {op : Op} {os : List OsDir} {out : Out}
    (h : hs.step op os = .ok (hs', out)) (hr : refused hs'.st.evs = true) :
    out.ptr = 0 ∧ hs'.st.core = hs.st.core ∧ hs'.live = hs.live := by
  have h0 : refused (hs.start os).evs = false := rfl
  have key : ∀ {s p}, RefusalOk (hs.start os) s p → refused s.evs = true → p = 0 ∧ s.core = hs.st.core := by
    rintro s p (b | b) hr
    · rw [b] at hr; cases hr
    · exact b
  cases op with
  | malloc id size align =>
    obtain ⟨_, s, p, hm, rfl, rfl⟩ := step_malloc_cases h
    obtain ⟨rfl, hc⟩ := key (malloc_refusal h0 hm) hr
    exact ⟨rfl, hc, rfl⟩
  | calloc id size align =>
    obtain ⟨_, s, p, z, hm, rfl, rfl⟩ := step_calloc_cases h
    obtain ⟨rfl, hc⟩ := key (calloc_refusal h0 hm) hr
    exact ⟨rfl, hc, rfl⟩
  | realloc id newsize =>
    obtain ⟨b, _, s, p, c, hm, rfl, rfl⟩ := step_realloc_cases h
    obtain ⟨rfl, hc⟩ := key (realloc_refusal h0 hm) hr
    exact ⟨rfl, hc, rfl⟩
  | free id =>
    obtain ⟨b, _, s, hm, rfl, rfl⟩ := step_free_cases h
    rw [(free_quiet hm).quiet] at hr
    cases hr

/-- the padded request size `inner_malloc` computes -/
def nbOf (size : Nat) : Nat := if size ≤ MAX_SMALL_REQUEST then request2size size else pad_request size

theorem nbOf_eq (size : Nat) : nbOf size = request2size size := by
  unfold nbOf
  split
  · rfl
  · rename_i hs
    unfold request2size
    rw [if_neg (by rw [MIN_REQUEST_eq]; rw [MAX_SMALL_REQUEST_eq] at hs; omega)]

theorem malloc_nosys_tooBig {h : Heap} {size : Nat} (hs : MAX_REQUEST ≤ size) : malloc_nosys h size = .ok .tooBig := by
  unfold malloc_nosys
  rw [if_neg (by rw [MAX_REQUEST_eq] at hs; rw [MAX_SMALL_REQUEST_eq]; omega), if_pos hs]
  rfl

theorem inner_malloc_lt_max {s s' : St} {size mem : Nat} (hm : inner_malloc s size = .ok (s', mem)) (hne : mem ≠ 0) :
    size < MAX_REQUEST := by
  apply Nat.lt_of_not_le
  intro hs
  rcases inner_malloc_cases hm with ⟨_, hr, _⟩ | ⟨_, _, h0⟩ | ⟨_, hr, _⟩
  · rw [malloc_nosys_tooBig hs] at hr; cases hr
  · exact hne h0
  · rw [malloc_nosys_tooBig hs] at hr; cases hr

/-- a successful run read off a Boolean test of its result -/
theorem matchB_ok {α : Type} {x : M α} {p : α → Bool}
    (h : (match x with | .ok v => p v | .error _ => false) = true) : ∃ v, x = .ok v ∧ p v = true := by
  cases x with
  | ok v => exact ⟨v, rfl, h⟩
  | error e => cases h

end TinyVerif.Dl
