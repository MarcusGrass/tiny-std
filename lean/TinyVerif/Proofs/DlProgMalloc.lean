import TinyVerif.Proofs.DlProgSpec
import TinyVerif.Proofs.DlIndAll
/-!
# Progress for `malloc_nosys`: from `SInv s`, `malloc_nosys s.h size` raises no error outcome

Every guard of the ten outcomes is discharged from the invariant:

* header writes need `size % 8 = 0` (`writeHead`) — sizes are multiples of 16 by `shapeOk` and the padding of
  the request; `set_foot` needs the header at the end of the free remainder, which is the in-use header after the
  victim (`WFS.free_parts`) and survives the two header writes before it (`findEnt_putEnt_ge`);
* `take_first_small` / `getTree` indices come out of the bitmap tricks: `mp_tz_lsb` (lowest set bit of a
  non-zero u32 map is the index of a set bit `< 32`), `mp_exact_bin` (`idx + (!smallbits & 1)` is a non-empty
  bin when `smallbits & 3 ≠ 0`), `mp_next_bin` (the `leftbits` computation yields a non-empty bin above `idx`);
  bit set ⇒ bin non-empty ⇒ first chunk has a header of the bin's size (`sbinsOk`) / root is a node (`tbinsOk`);
* the tree searches return a chunk whose header size is `rsize + size` (`mp_lmBest_fit`, `mp_tlDescend_fit`:
  strengthening of `lmBest_mem` / `tlDescend_spec` / `tl_search_mem` by the size fact from
  `trieOk`), so `getE` finds it, the size assertion holds and `unlink_large_chunk` finds it in its bin;
* `replace_dv`'s `is_small(dvsize)` assertion: it is only reached when `nb > dvsize` with `nb ≤ 240`.
-/
namespace TinyVerif.Dl

open List

theorem mp_replace_dv_total {h : Heap} {c sz : Nat} (hl : h.sbins.length = 32) (hsm : h.dvsize < 256)
    (hd : h.dvsize ≠ 0 → 32 ≤ h.dvsize) : Total (replace_dv h c sz) := by
  unfold replace_dv
  dsimp only
  refine Total.bind_ok (failIf_false (by rw [(is_small_iff _).2 hsm]; rfl)) ?_
  split
  · rename_i hne
    obtain ⟨h1, e1⟩ := insert_small_total (c := h.dv) hl (hd hne) hsm
    exact Total.bind_ok e1 (total_pure _)
  · exact Total.bind_ok rfl (total_pure _)

/-! ## the `dv` / `top` tail -/

theorem mp_malloc_dv_top_total {s : St} (w : WFS s) {nb : Nat} (hnb16 : nb % 16 = 0) (hnb32 : 32 ≤ nb) :
    Total (malloc_dv_top s.h nb) := by
  unfold malloc_dv_top
  dsimp only
  refine Total.ite (fun hle => ?_) (fun _ => Total.ite (fun hlt => ?_) (fun _ => total_pure _))
  · obtain ⟨hd16, hd32, y, hy⟩ := dv_facts w (by omega)
    refine Total.ite (fun hge => ?_) (fun _ => ?_)
    · rw [MIN_CHUNK_SIZE_eq] at hge
      obtain ⟨h1, e1, _⟩ := free_chunk_total
        (h := { s.h with dv := s.h.dv + nb, dvsize := s.h.dvsize - nb }) (a := s.h.dv + nb) (sz := s.h.dvsize - nb)
        (y := y) (mod16_mod8 (mod16_sub hd16 hnb16)) (Nat.lt_of_lt_of_le (by decide) hge)
        (by rw [Nat.add_assoc, Nat.add_sub_cancel' hle]; exact hy)
      obtain ⟨h2, e2, _⟩ := inuse_chunk_total (h := h1) (a := s.h.dv) (mod16_mod8 hnb16)
      exact Total.bind_ok e1 (Total.bind_ok e2 (total_pure _))
    · obtain ⟨h1, e1, _⟩ := set_inuse_and_pinuse_total
        (h := { s.h with dvsize := 0, dv := 0 }) (a := s.h.dv) (mod16_mod8 hd16)
      exact Total.bind_ok e1 (total_pure _)
  · obtain ⟨h1, e1, _⟩ := writeHead_total
      (h := { s.h with topsize := s.h.topsize - nb, top := s.h.top + nb }) (a := s.h.top + nb) false true
      (mod16_mod8 (mod16_sub (topsize_mod16 w) hnb16))
    obtain ⟨h2, e2, _⟩ := inuse_chunk_total (h := h1) (a := s.h.top) (mod16_mod8 hnb16)
    exact Total.bind_ok e1 (Total.bind_ok e2 (total_pure _))

/-! ## bitmap tricks -/

/-- the lowest set bit of a non-zero u32 map, as computed by `trailing_zeros(least_bit(x))`, is the index of
a set bit below 32 -/
theorem mp_tz_lsb {x : Nat} (h0 : x ≠ 0) (h : x < 2 ^ 32) :
    ∃ k, k < 32 ∧ trailing_zeros32 (least_bit x) = k ∧ x.testBit k = true := by
  obtain ⟨k, hk, hl, hb, _⟩ := least_bit_testBit x h0 h
  exact ⟨k, hk, by rw [hl, trailing_zeros32_pow k hk], hb⟩

/-- `idx += !smallbits & 1` after `smallbits & 3 != 0`: the bin chosen is non-empty -/
theorem mp_exact_bin {x idx : Nat} (hx : x < 2 ^ 32) (hb : (x >>> idx) &&& 3 ≠ 0) :
    x.testBit (idx + ((U32 - 1 - (x >>> idx)) &&& 1)) = true := by
  have hsb : x >>> idx < 2 ^ 32 := Nat.lt_of_le_of_lt (Nat.shiftRight_le _ _) hx
  have h1 := shift_and_one x idx
  rw [Nat.and_one_is_mod] at h1 ⊢
  simp only [U32]
  by_cases ht : x.testBit idx = true
  · rw [ht, if_pos rfl] at h1
    rw [show (4294967296 - 1 - x >>> idx) % 2 = 0 by omega]
    exact ht
  · rw [if_neg ht] at h1
    rw [show (4294967296 - 1 - x >>> idx) % 2 = 1 by omega]
    rcases (shift_and_three x idx).1 hb with h | h
    · exact absurd h ht
    · exact h

/-- the `leftbits` computation of the `small-next` branch: some bin above `idx` is non-empty, and the index
computed is that of a non-empty bin above `idx` -/
theorem mp_next_bin {x idx : Nat} (hx : x < 2 ^ 32) (hidx : idx < 32) (h3 : ¬ (x >>> idx) &&& 3 ≠ 0)
    (hne : x >>> idx ≠ 0) :
    ∃ k, idx < k ∧ k < 32 ∧
      trailing_zeros32 (least_bit ((((x >>> idx) <<< idx) % U32) &&& left_bits ((1 <<< idx) % U32))) = k ∧
      x.testBit k = true := by
  have h1 : (1 <<< idx) % U32 = 2 ^ idx := by
    rw [Nat.one_shiftLeft]
    exact Nat.mod_eq_of_lt (Nat.pow_lt_pow_right (by decide) hidx)
  rw [h1]
  have hU : U32 = 2 ^ 32 := rfl
  have key : ∀ k, ((((x >>> idx) <<< idx) % U32) &&& left_bits (2 ^ idx)).testBit k =
      (decide (idx < k) && decide (k < 32) && x.testBit k) := by
    intro k
    rw [Nat.testBit_and, hU, Nat.testBit_mod_two_pow, Nat.testBit_shiftLeft, Nat.testBit_shiftRight,
      left_bits_pow_testBit idx k hidx]
    by_cases h : idx < k
    · have : idx + (k - idx) = k := by omega
      rw [this]
      have h' : k ≥ idx := by omega
      simp [h, h']
      intro a _; exact a
    · simp [h]
  have hnot : ¬ (x.testBit idx = true ∨ x.testBit (idx + 1) = true) := fun h => h3 ((shift_and_three x idx).2 h)
  obtain ⟨j, hj⟩ := (ne_zero_iff_testBit _).1 hne
  rw [Nat.testBit_shiftRight] at hj
  have hj32 : idx + j < 32 := by
    apply Nat.lt_of_not_le
    intro hge
    have : x.testBit (idx + j) = false :=
      Nat.testBit_lt_two_pow (Nat.lt_of_lt_of_le hx (Nat.pow_le_pow_right (by decide) hge))
    rw [this] at hj; cases hj
  have hj2 : idx < idx + j := by
    rcases Nat.lt_or_ge 1 j with h | h
    · omega
    · exfalso
      have : j = 0 ∨ j = 1 := by omega
      rcases this with rfl | rfl
      · exact hnot (Or.inl hj)
      · exact hnot (Or.inr hj)
  have hL0 : (((x >>> idx) <<< idx) % U32) &&& left_bits (2 ^ idx) ≠ 0 :=
    (ne_zero_iff_testBit _).2 ⟨idx + j, by rw [key]; simp [hj2, hj32, hj]⟩
  have hLlt : (((x >>> idx) <<< idx) % U32) &&& left_bits (2 ^ idx) < 2 ^ 32 :=
    Nat.lt_of_le_of_lt Nat.and_le_left (Nat.mod_lt _ (by decide))
  obtain ⟨k, hk, htz, hbit⟩ := mp_tz_lsb hL0 hLlt
  rw [key] at hbit
  simp only [Bool.and_eq_true, decide_eq_true_eq] at hbit
  exact ⟨k, hbit.1.1, hk, htz, hbit.2⟩

/-! ## a non-empty small bin: `take_first_small` succeeds -/

theorem mp_take_first_small_total {s : St} (w : WFS s) {i : Nat} (hb : (smallmap s.h).testBit i = true) :
    i < 32 ∧ Total (take_first_small s.h i) := by
  obtain ⟨l, hget, hl⟩ := (smallmap_testBit s.h i).1 hb
  have hi : i < 32 := by
    have := (List.getElem?_eq_some_iff.1 hget).1
    rw [sbinsOk_length w.sbins] at this; exact this
  refine ⟨hi, ?_⟩
  have hs := w.sbins
  simp only [Bool.and_eq_true, decide_eq_true_eq] at hs
  have g := sbinsFrom_get _ 0 _ l hs.2 hget
  rw [Nat.zero_add] at g
  cases l with
  | nil => exact absurd rfl hl
  | cons p rest =>
    obtain ⟨e, he, hes⟩ := sizeAt_iff.1 (g p List.mem_cons_self).1
    unfold take_first_small
    refine Total.bind_ok (getBin_ok.2 hget) ?_
    dsimp only
    refine Total.bind_ok (getE_ok.2 he) ?_
    refine Total.bind_ok (failIf_false ?_) (total_pure _)
    rw [decide_eq_false_iff_not, small_index2size_eq i (by omega), hes]
    exact fun h => h rfl

/-! ## the victim after unlinking, and the two tails -/

/-- what the tails need to know about the heap `h1` after the victim `p` (header size `sz`) was unlinked -/
structure mp_Victim (s : St) (h1 : Heap) (p sz : Nat) : Prop where
  ents : h1.ents = s.h.ents
  dv : h1.dv = s.h.dv
  dvsize : h1.dvsize = s.h.dvsize
  sblen : h1.sbins.length = 32
  tblen : h1.tbins.length = 32
  sz16 : sz % 16 = 0
  next : ∃ y, findEnt s.h.ents (p + sz) = some y

theorem mp_victim_of_unlinked {s : St} (w : WFS s) {h1 : Heap} {p : Nat} (u : mn_Unlinked s.h h1 p) {x0 : Ent}
    (hx0 : findEnt s.h.ents p = some x0) : mp_Victim s h1 p x0.size := by
  obtain ⟨pre, post, x, y, g, fa, hxa, _, _, _⟩ := mn_freeAt w u
  have hxm : x ∈ s.h.ents := by rw [fa.hes]; simp
  have hym : y ∈ s.h.ents := by rw [fa.hes]; simp
  have hxx : x0 = x := by
    have := entsOk_find x hxm w.ents
    rw [hxa, hx0] at this
    injection this
  subst hxx
  obtain ⟨_, h16, _⟩ := shapeOk_free w.shape hxm (isFree_iff.1 fa.free).1
  have hs := u.sb
  have ht := u.tb
  unfold sbinsOk at hs
  unfold tbinsOk at ht
  simp only [Bool.and_eq_true, decide_eq_true_eq] at hs ht
  refine ⟨u.frame.ents, u.frame.dv, u.frame.dvsize, hs.1, ht.1, h16, y, ?_⟩
  rw [← hxa, ← fa.ya]
  exact entsOk_find y hym w.ents

theorem mp_exhaust_tail {s : St} {h1 : Heap} {p sz : Nat} (v : mp_Victim s h1 p sz) :
    ∃ h2, set_inuse_and_pinuse h1 p sz = .ok h2 := by
  obtain ⟨h2, e2, _⟩ := set_inuse_and_pinuse_total (h := h1) (a := p) (mod16_mod8 v.sz16)
  exact ⟨h2, e2⟩

theorem mp_split_tail {s : St} {h1 : Heap} {p sz nb rs : Nat} (v : mp_Victim s h1 p sz) (hnb16 : nb % 16 = 0)
    (hnb : 0 < nb) (hrs : 0 < rs) (hsum : nb + rs = sz) :
    ∃ h2 h3, set_size_and_pinuse_of_inuse_chunk h1 p nb = .ok h2 ∧
      set_size_and_pinuse_of_free_chunk h2 (p + nb) rs = .ok h3 ∧ mp_EFrame h1 h3 := by
  have hrs16 : rs % 16 = 0 := by
    have h := mod16_sub v.sz16 hnb16
    rwa [← hsum, Nat.add_sub_cancel_left] at h
  obtain ⟨y, hy⟩ := v.next
  obtain ⟨h2, e2, f2, k2⟩ := inuse_chunk_total (h := h1) (a := p) (mod16_mod8 hnb16)
  have hy2 : findEnt h2.ents (p + nb + rs) = some y := by
    rw [k2 _ (by omega) (by omega), v.ents, Nat.add_assoc, hsum]; exact hy
  obtain ⟨h3, e3, f3, _⟩ := free_chunk_total (h := h2) (a := p + nb) (mod16_mod8 hrs16) hrs hy2
  exact ⟨h2, h3, e2, e3, f2.trans f3⟩

/-! ## the tree searches return a chunk whose header size is `rsize + size` -/

/-- every node of the tree carries the size found in the header of its chunk -/
def mp_szOk (es : List Ent) : Tree → Prop
  | .nil => True
  | .node a s _ l r => sizeAt es a s = true ∧ mp_szOk es l ∧ mp_szOk es r

theorem mp_szOk_of_trieOk {es : List Ent} {idx : Nat} (t : Tree) : ∀ (path : List Bool),
    trieOk es idx t path = true → mp_szOk es t := by
  induction t with
  | nil => intro _ _; trivial
  | node a s ring l r ihl ihr =>
    intro path h
    rw [trieOk_node] at h
    exact ⟨h.1.1, ihl _ h.2.1, ihr _ h.2.2⟩

theorem mp_bin_szOk {s : St} (w : WFS s) {i : Nat} {t : Tree} (hget : s.h.tbins[i]? = some t) :
    mp_szOk s.h.ents t ∧ trieOk s.h.ents i t [] = true := by
  have ht := w.tbins
  simp only [Bool.and_eq_true, decide_eq_true_eq] at ht
  obtain ⟨g1, _⟩ := tbinsFrom_get _ 0 _ t ht.2 hget
  rw [Nat.zero_add] at g1
  exact ⟨mp_szOk_of_trieOk t [] g1, g1⟩

/-- the search state `(v, rsize)`: if a chunk was chosen, its header size is `rsize + size` -/
def mp_Fit (es : List Ent) (size : Nat) (v : Option Nat) (rs : Nat) : Prop :=
  ∀ a, v = some a → sizeAt es a (rs + size) = true

theorem mp_fit_none (es : List Ent) (size rs : Nat) : mp_Fit es size none rs := fun _ h => by cases h

theorem mp_fit_step {es : List Ent} {size ad s rs : Nat} {v : Option Nat} {hit : Bool}
    (hh : hit = true → s ≥ size) (hs : sizeAt es ad s = true) (hf : mp_Fit es size v rs) :
    mp_Fit es size (if hit = true then some ad else v) (if hit = true then s - size else rs) := by
  intro a ha
  by_cases h : hit = true
  · rw [if_pos h] at ha ⊢
    injection ha with ha
    subst ha
    have := hh h
    rw [show s - size + size = s by omega]; exact hs
  · rw [if_neg h] at ha ⊢
    exact hf a ha

theorem mp_hit_ge {s size rs : Nat} : (decide (s ≥ size) && decide (s - size < rs)) = true → s ≥ size := by
  intro h
  simp only [Bool.and_eq_true, decide_eq_true_eq] at h
  exact h.1

theorem mp_lmBest_fit {es : List Ent} (t : Tree) : ∀ (size : Nat) (v : Option Nat) (rs : Nat),
    mp_szOk es t → mp_Fit es size v rs → mp_Fit es size (t.lmBest size v rs).1 (t.lmBest size v rs).2 := by
  induction t with
  | nil => intro size v rs _ hf; simp only [Tree.lmBest]; exact hf
  | node ad s ring l r ihl ihr =>
    intro size v rs hsz hf
    have hstep := mp_fit_step (hit := decide (s ≥ size) && decide (s - size < rs)) mp_hit_ge hsz.1 hf
    cases l with
    | nil =>
      simp only [Tree.lmBest]
      exact ihr _ _ _ hsz.2.2 hstep
    | node la ls lring ll lr =>
      simp only [Tree.lmBest] at ihl ⊢
      exact ihl _ _ _ hsz.2.1 hstep

theorem mp_lmBest_some (t : Tree) : ∀ (size : Nat) (v : Option Nat) (rs : Nat),
    v ≠ none → (t.lmBest size v rs).1 ≠ none := by
  induction t with
  | nil => intro size v rs hv; simp only [Tree.lmBest]; exact hv
  | node ad s ring l r ihl ihr =>
    intro size v rs hv
    have hstep : (if (decide (s ≥ size) && decide (s - size < rs)) = true then some ad else v) ≠ none := by
      split
      · exact fun h => by cases h
      · exact hv
    cases l with
    | nil =>
      simp only [Tree.lmBest]
      exact ihr _ _ _ hstep
    | node la ls lring ll lr =>
      simp only [Tree.lmBest] at ihl ⊢
      exact ihl _ _ _ hstep

theorem mp_tlDescend_fit {es : List Ent} (t : Tree) (size sb : Nat) (v : Option Nat) (rs : Nat) (rst : Tree) :
    mp_szOk es t → mp_szOk es rst → mp_Fit es size v rs →
    mp_Fit es size (t.tlDescend size sb v rs rst).1 (t.tlDescend size sb v rs rst).2.1 ∧
      mp_szOk es (t.tlDescend size sb v rs rst).2.2 := by
  fun_induction Tree.tlDescend t size sb v rs rst with
  | case1 => intro _ h2 h3; exact ⟨h3, h2⟩
  | case2 ad s ring l r size sb v rs rst hit v' rs' hz =>
    intro h1 _ h3
    exact ⟨mp_fit_step mp_hit_ge h1.1 h3, h1⟩
  | case3 ad s ring r size sb v rs rst hit v' rs' hz hb rst' =>
    intro h1 h2 h3
    refine ⟨mp_fit_step mp_hit_ge h1.1 h3, ?_⟩
    cases r with
    | nil => exact h2
    | node ra rs2 rring rl rr => exact h1.2.2
  | case4 ad s ring r size sb v rs rst hit v' rs' hz hb rst' la ls lring ll lr ih =>
    intro h1 h2 h3
    refine ih h1.2.1 ?_ (mp_fit_step mp_hit_ge h1.1 h3)
    cases r with
    | nil => exact h2
    | node ra rs2 rring rl rr => exact h1.2.2
  | case5 ad s ring l size sb v rs rst hit v' rs' hz hb =>
    intro h1 h2 h3
    exact ⟨mp_fit_step mp_hit_ge h1.1 h3, h2⟩
  | case6 ad s ring l size sb v rs rst hit v' rs' hz hb ra rs2 rring rl rr ih =>
    intro h1 h2 h3
    exact ih h1.2.2 h2 (mp_fit_step mp_hit_ge h1.1 h3)

/-- the search of `tmalloc_large` does not fail, and what it returns fits -/
theorem mp_tl_search_total {s : St} (w : WFS s) (size : Nat) :
    ∃ v rsize, tl_search s.h size = .ok (v, rsize) ∧ mp_Fit s.h.ents size v rsize := by
  obtain ⟨root, hroot, hget⟩ := getTree_total (tbinsOk_length w.tbins) (compute_tree_index_lt size)
  have hrsz := (mp_bin_szOk w hget).1
  -- the descent
  have hd : mp_Fit s.h.ents size (tlStart root size (compute_tree_index size) (U64 - 1 - size + 1)).1
      (tlStart root size (compute_tree_index size) (U64 - 1 - size + 1)).2.1 ∧
      mp_szOk s.h.ents (tlStart root size (compute_tree_index size) (U64 - 1 - size + 1)).2.2 := by
    unfold tlStart
    cases root with
    | nil => exact ⟨mp_fit_none _ _ _, trivial⟩
    | node ra rs rring rl rr =>
      exact mp_tlDescend_fit _ _ _ _ _ _ hrsz trivial (mp_fit_none _ _ _)
  generalize hdeq : tlStart root size (compute_tree_index size) (U64 - 1 - size + 1) = d at hd
  obtain ⟨v1, rs1, t1⟩ := d
  -- the next non-empty bin
  have hn : ∃ t2, tlNext s.h (compute_tree_index size) t1 v1 = .ok t2 ∧ mp_szOk s.h.ents t2 := by
    unfold tlNext
    split
    · dsimp only
      split
      · rename_i hne
        have hlt : left_bits ((1 <<< compute_tree_index size) % U32) &&& treemap s.h < 2 ^ 32 :=
          Nat.lt_of_le_of_lt Nat.and_le_right (treemap_lt s.h (tbinsOk_length w.tbins))
        obtain ⟨k, hk, htz, _⟩ := mp_tz_lsb hne hlt
        obtain ⟨t2, ht2, hget2⟩ := getTree_total (tbinsOk_length w.tbins) hk
        rw [htz]
        exact ⟨t2, ht2, (mp_bin_szOk w hget2).1⟩
      · exact ⟨Tree.nil, rfl, trivial⟩
    · exact ⟨t1, rfl, hd.2⟩
  obtain ⟨t2, ht2, hsz2⟩ := hn
  refine ⟨(t2.lmBest size v1 rs1).1, (t2.lmBest size v1 rs1).2, ?_, mp_lmBest_fit t2 _ _ _ hsz2 hd.1⟩
  unfold tl_search
  dsimp only
  rw [hroot]
  simp only [bind, Except.bind]
  rw [hdeq]
  dsimp only
  rw [ht2]
  rfl

/-! ## `tmalloc_small`, `tmalloc_large` -/

theorem mp_dv_small {s : St} (w : WFS s) : s.h.dvsize ≠ 0 → 32 ≤ s.h.dvsize :=
  fun hne => (dv_facts w hne).2.1

/-- `tmalloc_small` is only called with a small request larger than `dv` and a non-empty tree map -/
theorem mp_tmalloc_small_total {s : St} (w : WFS s) {nb : Nat} (hnb16 : nb % 16 = 0) (hnb32 : 32 ≤ nb)
    (hnb240 : nb ≤ 240) (hdv : s.h.dvsize < nb) (htm : treemap s.h ≠ 0) : Total (tmalloc_small s.h nb) := by
  obtain ⟨k, hk, htz, hbit⟩ := mp_tz_lsb htm (treemap_lt s.h (tbinsOk_length w.tbins))
  obtain ⟨t, hget, htne⟩ := (treemap_testBit s.h k).1 hbit
  obtain ⟨hszt, htrie⟩ := mp_bin_szOk w hget
  unfold tmalloc_small
  dsimp only
  rw [htz]
  refine Total.bind_ok (getTree_ok.2 hget) ?_
  cases t with
  | nil => exact absurd rfl htne
  | node a sz ring l r =>
    dsimp only
    rw [trieOk_node] at htrie
    obtain ⟨⟨hsa, _, _, h256, _⟩, _, _⟩ := htrie
    refine Total.bind_ok (failIf_false (by rw [decide_eq_false_iff_not]; omega)) ?_
    -- the best fit
    have hfit0 : mp_Fit s.h.ents nb (some a) (sz - nb) := by
      intro a' ha'
      injection ha' with ha'
      subst ha'
      rw [show sz - nb + nb = sz by omega]; exact hsa
    generalize hres : Tree.lmBest _ nb (some a) (sz - nb) = res
    have hfacts : mp_Fit s.h.ents nb res.1 res.2 ∧ res.1 ≠ none ∧
        ∀ vc, res.1 = some vc → vc ∈ (Tree.node a sz ring l r).members := by
      rw [← hres]
      cases l with
      | nil =>
        refine ⟨mp_lmBest_fit r _ _ _ hszt.2.2 hfit0, mp_lmBest_some r _ _ _ (fun h => by cases h), ?_⟩
        intro vc hvc
        rcases lmBest_mem r nb (some a) (sz - nb) vc hvc with h1 | h1
        · injection h1 with h1; subst h1; exact mem_self _ _ _ _ _
        · exact mem_right _ _ _ _ h1
      | node la ls lring ll lr =>
        refine ⟨mp_lmBest_fit (Tree.node la ls lring ll lr) _ _ _ hszt.2.1 hfit0,
          mp_lmBest_some (Tree.node la ls lring ll lr) _ _ _ (fun h => by cases h), ?_⟩
        intro vc hvc
        rcases lmBest_mem (Tree.node la ls lring ll lr) nb (some a) (sz - nb) vc hvc with h1 | h1
        · injection h1 with h1; subst h1; exact mem_self _ _ _ _ _
        · exact mem_left _ _ _ _ h1
    clear hres
    obtain ⟨v, rsize⟩ := res
    obtain ⟨hfit, hsome, hmem⟩ := hfacts
    dsimp only at hfit hsome hmem ⊢
    cases v with
    | none => exact absurd rfl hsome
    | some vc =>
      dsimp only
      obtain ⟨e, he, hes⟩ := sizeAt_iff.1 (hfit vc rfl)
      refine Total.bind_ok (getE_ok.2 he) ?_
      refine Total.bind_ok (failIf_false (by rw [decide_eq_false_iff_not]; exact fun h => h hes)) ?_
      obtain ⟨h1, e1⟩ := unlink_large_chunk_progress w.tbins
        (mem_joinAll_map_iff.2 ⟨k, _, hget, hmem vc rfl⟩)
      refine Total.bind_ok e1 ?_
      have vic := mp_victim_of_unlinked w (mn_unlinked_large w e1) he
      rw [hes] at vic
      refine Total.ite (fun _ => ?_) (fun hge => ?_)
      · obtain ⟨h2, e2⟩ := mp_exhaust_tail vic
        exact Total.bind_ok e2 (total_pure _)
      · rw [MIN_CHUNK_SIZE_eq] at hge
        obtain ⟨h2, h3, e2, e3, f3⟩ := mp_split_tail vic (nb := nb) (rs := rsize) hnb16 (by omega) (by omega)
          (by omega)
        refine Total.bind_ok e2 (Total.bind_ok e3 ?_)
        obtain ⟨h4, e4⟩ := mp_replace_dv_total (h := h3) (c := vc + nb) (sz := rsize)
          (by rw [f3.sbins]; exact vic.sblen) (by rw [f3.dvsize, vic.dvsize]; omega)
          (by rw [f3.dvsize, vic.dvsize]; exact mp_dv_small w)
        exact Total.bind_ok e4 (total_pure _)

theorem mp_tmalloc_large_total {s : St} (w : WFS s) {nb : Nat} (hnb16 : nb % 16 = 0) (hnb256 : 256 ≤ nb) :
    Total (tmalloc_large s.h nb) := by
  obtain ⟨v, rsize, hs, hfit⟩ := mp_tl_search_total w nb
  unfold tmalloc_large
  refine Total.bind_ok hs ?_
  dsimp only
  cases v with
  | none => exact total_pure _
  | some vc =>
    dsimp only
    refine Total.ite (fun _ => total_pure _) (fun _ => ?_)
    · have hsz := hfit vc rfl
      obtain ⟨e, he, hes⟩ := sizeAt_iff.1 hsz
      refine Total.bind_ok (getE_ok.2 he) ?_
      refine Total.bind_ok (failIf_false (by rw [decide_eq_false_iff_not]; exact fun h => h hes)) ?_
      obtain ⟨h1, e1⟩ := unlink_large_chunk_progress w.tbins
        (binned_large w.sbins (tl_search_mem hs rfl) hsz (by omega))
      refine Total.bind_ok e1 ?_
      have vic := mp_victim_of_unlinked w (mn_unlinked_large w e1) he
      rw [hes] at vic
      refine Total.ite (fun _ => ?_) (fun hge => ?_)
      · obtain ⟨h2, e2⟩ := mp_exhaust_tail vic
        exact Total.bind_ok e2 (total_pure _)
      · rw [MIN_CHUNK_SIZE_eq] at hge
        obtain ⟨h2, h3, e2, e3, f3⟩ := mp_split_tail vic (nb := nb) (rs := rsize) hnb16 (by omega) (by omega)
          (by omega)
        refine Total.bind_ok e2 (Total.bind_ok e3 ?_)
        obtain ⟨h4, e4⟩ := insert_chunk_total (h := h3) (c := vc + nb) (sz := rsize)
          (by rw [f3.sbins]; exact vic.sblen) (by rw [f3.tbins]; exact vic.tblen) (by omega)
        exact Total.bind_ok e4 (total_pure _)

/-! ## the whole -/

/-- **`malloc_nosys` raises no error outcome from a state satisfying the invariant** (only `WFS` is used) -/
theorem mp_malloc_nosys_total {s : St} (w : WFS s) (size : Nat) : Total (malloc_nosys s.h size) := by
  have hsm := smallmap_lt s.h (sbinsOk_length w.sbins)
  unfold malloc_nosys
  dsimp only
  refine Total.ite (fun hs => ?_) (fun hs => Total.ite (fun _ => total_pure _) (fun hmax => ?_))
  · rw [MAX_SMALL_REQUEST_eq] at hs
    have hnb32 := request2size_ge_min size (by omega)
    have hnb16 := request2size_aligned size (by omega)
    have hnb240 : request2size size ≤ 240 := by
      rw [request2size_eq size (by omega)]; split <;> omega
    have hidx : small_index (request2size size) = request2size size / 8 := small_index_eq _ (by omega)
    generalize request2size size = nb at *
    refine Total.ite (fun hbits => ?_) (fun hbits => Total.ite (fun hdv => Total.ite (fun hne => ?_)
      (fun _ => Total.ite (fun htm => ?_) (fun _ => ?_))) (fun _ => ?_))
    · -- `small-bin`
      obtain ⟨hi, ⟨h1, p⟩, e1⟩ := mp_take_first_small_total w (mp_exact_bin hsm hbits)
      refine Total.bind_ok e1 ?_
      dsimp only
      obtain ⟨h2, e2, _⟩ := set_inuse_and_pinuse_total (h := h1) (a := p)
        (sz := small_index2size (small_index nb + ((U32 - 1 - smallmap s.h >>> small_index nb) &&& 1)))
        (by rw [small_index2size_eq _ (by omega)]; omega)
      exact Total.bind_ok e2 (total_pure _)
    · -- the next non-empty small bin
      obtain ⟨k, hk1, hk2, htz, hbit⟩ := mp_next_bin hsm (by omega : small_index nb < 32) hbits hne
      rw [htz]
      obtain ⟨_, ⟨h1, p⟩, e1⟩ := mp_take_first_small_total w hbit
      refine Total.bind_ok e1 ?_
      dsimp only
      have hk8 := small_index2size_eq k (by omega)
      refine Total.bind_ok (failIf_false (by rw [decide_eq_false_iff_not]; omega)) ?_
      obtain ⟨rest, x, _, _, hfx, hxs⟩ := take_first_small_ok e1
      have vic := mp_victim_of_unlinked w (mn_unlinked_small w e1) hfx
      rw [hxs] at vic
      refine Total.ite (fun _ => ?_) (fun hge => ?_)
      · obtain ⟨h2, e2⟩ := mp_exhaust_tail vic
        exact Total.bind_ok e2 (total_pure _)
      · rw [MIN_CHUNK_SIZE_eq] at hge
        obtain ⟨h2, h3, e2, e3, f3⟩ := mp_split_tail vic (nb := nb) (rs := small_index2size k - nb) hnb16
          (by omega) (by omega) (by omega)
        refine Total.bind_ok e2 (Total.bind_ok e3 ?_)
        obtain ⟨h4, e4⟩ := mp_replace_dv_total (h := h3) (c := p + nb) (sz := small_index2size k - nb)
          (by rw [f3.sbins]; exact vic.sblen) (by rw [f3.dvsize, vic.dvsize]; omega)
          (by rw [f3.dvsize, vic.dvsize]; exact mp_dv_small w)
        exact Total.bind_ok e4 (total_pure _)
    · obtain ⟨⟨h1, m1⟩, e1⟩ := mp_tmalloc_small_total w hnb16 hnb32 hnb240 (by omega) htm
      exact Total.bind_ok e1 (total_pure _)
    · exact mp_malloc_dv_top_total w hnb16 hnb32
    · exact mp_malloc_dv_top_total w hnb16 hnb32
  · rw [MAX_SMALL_REQUEST_eq] at hs
    have hlt := MAX_REQUEST_lt
    rw [MAX_REQUEST_eq] at hmax
    have hsz : size + 24 ≤ 2 ^ 64 := by omega
    have hnb16 := pad_request_aligned size hsz
    have hnb256 : 256 ≤ pad_request size := by
      rw [pad_request_eq size hsz]; omega
    refine Total.ite (fun _ => ?_) (fun _ => mp_malloc_dv_top_total w hnb16 (by omega))
    obtain ⟨r, hr⟩ := mp_tmalloc_large_total w hnb16 hnb256
    refine Total.bind_ok hr ?_
    cases r with
    | none => exact mp_malloc_dv_top_total w hnb16 (by omega)
    | some hm => exact total_pure _

theorem mp_malloc_nosys_prog : malloc_nosys_Prog := fun hi => mp_malloc_nosys_total hi.wfs _

/-! ## non-vacuity: the hypothesis holds on reachable two-segment states (`Proofs/DlIndMalloc2.lean`) -/

set_option maxRecDepth 40000 in
example : SInv (mn_stateOf mn_ops4).st ∧ Total (malloc_nosys (mn_stateOf mn_ops4).st.h 500) ∧
    Total (malloc_nosys (mn_stateOf mn_ops3).st.h 8) :=
  have i4 : Inv (mn_stateOf mn_ops4) := gl_inv_of_check (by decide) (by decide) (by decide) (by decide) (by decide) (by decide)
  have i3 : Inv (mn_stateOf mn_ops3) := gl_inv_of_check (by decide) (by decide) (by decide) (by decide) (by decide) (by decide)
  ⟨i4.1, mp_malloc_nosys_prog i4.1, mp_malloc_nosys_prog i3.1⟩

end TinyVerif.Dl
