import TinyVerif.Proofs.DlIndGlue
/-!
# `split_inuse_Spec`, `try_realloc_chunk_Spec` (tag `ra_`)

Main results: `ra_split_inuse_spec : split_inuse_Spec`,
`ra_try_realloc_chunk_spec : dispose_chunk_Spec → try_realloc_chunk_Spec`.

## A. `set_inuse` as table surgery
`set_inuse a sz` writes a header over a window and then sets PINUSE at `a + sz`: either a header starts
there (`ra_set_inuse_hit`) or the word holds no header and the header-less entry `{size := 0, pin := true}`
appears (`ra_set_inuse_stub`, `ra_orPin_stub`), so the table in between violates `entsOk`.  Instances:
`ra_set_inuse_pair` (`set_inuse p nb; set_inuse (p+nb) rs` on a chunk of `nb + rs` bytes), `ra_set_inuse_pair_rev`
(the order `memalign` uses for the leader: second header first), `ra_grow_exact` / `ra_grow_part` (the header
swallows the free chunk after the user chunk, completely / partly), `ra_stub_inuse` / `ra_stub_free` /
`ra_writeHead_stub` (a header written over the header-less entry).

## B. `ra_UserAt` / `ra_user_parts`: what `User s p z` says about the table (header, successor with PINUSE);
`ra_sinv_same`, `ra_user_same` (ghost trace).
## C. `ra_wfs_inuse_window` (window replacement among in-use headers), `ra_split_core` (the split on the
final table; `ra_SplitU` = the `User` delta of `split_inuse_Spec` plus "no user chunk started at `p + nb`"),
`ra_split_inuse`, **`ra_split_inuse_spec`**.
## D–F. neighbours (`ra_next_top`, `ra_next_free`, `ra_GrowAt`), `ra_resizeAtTab_window`, `ra_ResizedTo`,
`ra_sinv_resizeTo`; table cores `ra_into_top_core`, `ra_merge_exhaust_core` (with `ra_Delisted`: the free chunk
taken off the free list — `ra_delisted_dv`, `ra_delisted_unlink`), `ra_dv_split_core`.
## G. the branches (`ra_shrink_split`, `ra_into_top`, `ra_into_dv_split`, `ra_grow_exhaust`,
`ra_into_next_split` = virtual exhaust + split) and **`ra_try_realloc_chunk_spec`**.
-/
namespace TinyVerif.Dl

/-! ## A. `set_inuse` as table surgery -/

/-- the PINUSE bit `set_inuse` reads from the word already there -/
def ra_pinAt (es : List Ent) (a : Nat) : Bool :=
  match findEnt es a with
  | some e => e.pin
  | none => false

theorem ra_pinAt_some {es : List Ent} {a : Nat} {e : Ent} (h : findEnt es a = some e) : ra_pinAt es a = e.pin := by
  simp [ra_pinAt, h]

theorem ra_pinAt_none {es : List Ent} {a : Nat} (h : findEnt es a = none) : ra_pinAt es a = false := by
  simp [ra_pinAt, h]

/-- `set_inuse` over a window of the table: the header write, then `orPin` at the end of the chunk -/
theorem ra_set_inuse_w {h h' : Heap} {pre ms post : List Ent} {a sz : Nat}
    (e : set_inuse h a sz = .ok h') (hes : h.ents = pre ++ ms ++ post)
    (hpre : ∀ q ∈ pre, q.addr < a)
    (hms : ∀ m ∈ ms, a ≤ m.addr ∧ (m.addr = a ∨ m.addr < a + sz))
    (hpost : ∀ q ∈ post, a < q.addr ∧ a + sz ≤ q.addr) :
    h' = orPin { h with ents := pre ++ { addr := a, size := sz, cin := true, pin := ra_pinAt h.ents a, pfoot := pfootAt h.ents a } :: post }
      (a + sz) := by
  unfold set_inuse at e
  dsimp only at e
  msimp at e
  obtain ⟨h1, e1, e2⟩ := e
  have r1 := writeHead_window_ok e1 hes hpre hms hpost
  subst r1
  exact e2.symm

/-- `orPin` on a word that holds no header: the header-less entry `{size := 0, pin := true}` appears -/
theorem ra_orPin_stub {h : Heap} {pre post : List Ent} {a : Nat} (hes : h.ents = pre ++ post)
    (hpre : ∀ q ∈ pre, q.addr < a) (hpost : ∀ q ∈ post, a < q.addr) :
    orPin h a = { h with ents := pre ++ { addr := a, size := 0, cin := false, pin := true, pfoot := 0 } :: post } := by
  have hn : modEnt (fun e => { e with pin := true }) h.ents a = none := by
    rw [hes]
    apply modEnt_none
    intro e he
    rcases List.mem_append.1 he with h1 | h1
    · have := hpre e h1; omega
    · have := hpost e h1; omega
  have hp := putEnt_window (pre := pre) (ms := []) (post := post)
    (e := { addr := a, size := 0, cin := false, pin := true, pfoot := 0 }) hpre (by simp)
    (fun q hq => ⟨hpost q hq, by have := hpost q hq; simp only; omega⟩)
  simp only [List.append_nil] at hp
  unfold orPin
  rw [hn]
  simp only
  rw [hes, hp]

/-- `{y with pin := true}` is `y` when PINUSE is already set -/
theorem ra_pin_true_eq {y : Ent} (h : y.pin = true) : ({ y with pin := true } : Ent) = y := by
  cases y; simp_all

theorem ra_lt_snoc {pre : List Ent} {np : Ent} {a : Nat} (hpre : ∀ q ∈ pre, q.addr < a) (hnp : np.addr < a) :
    ∀ q ∈ pre ++ [np], q.addr < a := by
  intro q hq
  rcases List.mem_append.1 hq with hq | hq
  · exact hpre q hq
  · rw [List.mem_singleton.1 hq]; exact hnp

theorem ra_lt_cons {post : List Ent} {y : Ent} {a : Nat} (hy : a < y.addr) (hpost : ∀ q ∈ post, y.addr < q.addr) :
    ∀ q ∈ y :: post, a < q.addr := by
  intro q hq
  rcases List.mem_cons.1 hq with rfl | hq
  · exact hy
  · exact Nat.lt_trans hy (hpost q hq)

/-- `set_inuse` ending exactly where the next header `y` starts: `y` gets its PINUSE bit -/
theorem ra_set_inuse_hit {h h' : Heap} {pre ms post : List Ent} {m y : Ent} {sz : Nat}
    (e : set_inuse h m.addr sz = .ok h') (hes : h.ents = pre ++ (m :: ms) ++ y :: post)
    (hpre : ∀ q ∈ pre, q.addr < m.addr) (hms : ∀ q ∈ ms, m.addr ≤ q.addr ∧ q.addr < m.addr + sz)
    (hsz : 0 < sz) (hy : y.addr = m.addr + sz) (hpost : ∀ q ∈ post, y.addr < q.addr) :
    h' = { h with ents := pre ++ [{ addr := m.addr, size := sz, cin := true, pin := m.pin, pfoot := m.pfoot },
      { y with pin := true }] ++ post } := by
  have hmy : m.addr < y.addr := hy ▸ Nat.lt_add_of_pos_right hsz
  have hfm : findEnt h.ents m.addr = some m := by
    rw [hes, List.append_assoc, findEnt_skip fun q hq => Nat.ne_of_lt (hpre q hq)]; exact findEnt_head
  have r := ra_set_inuse_w e hes hpre
    (by
      intro q hq
      rcases List.mem_cons.1 hq with rfl | hq
      · exact ⟨Nat.le_refl _, Or.inl rfl⟩
      · exact ⟨(hms q hq).1, Or.inr (hms q hq).2⟩)
    (fun q hq => ⟨ra_lt_cons hmy hpost q hq, hy ▸ (List.mem_cons.1 hq).elim (fun h => h ▸ Nat.le_refl _)
      (fun h => Nat.le_of_lt (hpost q h))⟩)
  have hp : ∀ q ∈ pre ++ [({ addr := m.addr, size := sz, cin := true, pin := m.pin, pfoot := m.pfoot } : Ent)],
      q.addr ≠ y.addr := fun q hq => Nat.ne_of_lt (ra_lt_snoc (np := { addr := m.addr, size := sz, cin := true, pin := m.pin, pfoot := m.pfoot })
        (fun q hq => Nat.lt_trans (hpre q hq) hmy) hmy q hq)
  rw [ra_pinAt_some hfm, pfootAt_some hfm, ← hy, orPin_at (x := y) (post := post) (by simp) hp] at r
  rw [r]
  simp

/-- `set_inuse` ending on a word that holds no header: the header-less entry appears there -/
theorem ra_set_inuse_stub {h h' : Heap} {pre ms post : List Ent} {m : Ent} {sz : Nat}
    (e : set_inuse h m.addr sz = .ok h') (hes : h.ents = pre ++ (m :: ms) ++ post)
    (hpre : ∀ q ∈ pre, q.addr < m.addr) (hms : ∀ q ∈ ms, m.addr ≤ q.addr ∧ q.addr < m.addr + sz)
    (hsz : 0 < sz) (hpost : ∀ q ∈ post, m.addr + sz < q.addr) :
    h' = { h with ents := pre ++ [{ addr := m.addr, size := sz, cin := true, pin := m.pin, pfoot := m.pfoot },
      { addr := m.addr + sz, size := 0, cin := false, pin := true, pfoot := 0 }] ++ post } := by
  have hlt : m.addr < m.addr + sz := Nat.lt_add_of_pos_right hsz
  have hfm : findEnt h.ents m.addr = some m := by
    rw [hes, List.append_assoc, findEnt_skip fun q hq => Nat.ne_of_lt (hpre q hq)]; exact findEnt_head
  have r := ra_set_inuse_w e hes hpre
    (by
      intro q hq
      rcases List.mem_cons.1 hq with rfl | hq
      · exact ⟨Nat.le_refl _, Or.inl rfl⟩
      · exact ⟨(hms q hq).1, Or.inr (hms q hq).2⟩)
    (fun q hq => ⟨Nat.lt_trans hlt (hpost q hq), Nat.le_of_lt (hpost q hq)⟩)
  rw [ra_pinAt_some hfm, pfootAt_some hfm,
    ra_orPin_stub (pre := pre ++ [{ addr := m.addr, size := sz, cin := true, pin := m.pin, pfoot := m.pfoot }])
      (post := post) (by simp) (ra_lt_snoc (fun q hq => Nat.lt_trans (hpre q hq) hlt) hlt) hpost] at r
  rw [r]
  simp

/-- **the two calls of a split together**: `set_inuse p nb; set_inuse (p+nb) rs` on the header `x` of
`nb + rs` bytes followed by `y` (the table in between is not sorted by size: it holds a header-less entry) -/
theorem ra_set_inuse_pair {h h1 h2 : Heap} {pre post : List Ent} {x y : Ent} {nb rs : Nat}
    (e1 : set_inuse h x.addr nb = .ok h1) (e2 : set_inuse h1 (x.addr + nb) rs = .ok h2)
    (hes : h.ents = pre ++ x :: y :: post) (hok : entsOk h.ents = true)
    (hnb : 0 < nb) (hrs : 0 < rs) (hsz : x.size = nb + rs) (hya : y.addr = x.addr + x.size) :
    h2 = { h with ents := pre ++ [{ addr := x.addr, size := nb, cin := true, pin := x.pin, pfoot := x.pfoot },
      { addr := x.addr + nb, size := rs, cin := true, pin := true, pfoot := 0 }, { y with pin := true }] ++ post } := by
  have hok2 : entsOk (pre ++ x :: y :: post) = true := by rw [hes] at hok; exact hok
  obtain ⟨o1, _, _, _, o5⟩ := entsOk_mid2 hok2
  have hy : y.addr = x.addr + nb + rs := by rw [hya, hsz, Nat.add_assoc]
  have hpost : ∀ q ∈ post, y.addr < q.addr := fun q hq => (o5 q hq).2
  have r1 := ra_set_inuse_stub e1 (pre := pre) (ms := []) (post := y :: post) (by rw [hes]; simp)
    (fun q hq => (o1 q hq).2) (by simp) hnb (ra_lt_cons (hy ▸ Nat.lt_add_of_pos_right hrs) hpost)
  subst r1
  have r2 := ra_set_inuse_hit e2 (m := { addr := x.addr + nb, size := 0, cin := false, pin := true, pfoot := 0 })
    (pre := pre ++ [{ addr := x.addr, size := nb, cin := true, pin := x.pin, pfoot := x.pfoot }]) (ms := [])
    (post := post) (y := y) (by simp)
    (ra_lt_snoc (fun q hq => Nat.lt_trans (o1 q hq).2 (Nat.lt_add_of_pos_right hnb)) (Nat.lt_add_of_pos_right hnb))
    (by simp) hrs hy hpost
  rw [r2]
  simp

/-- the same two headers written in the order `memalign` uses for the leader: the second header first
(strictly inside `x`, on a word that holds no header: PINUSE reads as clear), then the first one, whose
`orPin` sets the PINUSE bit of the second -/
theorem ra_set_inuse_pair_rev {h h1 h2 : Heap} {pre post : List Ent} {x y : Ent} {nb rs : Nat}
    (e1 : set_inuse h (x.addr + nb) rs = .ok h1) (e2 : set_inuse h1 x.addr nb = .ok h2)
    (hes : h.ents = pre ++ x :: y :: post) (hok : entsOk h.ents = true)
    (hnb : 0 < nb) (hrs : 0 < rs) (hsz : x.size = nb + rs) (hya : y.addr = x.addr + x.size) :
    h2 = { h with ents := pre ++ [{ addr := x.addr, size := nb, cin := true, pin := x.pin, pfoot := x.pfoot },
      { addr := x.addr + nb, size := rs, cin := true, pin := true, pfoot := 0 }, { y with pin := true }] ++ post } := by
  have hok2 : entsOk (pre ++ x :: y :: post) = true := by rw [hes] at hok; exact hok
  obtain ⟨o1, _, _, _, o5⟩ := entsOk_mid2 hok2
  have hxm : x ∈ h.ents := by rw [hes]; simp
  have hy : y.addr = x.addr + nb + rs := by rw [hya, hsz, Nat.add_assoc]
  have hxr : x.addr < x.addr + nb := Nat.lt_add_of_pos_right hnb
  have hry : x.addr + nb < y.addr := hy ▸ Nat.lt_add_of_pos_right hrs
  have hpost : ∀ q ∈ post, y.addr < q.addr := fun q hq => (o5 q hq).2
  have hpre : ∀ q ∈ pre ++ [x], q.addr < x.addr + nb := ra_lt_snoc (fun q hq => Nat.lt_trans (o1 q hq).2 hxr) hxr
  have hfn : findEnt h.ents (x.addr + nb) = none :=
    findEnt_none (entsOk_no_inside hok hxm hxr (by rw [← hya]; exact hry))
  -- first call: the second header, strictly inside `x`; `orPin` on `y`
  have r1 := ra_set_inuse_w e1 (pre := pre ++ [x]) (ms := []) (post := y :: post) (by rw [hes]; simp) hpre (by simp)
    (fun q hq => ⟨ra_lt_cons hry hpost q hq, hy ▸ (List.mem_cons.1 hq).elim (fun h => h ▸ Nat.le_refl _)
      (fun h => Nat.le_of_lt (hpost q h))⟩)
  rw [ra_pinAt_none hfn, pfootAt_none hfn, ← hy,
    orPin_at (pre := pre ++ [x, { addr := x.addr + nb, size := rs, cin := true, pin := false, pfoot := 0 }])
      (x := y) (post := post) (by simp)
      (fun q hq => Nat.ne_of_lt (ra_lt_snoc (pre := pre ++ [x]) (fun q hq => Nat.lt_trans (hpre q hq) hry) hry q
        (by simpa using hq)))] at r1
  subst r1
  -- second call: the first header over `x`; its `orPin` hits the second header
  have r2 := ra_set_inuse_hit e2 (pre := pre) (ms := [])
    (y := { addr := x.addr + nb, size := rs, cin := true, pin := false, pfoot := 0 })
    (post := { y with pin := true } :: post) (by simp) (fun q hq => (o1 q hq).2) (by simp) hnb rfl
    (ra_lt_cons hry hpost)
  rw [r2]
  simp

/-- `set_inuse p nb` on a user chunk followed by the header `x`, with `nb` = both sizes together: the
header swallows `x`, `orPin` hits the header `y` after `x` -/
theorem ra_grow_exact {h h1 : Heap} {pre post : List Ent} {e x y : Ent} {nb : Nat}
    (e1 : set_inuse h e.addr nb = .ok h1) (hes : h.ents = pre ++ e :: x :: y :: post)
    (hok : entsOk h.ents = true) (hxa : x.addr = e.addr + e.size) (hya : y.addr = x.addr + x.size)
    (hnb : nb = e.size + x.size) :
    h1 = { h with ents := pre ++ [{ addr := e.addr, size := nb, cin := true, pin := e.pin, pfoot := e.pfoot },
      { y with pin := true }] ++ post } := by
  have hok1 : entsOk (pre ++ e :: x :: y :: post) = true := by rw [hes] at hok; exact hok
  have hok2 : entsOk ((pre ++ [e]) ++ x :: y :: post) = true := by simpa using hok1
  obtain ⟨o1, o2, _, _, _⟩ := entsOk_mid2 hok1
  obtain ⟨_, q2, _, _, q5⟩ := entsOk_mid2 hok2
  have r := ra_set_inuse_hit e1 (pre := pre) (ms := [x]) (y := y) (post := post) (by rw [hes]; simp)
    (fun q hq => (o1 q hq).2) (by simp only [List.mem_singleton]; rintro q rfl; omega) (by omega) (by omega)
    (fun q hq => (q5 q hq).2)
  rw [r]

/-- `set_inuse p nb` with `nb` ending strictly inside `x`: the header swallows `x`, `orPin` leaves the
header-less entry at `p + nb` -/
theorem ra_grow_part {h h1 : Heap} {pre post : List Ent} {e x y : Ent} {nb : Nat}
    (e1 : set_inuse h e.addr nb = .ok h1) (hes : h.ents = pre ++ e :: x :: y :: post)
    (hok : entsOk h.ents = true) (hxa : x.addr = e.addr + e.size) (hya : y.addr = x.addr + x.size)
    (hlt : e.size < nb) (hfit : nb < e.size + x.size) :
    h1 = { h with ents := pre ++ [{ addr := e.addr, size := nb, cin := true, pin := e.pin, pfoot := e.pfoot },
      { addr := e.addr + nb, size := 0, cin := false, pin := true, pfoot := 0 }] ++ y :: post } := by
  have hok1 : entsOk (pre ++ e :: x :: y :: post) = true := by rw [hes] at hok; exact hok
  have hok2 : entsOk ((pre ++ [e]) ++ x :: y :: post) = true := by simpa using hok1
  obtain ⟨o1, _, _, _, _⟩ := entsOk_mid2 hok1
  obtain ⟨_, _, _, _, q5⟩ := entsOk_mid2 hok2
  have r := ra_set_inuse_stub e1 (pre := pre) (ms := [x]) (post := y :: post) (by rw [hes]; simp)
    (fun q hq => (o1 q hq).2) (by simp only [List.mem_singleton]; rintro q rfl; omega) (by omega)
    (ra_lt_cons (by omega) (fun q hq => (q5 q hq).2))
  rw [r]

/-- the header-less entry becomes an in-use header (`set_inuse` of the remainder) -/
theorem ra_stub_inuse {h h2 : Heap} {pre post : List Ent} {np y : Ent} {a rs : Nat}
    (e2 : set_inuse h a rs = .ok h2)
    (hes : h.ents = pre ++ [np, { addr := a, size := 0, cin := false, pin := true, pfoot := 0 }] ++ y :: post)
    (hpre : ∀ q ∈ pre, q.addr < a) (hnp : np.addr < a) (hya : y.addr = a + rs) (hrs : 0 < rs)
    (hpost : ∀ q ∈ post, y.addr < q.addr) :
    h2 = { h with ents := pre ++ [np, { addr := a, size := rs, cin := true, pin := true, pfoot := 0 },
      { y with pin := true }] ++ post } := by
  have r := ra_set_inuse_hit e2 (m := { addr := a, size := 0, cin := false, pin := true, pfoot := 0 })
    (pre := pre ++ [np]) (ms := []) (y := y) (post := post) (by rw [hes]; simp) (ra_lt_snoc hpre hnp) (by simp)
    hrs hya hpost
  rw [r]
  simp

theorem ra_writeHead_stub {h h' : Heap} {pre post : List Ent} {np : Ent} {a sz : Nat} {c pn : Bool}
    (e : writeHead h a sz c pn = .ok h')
    (hes : h.ents = pre ++ [np, { addr := a, size := 0, cin := false, pin := true, pfoot := 0 }] ++ post)
    (hpre : ∀ q ∈ pre, q.addr < a) (hnp : np.addr < a) (hsz : 0 < sz) (hpost : ∀ q ∈ post, a + sz ≤ q.addr) :
    h' = { h with ents := pre ++ [np, { addr := a, size := sz, cin := c, pin := pn, pfoot := 0 }] ++ post } := by
  have hfs : findEnt h.ents a = some { addr := a, size := 0, cin := false, pin := true, pfoot := 0 } := by
    rw [hes, show pre ++ [np, ({ addr := a, size := 0, cin := false, pin := true, pfoot := 0 } : Ent)] ++ post =
      (pre ++ [np]) ++ ({ addr := a, size := 0, cin := false, pin := true, pfoot := 0 } : Ent) :: post by simp,
      findEnt_skip fun q hq => Nat.ne_of_lt (ra_lt_snoc hpre hnp q hq)]
    exact findEnt_head
  have r := writeHead_window_ok e (pre := pre ++ [np])
    (ms := [{ addr := a, size := 0, cin := false, pin := true, pfoot := 0 }]) (post := post)
    (by rw [hes]; simp) (ra_lt_snoc hpre hnp)
    (by simp only [List.mem_singleton]; rintro q rfl; exact ⟨Nat.le_refl _, Or.inl rfl⟩)
    (fun q hq => ⟨Nat.lt_of_lt_of_le (Nat.lt_add_of_pos_right hsz) (hpost q hq), hpost q hq⟩)
  rw [pfootAt_some hfs] at r
  rw [r]
  simp

/-- the header-less entry becomes the header of a free chunk (`set_size_and_pinuse_of_free_chunk` of the
remainder, then `clear_pinuse` of the header after it) -/
theorem ra_stub_free {h h2 h3 : Heap} {pre post : List Ent} {np y : Ent} {a rs : Nat}
    (e2 : set_size_and_pinuse_of_free_chunk h a rs = .ok h2) (e3 : clearPin h2 (a + rs) = .ok h3)
    (hes : h.ents = pre ++ [np, { addr := a, size := 0, cin := false, pin := true, pfoot := 0 }] ++ y :: post)
    (hpre : ∀ q ∈ pre, q.addr < a) (hnp : np.addr < a) (hya : y.addr = a + rs) (hrs : 0 < rs)
    (hpost : ∀ q ∈ post, y.addr < q.addr) :
    h3 = { h with ents := pre ++ [np, { addr := a, size := rs, cin := false, pin := true, pfoot := 0 },
      { y with pfoot := rs, pin := false }] ++ post } := by
  have hay : a < y.addr := hya ▸ Nat.lt_add_of_pos_right hrs
  unfold set_size_and_pinuse_of_free_chunk at e2
  msimp at e2
  obtain ⟨h1, e1, e2⟩ := e2
  have r1 := ra_writeHead_stub e1 hes hpre hnp hrs
    (fun q hq => hya ▸ (List.mem_cons.1 hq).elim (fun h => h ▸ Nat.le_refl _) (fun h => Nat.le_of_lt (hpost q h)))
  subst r1
  have hpre2 : ∀ q ∈ pre ++ [np, { addr := a, size := rs, cin := false, pin := true, pfoot := 0 }], q.addr ≠ y.addr :=
    fun q hq => Nat.ne_of_lt (ra_lt_snoc (pre := pre ++ [np]) (fun q hq => Nat.lt_trans (ra_lt_snoc hpre hnp q hq) hay)
      hay q (by simpa using hq))
  have r2 := setFoot_at_ok e2 (pre := pre ++ [np, { addr := a, size := rs, cin := false, pin := true, pfoot := 0 }])
    (x := y) (post := post) (by simp) hya hpre2
  subst r2
  have r3 := clearPin_at_ok e3 (pre := pre ++ [np, { addr := a, size := rs, cin := false, pin := true, pfoot := 0 }])
    (x := { y with pfoot := rs }) (post := post) (by simp) hya hpre2
  rw [r3]
  simp

/-! ## B. a user chunk in the table; states that differ in ghost fields only -/

/-- what `User s p z` says about the table: the header `e` at `p`, in use, no fencepost, no record, and
the header `y` right after it (whose PINUSE bit is set) -/
structure ra_UserAt (s : St) (p z : Nat) (pre post : List Ent) (e y : Ent) (g : Seg) : Prop where
  hes : s.h.ents = pre ++ e :: y :: post
  ea : e.addr = p
  es : e.size = z
  ec : e.cin = true
  er : isRecord s.segs e = false
  z8 : z ≠ 8
  p16 : p % 16 = 0
  z16 : z % 16 = 0
  zge : 16 ≤ z
  hg : g ∈ s.segs
  ge : inSeg g e = true
  gy : inSeg g y = true
  ya : y.addr = p + z
  yp : y.pin = true

theorem ra_user_parts {s : St} (w : WFS s) {p z : Nat} (hu : User s p z) :
    ∃ pre post e y g, ra_UserAt s p z pre post e y g := by
  obtain ⟨e, he, hc, hz, h8, hr⟩ := hu
  obtain ⟨hm, ha⟩ := findEnt_some he
  obtain ⟨pre, post, hes⟩ := List.append_of_mem hm
  obtain ⟨g, hg, hge⟩ := w.struct.seg_of hm
  have hnt : isTrailerEnd e = false := by
    simp only [isTrailerEnd, hc, Bool.not_true, Bool.false_and, Bool.false_or, decide_eq_false_iff_not]
    exact fun h => h8 (hz.symm.trans h)
  obtain ⟨y, post', hp, hya, hgy, hl⟩ := next_entry w.struct hes hg hge hnt
  subst hp
  have hyp : y.pin = true := by
    simp only [linkOk, Bool.and_eq_true, beq_iff_eq] at hl
    rw [hl.1, hc]
  have hsh : e.addr % 16 = 0 ∧ e.size % 16 = 0 ∧ 16 ≤ e.size := by
    rcases shapeOk_mem w.shape hm with h | h
    · exact absurd (hz.symm.trans h.1) h8
    · exact h
  exact ⟨pre, post', e, y, g, hes, ha, hz, hc, hr, h8, ha ▸ hsh.1, hz ▸ hsh.2.1, hz ▸ hsh.2.2, hg, hge, hgy,
    by rw [hya, ha, hz], hyp⟩

theorem ra_UserAt.mem_e {s : St} {p z : Nat} {pre post : List Ent} {e y : Ent} {g : Seg}
    (u : ra_UserAt s p z pre post e y g) : e ∈ s.h.ents := by rw [u.hes]; simp

theorem ra_UserAt.mem_y {s : St} {p z : Nat} {pre post : List Ent} {e y : Ent} {g : Seg}
    (u : ra_UserAt s p z pre post e y g) : y ∈ s.h.ents := by rw [u.hes]; simp

theorem ra_UserAt.find {s : St} (w : WFS s) {p z : Nat} {pre post : List Ent} {e y : Ent} {g : Seg}
    (u : ra_UserAt s p z pre post e y g) : findEnt s.h.ents p = some e := by
  rw [← u.ea]; exact entsOk_find e u.mem_e w.ents

/-- the user chunk is not `top` -/
theorem ra_UserAt.ne_top {s : St} (w : WFS s) {p z : Nat} {pre post : List Ent} {e y : Ent} {g : Seg}
    (u : ra_UserAt s p z pre post e y g) : p ≠ s.h.top := by
  intro heq
  obtain ⟨_, _, _, xt, _, _, _, htes, hxta, hxtf, _⟩ := w.top_parts (w.topsize_ne u.hg)
  have hxtm : xt ∈ s.h.ents := by rw [htes]; simp
  have := entsOk_addr_inj w.ents u.mem_e hxtm (by rw [u.ea, hxta, heq])
  subst this
  have := u.ec
  rw [(isFree_iff.1 hxtf).1] at this
  cases this

/-- no segment record points into the middle of a chunk -/
theorem ra_not_record_inside {s : St} (w : WFS s) (hr : RecsOk s) {x : Ent} (hx : x ∈ s.h.ents) {a : Nat}
    (h1 : x.addr < a) (h2 : a < x.addr + x.size) (e' : Ent) (he' : e'.addr = a) : isRecord s.segs e' = false := by
  cases hrec : isRecord s.segs e' with
  | false => rfl
  | true =>
    exfalso
    obtain ⟨g, hg, hga⟩ := gl_isRecord_iff.1 hrec
    obtain ⟨_, e, he, _⟩ := hr g hg (by omega)
    rw [hga, he', Nat.add_sub_cancel] at he
    exact entsOk_no_inside w.ents hx h1 h2 e (findEnt_some he).1 (findEnt_some he).2

/-- no user chunk starts in the middle of a chunk -/
theorem ra_no_user_inside {s : St} (w : WFS s) {x : Ent} (hx : x ∈ s.h.ents) {a : Nat}
    (h1 : x.addr < a) (h2 : a < x.addr + x.size) : ∀ z, ¬ User s a z := by
  rintro z ⟨e, he, _⟩
  exact entsOk_no_inside w.ents hx h1 h2 e (findEnt_some he).1 (findEnt_some he).2

/-- `SInv` and `User` do not look at the ghost trace -/
theorem ra_sinv_same {s : St} (hi : SInv s) {H : Heap} (hh : SameHeap H s.h) : SInv { s with h := H } :=
  hi.of_same hh rfl rfl rfl

theorem ra_user_same {s : St} {H : Heap} (hh : H.ents = s.h.ents) (a z : Nat) :
    User { s with h := H } a z ↔ User s a z := by
  unfold User
  show (∃ e, findEnt H.ents a = some e ∧ _) ↔ _
  rw [hh]

theorem ra_sameHeap_tag (h : Heap) (t : String) : SameHeap (h.tag t) h := ⟨rfl, rfl, rfl, rfl, rfl, rfl, rfl⟩

/-- `HeapIs` names the fields of the heap itself -/
theorem ra_heapIs_self (h : Heap) : HeapIs h h.ents h.sbins h.tbins h.dv h.dvsize h.top h.topsize :=
  ⟨rfl, rfl, rfl, rfl, rfl, rfl, rfl⟩

/-! ## C. window replacement among in-use headers; the split -/

theorem ra_freeSet_nil {l : List Ent} (h : ∀ e ∈ l, e.cin = true) : freeSet l = [] := by
  apply List.eq_nil_iff_forall_not_mem.2
  intro a ha
  obtain ⟨e, he, hf, _⟩ := mem_freeSet.1 ha
  have := h e he
  rw [(isFree_iff.1 hf).1] at this
  cases this

/-- headers outside the window are found unchanged in the new table -/
theorem ra_find_outer {pre mid mid' post : List Ent} (hok' : entsOk (pre ++ mid' ++ post) = true) {x : Ent}
    (hx : x ∈ pre ++ mid ++ post) (hn : x ∉ mid) : findEnt (pre ++ mid' ++ post) x.addr = some x := by
  refine entsOk_find x ?_ hok'
  simp only [List.mem_append] at hx ⊢
  rcases hx with (h | h) | h
  · exact Or.inl (Or.inl h)
  · exact absurd h hn
  · exact Or.inr h

/-- a header of the new table outside the new window is a header of the old table -/
theorem ra_mem_outer {pre mid mid' post : List Ent} {x : Ent} (hx : x ∈ pre ++ mid' ++ post) (hn : x ∉ mid') :
    x ∈ pre ++ mid ++ post := by
  simp only [List.mem_append] at hx ⊢
  rcases hx with (h | h) | h
  · exact Or.inl (Or.inl h)
  · exact absurd h hn
  · exact Or.inr h

theorem ra_fencesOld_window {pre mid mid' post : List Ent}
    (h8 : ∀ e ∈ mid', e.size = 8 → ∃ e0 ∈ mid, e0.addr = e.addr ∧ e0.size = 8) :
    FencesOld (pre ++ mid ++ post) (pre ++ mid' ++ post) := by
  intro y' hy' hy8
  by_cases hm : y' ∈ mid'
  · obtain ⟨e0, he0, h1, h2⟩ := h8 y' hm hy8
    exact ⟨e0, by simp [he0], h1, h2⟩
  · exact ⟨y', ra_mem_outer hy' hm, rfl, hy8⟩

/-- **window replacement among in-use headers**: old and new window consist of in-use headers, nothing
else of the heap changes -/
theorem ra_wfs_inuse_window {s : St} (w : WFS s) {H : Heap} {pre mid mid' post : List Ent}
    (hes : s.h.ents = pre ++ mid ++ post)
    (hH : HeapIs H (pre ++ mid' ++ post) s.h.sbins s.h.tbins s.h.dv s.h.dvsize s.h.top s.h.topsize)
    (hst : StructOk (pre ++ mid' ++ post) s.segs s.h.top) (hne : s.segs ≠ [])
    (hmid : ∀ e ∈ mid, e.cin = true) (hmid' : ∀ e ∈ mid', e.cin = true) : WFS { s with h := H } := by
  have hok' : entsOk H.ents = true := by rw [hH.ents]; exact hst.ents
  have hnf : ∀ e ∈ mid, isFree e = true → False := by
    intro e he hf
    have := hmid e he
    rw [(isFree_iff.1 hf).1] at this
    cases this
  have hfl : freeList H = freeList s.h := by
    unfold freeList binned; rw [hH.top, hH.dv, hH.sbins, hH.tbins]
  have hbins := bins_window w hes hH.ents hok' hH.sbins hH.tbins (fun e he hf => (hnf e he hf).elim)
  refine wfs_of_parts w (by rw [hH.ents, hH.top]; exact hst) ?_ hbins.1 hbins.2 ?_ ?_
  · refine freeListOk_window hes hH.ents w.ents hok' w.freeList ?_ ?_
    · rw [hfl]; exact ((freeListOk_iff s.h).1 w.freeList).1
    · intro a
      rw [hfl, ra_freeSet_nil hmid, ra_freeSet_nil hmid']
      simp
  · exact dvOk_window w hes hH.ents hok' hH.dv hH.dvsize (fun e he hf => (hnf e he hf).elim)
  · exact topOk_window w hes hH.ents hok' hne hH.top hH.topsize
      (fun e he => ⟨fun hf => (hnf e he hf).elim, Or.inl (hmid e he)⟩)

/-- how the user chunks change in a split -/
def ra_SplitU (s s' : St) (p nb rs : Nat) : Prop :=
  (∀ z, ¬ User s (p + nb) z) ∧
  ∀ a z, User s' a z ↔ ((a ≠ p ∧ User s a z) ∨ (a = p ∧ z = nb) ∨ (a = p + nb ∧ z = rs))

/-- **the split**, on the final table: the user chunk `e` of `nb + rs` bytes became the two user chunks
`np` (`nb` bytes) and `nr` (`rs` bytes) -/
theorem ra_split_core {s : St} (hi : SInv s) {p nb rs : Nat} {pre post : List Ent} {e y : Ent} {g : Seg}
    (u : ra_UserAt s p (nb + rs) pre post e y g)
    (hnb16 : nb % 16 = 0) (hnb : 16 ≤ nb) (hrs16 : rs % 16 = 0) (hrs : 16 ≤ rs) {H : Heap}
    (hH : HeapIs H (pre ++ [{ addr := p, size := nb, cin := true, pin := e.pin, pfoot := e.pfoot },
      { addr := p + nb, size := rs, cin := true, pin := true, pfoot := 0 }, { y with pin := true }] ++ post)
      s.h.sbins s.h.tbins s.h.dv s.h.dvsize s.h.top s.h.topsize) :
    SInv { s with h := H } ∧ ra_SplitU s { s with h := H } p nb rs := by
  have w := hi.wfs
  have hu : User s p (nb + rs) := ⟨e, u.find w, u.ec, u.es, u.z8, u.er⟩
  have hem := u.mem_e
  have hea := u.ea
  have hes : s.h.ents = pre ++ [e] ++ (y :: post) := by rw [u.hes]; simp
  have hnb0 : 0 < nb := Nat.lt_of_lt_of_le (by decide) hnb
  have hrs0 : 0 < rs := Nat.lt_of_lt_of_le (by decide) hrs
  -- `p + nb` lies strictly inside `e`
  have hin1 : e.addr < p + nb := hea ▸ Nat.lt_add_of_pos_right hnb0
  have hin2 : p + nb < e.addr + e.size := by
    rw [hea, u.es]; exact Nat.add_lt_add_left (Nat.lt_add_of_pos_right hrs0) p
  let np : Ent := { addr := p, size := nb, cin := true, pin := e.pin, pfoot := e.pfoot }
  let nr : Ent := { addr := p + nb, size := rs, cin := true, pin := true, pfoot := 0 }
  have np1 : np.addr = p := rfl
  have np2 : np.size = nb := rfl
  have np3 : np.cin = true := rfl
  have nr1 : nr.addr = p + nb := rfl
  have nr2 : nr.size = rs := rfl
  have nr3 : nr.cin = true := rfl
  have nr4 : nr.pin = true := rfl
  have hH' : HeapIs H (pre ++ [np, nr] ++ (y :: post)) s.h.sbins s.h.tbins s.h.dv s.h.dvsize s.h.top s.h.topsize := by
    rw [ra_pin_true_eq u.yp] at hH
    obtain ⟨h1, h2, h3, h4, h5, h6, h7⟩ := hH
    exact ⟨by rw [h1]; simp [np, nr], h2, h3, h4, h5, h6, h7⟩
  clear hH
  have hst : StructOk (pre ++ (np :: [nr]) ++ (y :: post)) s.segs s.h.top :=
    struct_window (m := e) (ms := []) (hes ▸ w.struct) w.segsDisjoint u.hg
      (by intro x hx; rw [List.mem_singleton.1 hx]; exact u.ge)
      (by
        simp only [contig, Bool.and_eq_true, decide_eq_true_eq, Bool.and_true]
        exact ⟨np1.trans hea.symm, by rw [nr1, np2, hea]⟩)
      (by simp only [endE, lastE]; rw [nr1, nr2, hea, u.es, Nat.add_assoc])
      (shapeOk_cons_chunk (np1 ▸ u.p16) (np2 ▸ hnb16) (np2 ▸ hnb)
        (shapeOk_cons_chunk (nr1 ▸ mod16_add u.p16 hnb16) (nr2 ▸ hrs16) (nr2 ▸ hrs) rfl))
      (by
        intro h
        simp only [lastE, isTrailerEnd, u.ec, Bool.not_true, Bool.false_and, Bool.false_or] at h
        exact absurd (u.es.symm.trans (of_decide_eq_true h)) u.z8)
      (fun _ _ => Iff.rfl)
      ⟨rfl, fun _ => ⟨u.ec.symm, rfl⟩⟩
      ⟨by simp only [lastE]; rw [nr3, u.ec], fun hf => by simp [lastE, isFree, nr3] at hf⟩
      (by simp [tagsFrom, linkOk, isFree, np3, nr4])
  have hne : s.segs ≠ [] := List.ne_nil_of_mem u.hg
  have w' : WFS { s with h := H } := ra_wfs_inuse_window w hes hH' hst hne
    (by intro x hx; rw [List.mem_singleton.1 hx]; exact u.ec)
    (by
      intro x hx
      simp only [List.mem_cons, List.not_mem_nil, or_false] at hx
      rcases hx with rfl | rfl
      · exact np3
      · exact nr3)
  have hok' : entsOk (pre ++ [np, nr] ++ (y :: post)) = true := hst.ents
  have hfnp : findEnt H.ents p = some np := by
    rw [hH'.ents, ← np1]; exact entsOk_find np (by simp) hok'
  have hfnr : findEnt H.ents (p + nb) = some nr := by
    rw [hH'.ents, ← nr1]; exact entsOk_find nr (by simp) hok'
  -- in-use headers other than `e` are kept
  have hkept : ∀ x ∈ s.h.ents, x.cin = true → x.addr ≠ p →
      ∃ x', findEnt H.ents x.addr = some x' ∧ x'.size = x.size ∧ x'.cin = true := by
    intro x hx hc hne
    refine ⟨x, ?_, rfl, hc⟩
    rw [hH'.ents]
    rw [hes] at hx
    refine ra_find_outer hok' hx ?_
    intro hm
    rw [List.mem_singleton.1 hm] at hne
    exact hne hea
  have hcin : ∀ a, a ∈ cinSet H.ents → a = p ∨ a = p + nb ∨ a ∈ cinSet s.h.ents := by
    intro a ha
    obtain ⟨x, hx, hc, hxa⟩ := mem_cinSet.1 ha
    rw [hH'.ents] at hx
    by_cases hm : x ∈ [np, nr]
    · simp only [List.mem_cons, List.not_mem_nil, or_false] at hm
      rcases hm with rfl | rfl
      · exact Or.inl (hxa.symm.trans np1)
      · exact Or.inr (Or.inl (hxa.symm.trans nr1))
    · refine Or.inr (Or.inr (mem_cinSet.2 ⟨x, ?_, hc, hxa⟩))
      rw [hes]; exact ra_mem_outer hx hm
  have hk : NonUserKept s H.ents := gl_nonUserKept_except (gl_user_except w.ents hu) hkept
  have hfo : FencesOld s.h.ents H.ents := by
    rw [hes, hH'.ents]
    refine ra_fencesOld_window ?_
    intro x hx h8
    simp only [List.mem_cons, List.not_mem_nil, or_false] at hx
    rcases hx with rfl | rfl
    · rw [np2] at h8; rw [h8] at hnb; exact absurd hnb (by decide)
    · rw [nr2] at h8; rw [h8] at hrs; exact absurd hrs (by decide)
  have hins : ∀ z, ¬ User s (p + nb) z := ra_no_user_inside w hem hin1 hin2
  have hpr : p ≠ p + nb := Nat.ne_of_lt (Nat.lt_add_of_pos_right hnb0)
  refine ⟨gl_sinv_of_kept hi w' hk hfo, hins, ?_⟩
  intro a z
  by_cases hap : a = p
  · subst hap
    have h1 : User { s with h := H } a z ↔ z = np.size :=
      gl_user_at (s := { s with h := H }) hfnp np3 (fun h => by rw [np2] at h; rw [h] at hnb; exact absurd hnb (by decide))
        (by rw [gl_isRecord_addr (e := e) (np1.trans hea.symm)]; exact u.er)
    rw [h1, np2]
    constructor
    · intro h; exact Or.inr (Or.inl ⟨rfl, h⟩)
    · rintro (⟨h, _⟩ | ⟨_, h⟩ | ⟨h, _⟩)
      · exact absurd rfl h
      · exact h
      · exact absurd h hpr
  · by_cases har : a = p + nb
    · subst har
      have h1 : User { s with h := H } (p + nb) z ↔ z = nr.size :=
        gl_user_at (s := { s with h := H }) hfnr nr3 (fun h => by rw [nr2] at h; rw [h] at hrs; exact absurd hrs (by decide))
          (ra_not_record_inside w hi.recs hem hin1 hin2 nr nr1)
      rw [h1, nr2]
      constructor
      · intro h; exact Or.inr (Or.inr ⟨rfl, h⟩)
      · rintro (⟨_, h⟩ | ⟨h, _⟩ | ⟨_, h⟩)
        · exact absurd h (hins z)
        · exact absurd h.symm hpr
        · exact h
    · rw [gl_user_away (P := fun a => a = p ∨ a = p + nb) w.ents (fun a h => or_assoc.2 (hcin a h))
        (fun x hx hc hn => hkept x hx hc (fun h => hn (Or.inl h))) (not_or.2 ⟨hap, har⟩)]
      constructor
      · intro h; exact Or.inl ⟨hap, h⟩
      · rintro (⟨_, h⟩ | ⟨h, _⟩ | ⟨h, _⟩)
        · exact h
        · exact absurd h hap
        · exact absurd h har

/-- **`split_inuse_Spec`**, with the additional fact that no user chunk started at `p + nb` before -/
theorem ra_split_inuse {s : St} (hi : SInv s) {p nb rsize : Nat} {h1 h2 : Heap} (hu : User s p (nb + rsize))
    (hnb16 : nb % 16 = 0) (hnb : 16 ≤ nb) (hrs16 : rsize % 16 = 0) (hrs : 16 ≤ rsize)
    (e1 : set_inuse s.h p nb = .ok h1) (e2 : set_inuse h1 (p + nb) rsize = .ok h2) :
    SInv { s with h := h2 } ∧ ra_SplitU s { s with h := h2 } p nb rsize := by
  obtain ⟨pre, post, e, y, g, u⟩ := ra_user_parts hi.wfs hu
  have hea := u.ea
  subst hea
  have r := ra_set_inuse_pair e1 e2 u.hes hi.wfs.ents (by omega) (by omega) u.es (by rw [u.ya, u.es])
  exact ra_split_core hi u hnb16 hnb hrs16 hrs (by rw [r]; exact ⟨rfl, rfl, rfl, rfl, rfl, rfl, rfl⟩)

theorem ra_split_inuse_spec : split_inuse_Spec := by
  intro s hi p nb rsize h1 h2 hu hnb16 hnb hrs16 hrs e1 e2
  obtain ⟨r1, _, r2⟩ := ra_split_inuse hi hu hnb16 (by omega) hrs16 (by omega) e1 e2
  exact ⟨r1, r2⟩

/-! ## D. growing in place: the neighbours of a user chunk -/

/-- the header after a user chunk is `top`: then the foot word follows -/
theorem ra_next_top {s : St} (w : WFS s) {p z : Nat} {pre post : List Ent} {e y : Ent} {g : Seg}
    (u : ra_UserAt s p z pre post e y g) (ht : p + z = s.h.top) :
    ∃ f post' rest, post = f :: post' ∧ s.segs = g :: rest ∧ isFree y = true ∧ y.size = s.h.topsize ∧
      f.addr = s.h.top + s.h.topsize ∧ f.cin = false ∧ f.pin = false ∧ f.size = 80 ∧ inSeg g f = true ∧
      g.base ≤ s.h.top ∧ s.h.top + s.h.topsize + 80 = g.base + g.size ∧ s.h.top ≠ 0 ∧ 0 < s.h.topsize := by
  obtain ⟨g0, rest, tpre, xt, ft, tpost, hsegs, htes, hxta, hxtf, hxts, hfta, hftc, hftp, hfts, hgb, hge, ht0, hgx, hgf⟩ :=
    w.top_parts (w.topsize_ne u.hg)
  have hxtm : xt ∈ s.h.ents := by rw [htes]; simp
  have hftm : ft ∈ s.h.ents := by rw [htes]; simp
  have hyx : y = xt := entsOk_addr_inj w.ents u.mem_y hxtm (by rw [u.ya, hxta, ht])
  subst hyx
  have hg0 : g0 ∈ s.segs := by rw [hsegs]; exact List.mem_cons_self
  have hgg : g0 = g := gl_seg_unique w.segsDisjoint hg0 u.hg hgx u.gy rfl
  subst hgg
  have hes' : s.h.ents = (pre ++ [e]) ++ y :: post := by rw [u.hes]; simp
  obtain ⟨f, post', hp, hfa, hgf', _⟩ := next_entry w.struct hes' u.hg u.gy (isTrailerEnd_free w.shape hxtm hxtf)
  have hfm : f ∈ s.h.ents := by rw [hes', hp]; simp
  have hff : f = ft := entsOk_addr_inj w.ents hfm hftm (by rw [hfa, hfta, hxta, hxts])
  subst hff
  have := w.topsize_ne u.hg
  exact ⟨f, post', rest, hp, hsegs, hxtf, hxts, hfta, hftc, hftp, hfts, hgf, hgb, hge, ht0, by omega⟩

/-- the header after a user chunk is a free chunk other than `top`: then an in-use header follows -/
theorem ra_next_free {s : St} (w : WFS s) {p z : Nat} {pre post : List Ent} {e y : Ent} {g : Seg}
    (u : ra_UserAt s p z pre post e y g) (hf : isFree y = true) (hnt : y.addr ≠ s.h.top) :
    ∃ c post', post = c :: post' ∧ c.addr = y.addr + y.size ∧ inSeg g c = true ∧ c.cin = true ∧ c.pin = false ∧
      c.pfoot = y.size := by
  have hes' : s.h.ents = (pre ++ [e]) ++ y :: post := by rw [u.hes]; simp
  obtain ⟨c, post', hp, hca, hgc, hl⟩ := next_entry w.struct hes' u.hg u.gy (isTrailerEnd_free w.shape u.mem_y hf)
  obtain ⟨l1, l2, l3⟩ := linkOk_free hl hf hnt
  exact ⟨c, post', hp, hca, hgc, l1, l2, l3⟩

/-- `ResizeAtTab` for a window replacement -/
theorem ra_resizeAtTab_window {pre mid mid' post : List Ent} {p sz : Nat}
    (hok' : entsOk (pre ++ mid' ++ post) = true)
    (hcin : ∀ x ∈ mid', x.cin = true → x.addr = p ∨ ∃ x0 ∈ mid, x0.cin = true ∧ x0.addr = x.addr)
    (hhere : ∃ e' ∈ mid', e'.addr = p ∧ e'.cin = true ∧ e'.size = sz)
    (hkept : ∀ x ∈ mid, x.cin = true → x.addr ≠ p → ∃ x' ∈ mid', x'.addr = x.addr ∧ x'.size = x.size ∧ x'.cin = true) :
    ResizeAtTab (pre ++ mid ++ post) (pre ++ mid' ++ post) p sz := by
  refine ⟨?_, ?_, ?_⟩
  · intro a ha
    obtain ⟨x, hx, hc, hxa⟩ := mem_cinSet.1 ha
    by_cases hm : x ∈ mid'
    · rcases hcin x hm hc with h | ⟨x0, hx0, hc0, ha0⟩
      · exact Or.inl (by omega)
      · exact Or.inr (mem_cinSet.2 ⟨x0, by simp [hx0], hc0, by omega⟩)
    · exact Or.inr (mem_cinSet.2 ⟨x, ra_mem_outer hx hm, hc, hxa⟩)
  · obtain ⟨e', he', h1, h2, h3⟩ := hhere
    exact ⟨e', h1 ▸ entsOk_find e' (by simp [he']) hok', h2, h3⟩
  · intro x hx hc hne
    by_cases hm : x ∈ mid
    · obtain ⟨x', hx', h1, h2, h3⟩ := hkept x hm hc hne
      exact ⟨x', h1 ▸ entsOk_find x' (by simp [hx']) hok', h2, h3⟩
    · exact ⟨x, ra_find_outer hok' hx hm, rfl, hc⟩

theorem ra_UserAt.resizeAtTab {s : St} {p z : Nat} {pre post : List Ent} {e x b : Ent} {g : Seg}
    (u : ra_UserAt s p z pre (b :: post) e x g) (hxc : x.cin = false) {np b' : Ent} {rs : List Ent} {sz : Nat}
    (hok' : entsOk (pre ++ (np :: (rs ++ [b'])) ++ post) = true)
    (np1 : np.addr = p) (np2 : np.size = sz) (np3 : np.cin = true) (hrs : ∀ r ∈ rs, r.cin = false)
    (b1 : b'.addr = b.addr) (b2 : b'.size = b.size) (b3 : b'.cin = b.cin) :
    ResizeAtTab (pre ++ [e, x, b] ++ post) (pre ++ (np :: (rs ++ [b'])) ++ post) p sz := by
  refine ra_resizeAtTab_window hok' ?_ ⟨np, by simp, np1, np3, np2⟩ ?_
  · intro q hq hc
    rcases List.mem_cons.1 hq with rfl | hq
    · exact Or.inl np1
    · rcases List.mem_append.1 hq with hq | hq
      · rw [hrs q hq] at hc; cases hc
      · rw [List.mem_singleton.1 hq] at hc ⊢
        exact Or.inr ⟨b, by simp, b3 ▸ hc, b1.symm⟩
  · intro q hq hc hne
    simp only [List.mem_cons, List.not_mem_nil, or_false] at hq
    rcases hq with rfl | rfl | rfl
    · exact absurd u.ea hne
    · rw [hxc] at hc; cases hc
    · exact ⟨b', by simp, b1, b2, b3.trans hc⟩

/-- `Resized` with the new size named -/
def ra_ResizedTo (s s' : St) (p sz : Nat) : Prop :=
  ∀ a z, User s' a z ↔ ((a ≠ p ∧ User s a z) ∨ (a = p ∧ z = sz))

theorem ra_ResizedTo.resized {s s' : St} {p sz nb : Nat} (h : ra_ResizedTo s s' p sz) (hle : nb ≤ sz) :
    Resized s s' p nb := ⟨sz, hle, h⟩

theorem ra_resizedTo_self {s : St} {p z : Nat} (hu : User s p z) : ra_ResizedTo s s p z := by
  intro a z'
  constructor
  · intro h
    by_cases hap : a = p
    · subst hap; exact Or.inr ⟨rfl, gl_user_size h hu⟩
    · exact Or.inl ⟨hap, h⟩
  · rintro (⟨_, h⟩ | ⟨h1, h2⟩)
    · exact h
    · subst h1; subst h2; exact hu

/-- `SInv` and the exact user delta from `WFS` of the new state and a `ResizeAtTab` -/
theorem ra_sinv_resizeTo {s : St} (hi : SInv s) {H : Heap} (w' : WFS { s with h := H }) {p z sz : Nat}
    (hu : User s p z) (hf : ResizeAtTab s.h.ents H.ents p sz) (hsz : sz ≠ 8) :
    SInv { s with h := H } ∧ ra_ResizedTo s { s with h := H } p sz := by
  obtain ⟨r1, sz', _, r2⟩ := gl_sinv_resizeAtTab hi w' hu hf (Nat.le_refl sz) hsz
  refine ⟨r1, ?_⟩
  obtain ⟨e', he', hc', hs'⟩ := hf.here
  have hup : User { s with h := H } p sz :=
    ⟨e', he', hc', hs', hsz, gl_user_not_record hu e' (findEnt_some he').2⟩
  have : sz = sz' := by
    rcases (r2 p sz).1 hup with ⟨h, _⟩ | ⟨_, h⟩
    · exact absurd rfl h
    · exact h
  subst this
  exact r2

/-! ## E. `realloc-into-top` -/

/-- the final table of `realloc-into-top`: `[e, x, f]` (user chunk, `top`, foot word) became
`[np, nt, f]` (the grown chunk, the new `top`, the same foot word) -/
theorem ra_into_top_core {s : St} (hi : SInv s) {p nb z : Nat} {pre post : List Ent} {e x f : Ent} {g : Seg}
    {rest : List Seg} (u : ra_UserAt s p z pre (f :: post) e x g) (hsegs : s.segs = g :: rest)
    (hnb16 : nb % 16 = 0) (hlt : z < nb) (hfit : nb < z + s.h.topsize) (ht : p + z = s.h.top)
    (hxf : isFree x = true)
    (hfa : f.addr = s.h.top + s.h.topsize) (hfc : f.cin = false) (hfp : f.pin = false) (hgf : inSeg g f = true)
    {H : Heap} {np nt : Ent}
    (hH : HeapIs H (pre ++ [np, nt, f] ++ post) s.h.sbins s.h.tbins s.h.dv s.h.dvsize (p + nb) (z + s.h.topsize - nb))
    (np1 : np.addr = p) (np2 : np.size = nb) (np3 : np.cin = true) (np4 : np.pin = e.pin) (np5 : np.pfoot = e.pfoot)
    (nt1 : nt.addr = p + nb) (nt2 : nt.size = z + s.h.topsize - nb) (nt3 : nt.cin = false) (nt4 : nt.pin = true) :
    SInv { s with h := H } ∧ ra_ResizedTo s { s with h := H } p nb := by
  have w := hi.wfs
  have hu : User s p z := ⟨e, u.find w, u.ec, u.es, u.z8, u.er⟩
  have hes : s.h.ents = pre ++ [e, x, f] ++ post := by rw [u.hes]; simp
  obtain ⟨hxc, hxp⟩ := isFree_iff.1 hxf
  have hz8 : 8 < z := Nat.lt_of_lt_of_le (by decide) u.zge
  have w' : WFS { s with h := H } :=
    top_carve_wfs w (as := [x]) hsegs hes
      (by
        intro q hq
        simp only [List.cons_append, List.nil_append, List.mem_cons, List.not_mem_nil, or_false] at hq
        rcases hq with rfl | rfl | rfl
        · exact u.ge
        · exact u.gy
        · exact hgf)
      (by simp [freeSet, List.filter, isFree, u.ec, hxc, hxp, hfp, u.ya, ht])
      (u.ea ▸ ht ▸ Nat.le_add_right p z) (u.ea ▸ u.p16) hfa hfc hfp hnb16 (Nat.le_trans u.zge (Nat.le_of_lt hlt))
      (by rw [u.ea]) (ht ▸ Nat.add_lt_add_left hlt p)
      (by rw [Nat.add_assoc, Nat.add_sub_cancel' (Nat.le_of_lt hfit), ← Nat.add_assoc, ht]) (Nat.sub_pos_of_lt hfit) hH
      (np1.trans u.ea.symm) np2 np3 ⟨np4, fun _ => ⟨np3.trans u.ec.symm, np5⟩⟩ nt1 nt2 nt3 nt4
  have hrt : ResizeAtTab s.h.ents H.ents p nb := by
    rw [hes, hH.ents]
    refine u.resizeAtTab hxc (rs := [nt]) (hH.ents ▸ w'.ents) np1 np2 np3 ?_ rfl rfl rfl
    intro r hr
    rw [List.mem_singleton.1 hr]; exact nt3
  exact ra_sinv_resizeTo hi w' hu hrt (Nat.ne_of_gt (Nat.lt_trans hz8 hlt))

/-- the heap operations of `realloc-into-top` -/
theorem ra_into_top {s : St} (hi : SInv s) {p nb z : Nat} (hu : User s p z) (hnb16 : nb % 16 = 0)
    (hlt : z < nb) (hfit : nb < z + s.h.topsize) (ht : p + z = s.h.top) {h1 h2 H : Heap}
    (e1 : set_inuse s.h p nb = .ok h1) (e2 : writeHead h1 (p + nb) (z + s.h.topsize - nb) false true = .ok h2)
    (hH : HeapIs H h2.ents h2.sbins h2.tbins h2.dv h2.dvsize (p + nb) (z + s.h.topsize - nb)) :
    SInv { s with h := H } ∧ ra_ResizedTo s { s with h := H } p nb := by
  have w := hi.wfs
  obtain ⟨pre, post, e, x, g, u⟩ := ra_user_parts w hu
  obtain ⟨f, post', rest, hp, hsegs, hxf, hxs, hfa, hfc, hfp, _, hgf, _⟩ := ra_next_top w u ht
  subst hp
  have hea := u.ea
  have hes := u.es
  subst hea
  subst hes
  have hxe : x.addr = e.addr + e.size := u.ya
  have hfx : f.addr = x.addr + x.size := by rw [hfa, hxe, ht, hxs]
  have hok := w.ents
  rw [u.hes] at hok
  have hok2 : entsOk ((pre ++ [e, x]) ++ f :: post') = true := by simpa using hok
  obtain ⟨o1, _, _, _, _⟩ := entsOk_mid2 hok
  have b2 := entsOk_head_le (entsOk_append.1 hok2).2.1
  have hend : e.addr + nb + (e.size + s.h.topsize - nb) = f.addr := by
    rw [Nat.add_assoc, Nat.add_sub_cancel' (Nat.le_of_lt hfit), ← Nat.add_assoc, ht, hfa]
  have r1 := ra_grow_part e1 u.hes w.ents hxe hfx hlt (hxs ▸ hfit)
  subst r1
  have r2 := ra_writeHead_stub e2 (pre := pre) (post := f :: post') rfl
    (fun q hq => Nat.lt_trans (o1 q hq).2 (Nat.lt_add_of_pos_right (Nat.zero_lt_of_lt hlt)))
    (Nat.lt_add_of_pos_right (Nat.zero_lt_of_lt hlt)) (Nat.sub_pos_of_lt hfit)
    (fun q hq => hend ▸ (List.mem_cons.1 hq).elim (fun h => h ▸ Nat.le_refl _)
      (fun h => Nat.le_trans (Nat.le_add_right _ _) (b2 q h)))
  subst r2
  obtain ⟨i1, i2, i3, i4, i5, i6, i7⟩ := hH
  exact ra_into_top_core hi u hsegs hnb16 hlt hfit ht hxf hfa hfc hfp hgf
    (np := { addr := e.addr, size := nb, cin := true, pin := e.pin, pfoot := e.pfoot })
    (nt := { addr := e.addr + nb, size := e.size + s.h.topsize - nb, cin := false, pin := true, pfoot := 0 })
    ⟨by rw [i1]; simp, i2, i3, i4, i5, i6, i7⟩ rfl rfl rfl rfl rfl rfl rfl rfl rfl

/-! ## F. growing into the free chunk after the user chunk (`dv` or a binned chunk) -/

/-- the bookkeeping side of taking the free chunk at `c` off the free list: `H` (of which only the fields
other than `ents` matter) lists the free chunks of `s.h` except `c` -/
structure ra_Delisted (s : St) (H : Heap) (c : Nat) : Prop where
  top : H.top = s.h.top
  topsize : H.topsize = s.h.topsize
  nd : (freeList H).Nodup
  mem : ∀ a, a ∈ freeList H ↔ (a ∈ freeList s.h ∧ a ≠ c)
  sb : (decide (H.sbins.length = 32) && sbinsFrom s.h.ents 0 H.sbins) = true
  tb : (decide (H.tbins.length = 32) && tbinsFrom s.h.ents 0 H.tbins) = true
  sub : ∀ a ∈ binned H, a ∈ binned s.h
  dv : (H.dv = s.h.dv ∧ H.dvsize = s.h.dvsize ∧ c ≠ s.h.dv) ∨ (H.dv = 0 ∧ H.dvsize = 0)

/-- `dv` given up -/
theorem ra_delisted_dv {s : St} (w : WFS s) (hd0 : s.h.dv ≠ 0) {H : Heap} (h1 : H.sbins = s.h.sbins)
    (h2 : H.tbins = s.h.tbins) (h3 : H.top = s.h.top) (h4 : H.topsize = s.h.topsize) (h5 : H.dv = 0)
    (h6 : H.dvsize = 0) : ra_Delisted s H s.h.dv := by
  have hnd0 := ((freeListOk_iff s.h).1 w.freeList).1
  rw [freeList_dv hd0] at hnd0
  have hfl : freeList H = (if s.h.top = 0 then [] else [s.h.top]) ++ ([] ++ binned s.h) := by
    rw [freeList_nodv h5, h3, binned_congr h1 h2]
  refine ⟨h3, h4, ?_, ?_, by rw [h1]; exact w.sbins, by rw [h2]; exact w.tbins, ?_, Or.inr ⟨h5, h6⟩⟩
  · rw [hfl]; exact nodup_mid_replace hnd0 (by simp) (by simp)
  · intro a
    rw [hfl, freeList_dv hd0, mem_mid_replace hnd0 a]
    simp
  · intro a ha; rw [binned_congr h1 h2] at ha; exact ha

/-- a binned chunk unlinked -/
theorem ra_delisted_unlink {s : St} (w : WFS s) {c sz : Nat} {h1 : Heap} (e : unlink_chunk s.h c sz = .ok h1)
    (hcd : c ≠ s.h.dv) {H : Heap} (i1 : H.sbins = h1.sbins) (i2 : H.tbins = h1.tbins) (i3 : H.top = h1.top)
    (i4 : H.topsize = h1.topsize) (i5 : H.dv = h1.dv) (i6 : H.dvsize = h1.dvsize) : ra_Delisted s H c := by
  have fr := unlink_chunk_frame e
  have hfl : freeList H = freeList h1 := by unfold freeList binned; rw [i1, i2, i3, i5]
  have hperm := unlink_chunk_freeList e
  have hnd0 := ((freeListOk_iff s.h).1 w.freeList).1
  have hnd1 : (c :: freeList h1).Nodup := (List.Perm.nodup_iff hperm).1 hnd0
  obtain ⟨hc1, hnd2⟩ := List.nodup_cons.1 hnd1
  have hbins := unlink_chunk_binsOk e w.sbins w.tbins
  unfold sbinsOk tbinsOk at hbins
  rw [fr.ents] at hbins
  refine ⟨i3.trans fr.top, i4.trans fr.topsize, by rw [hfl]; exact hnd2, ?_, by rw [i1]; exact hbins.1,
    by rw [i2]; exact hbins.2, ?_, Or.inl ⟨i5.trans fr.dv, i6.trans fr.dvsize, hcd⟩⟩
  · intro a
    rw [hfl, List.Perm.mem_iff hperm, List.mem_cons]
    constructor
    · intro h; exact ⟨Or.inr h, fun hac => hc1 (hac ▸ h)⟩
    · rintro ⟨h | h, hne⟩
      · exact absurd h hne
      · exact h
  · intro a ha
    rw [binned_congr i1 i2] at ha
    exact (List.Perm.mem_iff (unlink_chunk_binned e)).2 (List.mem_cons_of_mem _ ha)

/-- the window `[e, x, y]`: a user chunk, the free chunk after it (not `top`), the in-use header after that -/
structure ra_GrowAt (s : St) (p z : Nat) (pre post : List Ent) (e x y : Ent) (g : Seg) : Prop where
  u : ra_UserAt s p z pre (y :: post) e x g
  xf : isFree x = true
  xt : x.addr ≠ s.h.top
  ya : y.addr = x.addr + x.size
  gy : inSeg g y = true
  yc : y.cin = true
  yp : y.pin = false
  yf : y.pfoot = x.size

theorem ra_grow_parts {s : St} (w : WFS s) {p z : Nat} {pre post : List Ent} {e x : Ent} {g : Seg}
    (u : ra_UserAt s p z pre post e x g) (hf : isFree x = true) (hnt : x.addr ≠ s.h.top) :
    ∃ y post', post = y :: post' ∧ ra_GrowAt s p z pre post' e x y g := by
  obtain ⟨y, post', hp, h1, h2, h3, h4, h5⟩ := ra_next_free w u hf hnt
  subst hp
  exact ⟨y, post', rfl, u, hf, hnt, h1, h2, h3, h4, h5⟩

namespace ra_GrowAt
variable {s : St} {p z : Nat} {pre post : List Ent} {e x y : Ent} {g : Seg}

theorem hes (ga : ra_GrowAt s p z pre post e x y g) : s.h.ents = pre ++ [e, x, y] ++ post := by
  rw [ga.u.hes]; simp

theorem hgm (ga : ra_GrowAt s p z pre post e x y g) : ∀ q ∈ [e, x, y], inSeg g q = true := by
  intro q hq
  simp only [List.mem_cons, List.not_mem_nil, or_false] at hq
  rcases hq with rfl | rfl | rfl
  · exact ga.u.ge
  · exact ga.u.gy
  · exact ga.gy

/-- `y` comes after a free chunk, so it is no fencepost -/
theorem yshape (ga : ra_GrowAt s p z pre post e x y g) (w : WFS s) :
    y.addr % 16 = 0 ∧ y.size % 16 = 0 ∧ 16 ≤ y.size := by
  rcases shapeOk_mem w.shape (by rw [ga.hes]; simp : y ∈ s.h.ents) with h | h
  · rw [ga.yp] at h; exact absurd h.2.2 (by decide)
  · exact h

theorem free_mid (ga : ra_GrowAt s p z pre post e x y g) {P : Ent → Prop} (hx : P x) :
    ∀ q ∈ [e, x, y], isFree q = true → P q := by
  intro q hq hf
  simp only [List.mem_cons, List.not_mem_nil, or_false] at hq
  rcases hq with rfl | rfl | rfl
  · simp [isFree, ga.u.ec] at hf
  · exact hx
  · simp [isFree, ga.yc] at hf

theorem top_mid (ga : ra_GrowAt s p z pre post e x y g) :
    ∀ q ∈ [e, x, y], (isFree q = true → q.addr ≠ s.h.top) ∧ (q.cin = true ∨ q.pin = true) := by
  intro q hq
  refine ⟨ga.free_mid (P := fun q => q.addr ≠ s.h.top) ga.xt q hq, ?_⟩
  simp only [List.mem_cons, List.not_mem_nil, or_false] at hq
  rcases hq with rfl | rfl | rfl
  · exact Or.inl ga.u.ec
  · exact Or.inr (isFree_iff.1 ga.xf).2
  · exact Or.inl ga.yc

end ra_GrowAt

/-- **exhaust**: the user chunk swallows the whole free chunk after it, which has been taken off the
free list: `[e, x, y] ↦ [np, ny]` -/
theorem ra_merge_exhaust_core {s : St} (hi : SInv s) {p z : Nat} {pre post : List Ent} {e x y : Ent} {g : Seg}
    (ga : ra_GrowAt s p z pre post e x y g) {H : Heap} {np ny : Ent}
    (hents : H.ents = pre ++ [np, ny] ++ post) (hD : ra_Delisted s H x.addr)
    (np1 : np.addr = p) (np2 : np.size = z + x.size) (np3 : np.cin = true) (np4 : np.pin = e.pin)
    (np5 : np.pfoot = e.pfoot)
    (ny1 : ny.addr = y.addr) (ny2 : ny.size = y.size) (ny3 : ny.cin = true) (ny4 : ny.pin = true) :
    SInv { s with h := H } ∧ ra_ResizedTo s { s with h := H } p (z + x.size) := by
  have w := hi.wfs
  have u := ga.u
  have hu : User s p z := ⟨e, u.find w, u.ec, u.es, u.z8, u.er⟩
  have hes := ga.hes
  obtain ⟨hxc, hxp⟩ := isFree_iff.1 ga.xf
  obtain ⟨_, hxs16, _⟩ := shapeOk_free w.shape u.mem_y hxc
  obtain ⟨hy16, hys16, hys⟩ := ga.yshape w
  have hst : StructOk (pre ++ [np, ny] ++ post) s.segs s.h.top :=
    struct_window_run (as := [x]) (cs := []) (hes ▸ w.struct) w.segsDisjoint u.hg ga.hgm
      (by
        simp only [List.nil_append, contig, Bool.and_eq_true, decide_eq_true_eq, Bool.and_true]
        exact ⟨np1.trans u.ea.symm, by rw [ny1, np2, ga.ya, u.ya, u.ea, Nat.add_assoc]⟩)
      (shapeOk_cons_chunk (np1 ▸ u.p16) (np2 ▸ mod16_add u.z16 hxs16) (np2 ▸ Nat.le_trans u.zge (Nat.le_add_right _ _))
        (shapeOk_cons_chunk (ny1 ▸ hy16) (ny2 ▸ hys16) (ny2 ▸ hys) rfl))
      ny1 ny2 (ny3.trans ga.yc.symm) (by simp [isFree, ny3]) (Or.inl rfl) ⟨np4, fun _ => ⟨np3.trans u.ec.symm, np5⟩⟩
      (by simp [tagsFrom, linkOk, isFree, np3, ny4])
  have hok' : entsOk H.ents = true := by rw [hents]; exact hst.ents
  have hne : s.segs ≠ [] := List.ne_nil_of_mem u.hg
  have fs1 : freeSet [e, x, y] = [x.addr] := by simp [freeSet, List.filter, isFree, hxc, hxp, u.ec, ga.yc]
  have fs2 : freeSet [np, ny] = [] := by simp [freeSet, List.filter, isFree, np3, ny3]
  have hxnb : x.addr ∉ binned H := fun hb => ((hD.mem x.addr).1 (mem_freeList_of_binned hb)).2 rfl
  have hbins := bins_window' w hes hents hok' hD.sb hD.tb hD.sub
    (ga.free_mid (P := fun q => q.addr = s.h.top ∨ q.addr = s.h.dv ∨ q.addr ∉ binned H) (Or.inr (Or.inr hxnb)))
  have w' : WFS { s with h := H } := by
    refine wfs_of_parts w (by rw [hents, hD.top]; exact hst) ?_ hbins.1 hbins.2 ?_ ?_
    · refine freeListOk_window hes hents w.ents hok' w.freeList hD.nd ?_
      intro a
      rw [hD.mem a, fs1, fs2]
      simp
    · rcases hD.dv with ⟨d1, d2, d3⟩ | ⟨d1, d2⟩
      · exact dvOk_window w hes hents hok' d1 d2 (ga.free_mid (P := fun q => q.addr ≠ s.h.dv) d3)
      · unfold dvOk; rw [d1, d2]; rfl
    · exact topOk_window w hes hents hok' hne hD.top hD.topsize ga.top_mid
  have hrt : ResizeAtTab s.h.ents H.ents p (z + x.size) := by
    rw [hes, hents]
    exact u.resizeAtTab hxc (rs := []) hst.ents np1 np2 np3 (fun _ h => by cases h) ny1 ny2 (ny3.trans ga.yc.symm)
  exact ra_sinv_resizeTo hi w' hu hrt
    (Nat.ne_of_gt (Nat.lt_of_lt_of_le (Nat.lt_of_lt_of_le (by decide) u.zge) (Nat.le_add_right _ _)))

/-- **`dv` split**: the user chunk grows into `dv`, the rest of `dv` stays `dv`:
`[e, x, y] ↦ [np, nr, ny]` -/
theorem ra_dv_split_core {s : St} (hi : SInv s) {p z nb : Nat} {pre post : List Ent} {e x y : Ent} {g : Seg}
    (ga : ra_GrowAt s p z pre post e x y g) (hxd : x.addr = s.h.dv) (hxs : x.size = s.h.dvsize)
    (hd0 : s.h.dv ≠ 0)
    (hnb16 : nb % 16 = 0) (hlt : z < nb) (hfit : nb + 32 ≤ z + s.h.dvsize)
    {H : Heap} {np nr ny : Ent}
    (hH : HeapIs H (pre ++ [np, nr, ny] ++ post) s.h.sbins s.h.tbins (p + nb) (z + s.h.dvsize - nb) s.h.top s.h.topsize)
    (np1 : np.addr = p) (np2 : np.size = nb) (np3 : np.cin = true) (np4 : np.pin = e.pin) (np5 : np.pfoot = e.pfoot)
    (nr1 : nr.addr = p + nb) (nr2 : nr.size = z + s.h.dvsize - nb) (nr3 : nr.cin = false) (nr4 : nr.pin = true)
    (ny1 : ny.addr = y.addr) (ny2 : ny.size = y.size) (ny3 : ny.cin = true) (ny4 : ny.pin = false)
    (ny5 : ny.pfoot = z + s.h.dvsize - nb) :
    SInv { s with h := H } ∧ ra_ResizedTo s { s with h := H } p nb := by
  have w := hi.wfs
  have u := ga.u
  have hu : User s p z := ⟨e, u.find w, u.ec, u.es, u.z8, u.er⟩
  have hes := ga.hes
  obtain ⟨hxc, hxp⟩ := isFree_iff.1 ga.xf
  obtain ⟨hy16, hys16, hys⟩ := ga.yshape w
  have hz8 : 8 < z := Nat.lt_of_lt_of_le (by decide) u.zge
  -- `p + nb` lies strictly inside the old `dv` chunk
  have hxa : x.addr = p + z := u.ya
  have hle : nb ≤ z + s.h.dvsize := Nat.le_trans (Nat.le_add_right _ _) hfit
  have hya : p + nb + (z + s.h.dvsize - nb) = y.addr := by
    rw [ga.ya, hxa, hxs, Nat.add_assoc, Nat.add_sub_cancel' hle, Nat.add_assoc]
  have hrs32 : 32 ≤ z + s.h.dvsize - nb := Nat.le_sub_of_add_le' hfit
  have hrs16 : (z + s.h.dvsize - nb) % 16 = 0 :=
    mod16_of_add hya (mod16_add u.p16 hnb16) hy16
  have hinside : ∀ q ∈ s.h.ents, q.addr ≠ p + nb :=
    entsOk_no_inside w.ents u.mem_y (by rw [hxa]; exact Nat.add_lt_add_left hlt p)
      (by rw [← ga.ya, ← hya]; exact Nat.lt_add_of_pos_right (Nat.lt_of_lt_of_le (by decide) hrs32))
  obtain ⟨_, _, _, xtop, _, _, _, htes, hxta, _⟩ := w.top_parts (w.topsize_ne u.hg)
  have hrtop : p + nb ≠ s.h.top := fun heq => hinside xtop (by rw [htes]; simp) (hxta.trans heq.symm)
  have hst : StructOk (pre ++ [np, nr, ny] ++ post) s.segs s.h.top :=
    struct_window_run (as := [x]) (cs := [nr]) (hes ▸ w.struct) w.segsDisjoint u.hg ga.hgm
      (by
        simp only [List.cons_append, List.nil_append, contig, Bool.and_eq_true, decide_eq_true_eq, Bool.and_true]
        exact ⟨np1.trans u.ea.symm, by rw [nr1, np2, u.ea], by rw [ny1, np2, nr2, u.ea, hya]⟩)
      (shapeOk_cons_chunk (np1 ▸ u.p16) (np2 ▸ hnb16) (np2 ▸ Nat.le_trans u.zge (Nat.le_of_lt hlt))
        (shapeOk_cons_chunk (nr1 ▸ mod16_add u.p16 hnb16) (nr2 ▸ hrs16) (nr2 ▸ Nat.le_trans (by decide) hrs32)
          (shapeOk_cons_chunk (ny1 ▸ hy16) (ny2 ▸ hys16) (ny2 ▸ hys) rfl)))
      ny1 ny2 (ny3.trans ga.yc.symm) (by simp [isFree, ny3]) (Or.inl rfl) ⟨np4, fun _ => ⟨np3.trans u.ec.symm, np5⟩⟩
      (by simp [tagsFrom, linkOk, isFree, np3, nr1, nr2, nr3, nr4, ny3, ny4, ny5, hrtop])
  have hok' : entsOk H.ents = true := by rw [hH.ents]; exact hst.ents
  have hne : s.segs ≠ [] := List.ne_nil_of_mem u.hg
  have fs1 : freeSet [e, x, y] = [s.h.dv] := by simp [freeSet, List.filter, isFree, hxc, hxp, u.ec, ga.yc, hxd]
  have fs2 : freeSet [np, nr, ny] = [p + nb] := by simp [freeSet, List.filter, isFree, np3, nr3, nr4, ny3, nr1]
  have hfnr : findEnt H.ents (p + nb) = some nr := by
    rw [hH.ents, ← nr1]; exact entsOk_find nr (by simp) hst.ents
  have hp0 : p + nb ≠ 0 := Nat.ne_of_gt (Nat.lt_of_lt_of_le (Nat.lt_trans (Nat.lt_trans (by decide) hz8) hlt) (Nat.le_add_left _ _))
  have hbins := bins_window w hes hH.ents hok' hH.sbins hH.tbins
    (ga.free_mid (P := fun q => q.addr = s.h.top ∨ q.addr = s.h.dv) (Or.inr hxd))
  have w' : WFS { s with h := H } := by
    refine wfs_of_parts w (by rw [hH.ents, hH.top]; exact hst) ?_ hbins.1 hbins.2 ?_ ?_
    · exact freeListOk_moved w hes hH.ents hok' fs1 fs2 (freeList_dv hd0)
        (by rw [freeList_dv (hH.dv ▸ hp0), hH.top, hH.dv, binned_congr hH.sbins hH.tbins]) hinside
    · unfold dvOk
      rw [hH.dv, hH.dvsize, if_neg hp0, hfnr]
      simp [isFree, nr2, nr3, nr4, hrs32]
    · exact topOk_window w hes hH.ents hok' hne hH.top hH.topsize ga.top_mid
  have hrt : ResizeAtTab s.h.ents H.ents p nb := by
    rw [hes, hH.ents]
    refine u.resizeAtTab hxc (rs := [nr]) hst.ents np1 np2 np3 ?_ ny1 ny2 (ny3.trans ga.yc.symm)
    intro r hr
    rw [List.mem_singleton.1 hr]; exact nr3
  exact ra_sinv_resizeTo hi w' hu hrt (Nat.ne_of_gt (Nat.lt_trans hz8 hlt))


/-! ## G. the branches of `try_realloc_chunk` -/

theorem ra_resized_of_split_freed {s s2 s2' s3 : St} {p nb rs : Nat} (sp : ra_SplitU s s2 p nb rs)
    (hsame : ∀ a z, User s2' a z ↔ User s2 a z) (fr : Freed s2' s3 (p + nb + 16)) (hnb : 0 < nb) :
    ra_ResizedTo s s3 p nb := by
  intro a z
  rw [fr a z, hsame a z, sp.2 a z, show p + nb + 16 - 16 = p + nb by omega]
  constructor
  · rintro ⟨(h | h | h), hne⟩
    · exact Or.inl h
    · exact Or.inr h
    · exact absurd h.1 hne
  · rintro (⟨h1, h2⟩ | ⟨h1, h2⟩)
    · refine ⟨Or.inl ⟨h1, h2⟩, ?_⟩
      intro heq
      subst heq
      exact sp.1 z h2
    · exact ⟨Or.inr (Or.inl ⟨h1, h2⟩), by omega⟩

theorem ra_splitU_of_resizedTo {s s1 s2 : St} {p sz nb rs : Nat} (rt : ra_ResizedTo s s1 p sz)
    (sp : ra_SplitU s1 s2 p nb rs) (hnb : 0 < nb) : ra_SplitU s s2 p nb rs := by
  refine ⟨?_, ?_⟩
  · intro z hz
    exact sp.1 z ((rt _ _).2 (Or.inl ⟨by omega, hz⟩))
  · intro a z
    rw [sp.2 a z]
    constructor
    · rintro (⟨h1, h2⟩ | h)
      · rcases (rt a z).1 h2 with ⟨_, h3⟩ | ⟨h3, _⟩
        · exact Or.inl ⟨h1, h3⟩
        · exact absurd h3 h1
      · exact Or.inr h
    · rintro (⟨h1, h2⟩ | h)
      · exact Or.inl ⟨h1, (rt a z).2 (Or.inl ⟨h1, h2⟩)⟩
      · exact Or.inr h

/-- after a split the heap is tagged before `dispose_chunk` runs on one of the two chunks -/
theorem ra_split_tagged {s : St} {h2 : Heap} {p nb rs : Nat} (t : String) (i2 : SInv { s with h := h2 })
    (sp : ra_SplitU s { s with h := h2 } p nb rs) :
    SInv { s with h := h2.tag t } ∧ (∀ a z, User { s with h := h2.tag t } a z ↔ User { s with h := h2 } a z) ∧
      User { s with h := h2.tag t } p nb ∧ User { s with h := h2.tag t } (p + nb) rs := by
  have hsame : ∀ a z, User { s with h := h2.tag t } a z ↔ User { s with h := h2 } a z :=
    fun a z => ra_user_same (s := { s with h := h2 }) (H := h2.tag t) rfl a z
  exact ⟨ra_sinv_same (s := { s with h := h2 }) i2 (ra_sameHeap_tag h2 t), hsame,
    (hsame _ _).2 ((sp.2 _ _).2 (Or.inr (Or.inl ⟨rfl, rfl⟩))), (hsame _ _).2 ((sp.2 _ _).2 (Or.inr (Or.inr ⟨rfl, rfl⟩)))⟩

/-- after a split: `dispose_chunk` of the remainder (called on the tagged heap) -/
theorem ra_split_dispose (hd : dispose_chunk_Spec) {s : St} {h2 h3 : Heap} {p nb rs : Nat} {t : String}
    (i2 : SInv { s with h := h2 }) (sp : ra_SplitU s { s with h := h2 } p nb rs) (hnb : 0 < nb)
    (e3 : dispose_chunk (h2.tag t) (p + nb) rs = .ok h3) :
    SInv { s with h := h3 } ∧ ra_ResizedTo s { s with h := h3 } p nb := by
  obtain ⟨i2t, hsame, _, hut⟩ := ra_split_tagged t i2 sp
  obtain ⟨i3, fr⟩ := hd (s := { s with h := h2.tag t }) i2t hut e3
  exact ⟨i3, ra_resized_of_split_freed sp hsame fr hnb⟩

/-- `realloc-shrink-split` -/
theorem ra_shrink_split (hd : dispose_chunk_Spec) {s : St} (hi : SInv s) {p nb z : Nat} (hu : User s p z)
    (hnb : NbOk nb) (hle : nb ≤ z) (hge : 32 ≤ z - nb) {h1 h2 h3 : Heap} {t : String}
    (e1 : set_inuse s.h p nb = .ok h1) (e2 : set_inuse h1 (p + nb) (z - nb) = .ok h2)
    (e3 : dispose_chunk (h2.tag t) (p + nb) (z - nb) = .ok h3) :
    SInv { s with h := h3 } ∧ Resized s { s with h := h3 } p nb := by
  obtain ⟨pre, post, e, y, g, u⟩ := ra_user_parts hi.wfs hu
  have hz16 := u.z16
  have hu' : User s p (nb + (z - nb)) := by rw [show nb + (z - nb) = z by omega]; exact hu
  obtain ⟨i2, sp⟩ := ra_split_inuse hi hu' hnb.1 (by have := hnb.2.1; omega) (by have := hnb.1; omega) (by omega) e1 e2
  obtain ⟨r1, r2⟩ := ra_split_dispose hd i2 sp (by have := hnb.2.1; omega) e3
  exact ⟨r1, r2.resized (Nat.le_refl nb)⟩

/-- the header at `dv` -/
theorem ra_dv_at {s : St} (w : WFS s) {x : Ent} (hx : x ∈ s.h.ents) (hxa : x.addr = s.h.dv) :
    isFree x = true ∧ x.size = s.h.dvsize ∧ 32 ≤ s.h.dvsize ∧ s.h.dv ≠ 0 := by
  have hpos := w.addr_pos hx
  have hd0 : s.h.dv ≠ 0 := by omega
  have hd := w.dv
  unfold dvOk at hd
  rw [if_neg hd0, ← hxa, entsOk_find x hx w.ents] at hd
  simp only [Bool.and_eq_true, decide_eq_true_eq] at hd
  exact ⟨hd.1.1, hd.1.2, hd.2, hd0⟩

/-- `realloc-into-dv-split` -/
theorem ra_into_dv_split {s : St} (hi : SInv s) {p nb z : Nat} (hu : User s p z) (hnb16 : nb % 16 = 0)
    (hlt : z < nb) (hnt : p + z ≠ s.h.top) (hdv : p + z = s.h.dv) (hfit : nb + 32 ≤ z + s.h.dvsize)
    {h1 h2 h3 H : Heap} (e1 : set_inuse s.h p nb = .ok h1)
    (e2 : set_size_and_pinuse_of_free_chunk h1 (p + nb) (z + s.h.dvsize - nb) = .ok h2)
    (e3 : clearPin h2 (p + nb + (z + s.h.dvsize - nb)) = .ok h3)
    (hH : HeapIs H h3.ents h3.sbins h3.tbins (p + nb) (z + s.h.dvsize - nb) h3.top h3.topsize) :
    SInv { s with h := H } ∧ ra_ResizedTo s { s with h := H } p nb := by
  have w := hi.wfs
  obtain ⟨pre, post, e, x, g, u⟩ := ra_user_parts w hu
  obtain ⟨hxf, hxs, hd32, hd0⟩ := ra_dv_at w u.mem_y (by rw [u.ya, hdv])
  obtain ⟨y, post', hp, ga⟩ := ra_grow_parts w u hxf (by rw [u.ya]; exact hnt)
  subst hp
  have hea := u.ea
  have hes := u.es
  subst hea
  subst hes
  have hxa : x.addr = e.addr + e.size := u.ya
  have hok := w.ents
  rw [u.hes] at hok
  have hok2 : entsOk ((pre ++ [e, x]) ++ y :: post') = true := by simpa using hok
  obtain ⟨o1, _⟩ := entsOk_mid2 hok
  obtain ⟨_, hoky, _⟩ := entsOk_append.1 hok2
  have hnb0 : e.addr < e.addr + nb := Nat.lt_add_of_pos_right (Nat.zero_lt_of_lt hlt)
  have hle : nb ≤ e.size + s.h.dvsize := Nat.le_trans (Nat.le_add_right _ _) hfit
  have hrs : 32 ≤ e.size + s.h.dvsize - nb := Nat.le_sub_of_add_le' hfit
  have hya : y.addr = e.addr + nb + (e.size + s.h.dvsize - nb) := by
    rw [Nat.add_assoc, Nat.add_sub_cancel' hle, ← Nat.add_assoc, ← hxa, ← hxs]; exact ga.ya
  have r1 := ra_grow_part e1 u.hes w.ents hxa ga.ya hlt
    (hxs ▸ Nat.lt_of_lt_of_le (Nat.lt_add_of_pos_right (by decide)) hfit)
  subst r1
  have r3 := ra_stub_free e2 e3 (pre := pre) (post := post') (y := y)
    (np := { addr := e.addr, size := nb, cin := true, pin := e.pin, pfoot := e.pfoot }) rfl
    (fun q hq => Nat.lt_trans (o1 q hq).2 hnb0) hnb0 hya (Nat.lt_of_lt_of_le (by decide) hrs)
    (fun q hq => Nat.lt_of_lt_of_le (Nat.lt_add_of_pos_right (entsOk_pos hoky y List.mem_cons_self))
      (entsOk_head_le hoky q hq))
  subst r3
  obtain ⟨i1, i2, i3, i4, i5, i6, i7⟩ := hH
  exact ra_dv_split_core hi ga (hxa.trans hdv) hxs hd0 hnb16 hlt hfit
    (np := { addr := e.addr, size := nb, cin := true, pin := e.pin, pfoot := e.pfoot })
    (nr := { addr := e.addr + nb, size := e.size + s.h.dvsize - nb, cin := false, pin := true, pfoot := 0 })
    (ny := { y with pfoot := e.size + s.h.dvsize - nb, pin := false })
    ⟨i1, i2, i3, i4, i5, i6, i7⟩ rfl rfl rfl rfl rfl rfl rfl rfl rfl rfl rfl ga.yc rfl rfl

/-- `realloc-into-dv-exhaust` and `realloc-into-next-exhaust`: the header write on a heap `h0` that has the
table of `s.h` and from whose free list the chunk after the user chunk has been taken -/
theorem ra_grow_exhaust {s : St} (hi : SInv s) {p z : Nat} {pre post : List Ent} {e x y : Ent} {g : Seg}
    (ga : ra_GrowAt s p z pre post e x y g) {h0 h1 H : Heap} (h0e : h0.ents = s.h.ents)
    (e1 : set_inuse h0 p (z + x.size) = .ok h1) (hH : H.ents = h1.ents) (hD : ra_Delisted s H x.addr) :
    SInv { s with h := H } ∧ ra_ResizedTo s { s with h := H } p (z + x.size) := by
  have w := hi.wfs
  have u := ga.u
  have hea := u.ea
  have hesz := u.es
  have hxa := u.ya
  subst hea
  have r1 := ra_grow_exact e1 (by rw [h0e]; exact u.hes) (by rw [h0e]; exact w.ents) (by omega) ga.ya (by omega)
  subst r1
  exact ra_merge_exhaust_core hi ga
    (np := { addr := e.addr, size := z + x.size, cin := true, pin := e.pin, pfoot := e.pfoot })
    (ny := { y with pin := true }) hH hD rfl rfl rfl rfl rfl rfl rfl ga.yc rfl

/-- the header writes of `realloc-into-next-split`: the merged chunk is split again; seen as `exhaust` (a
state that is never materialised) followed by a split -/
theorem ra_into_next_split_mid {s : St} (hi : SInv s) {p z nb : Nat} {pre post : List Ent}
    {e x y : Ent} {g : Seg} (ga : ra_GrowAt s p z pre post e x y g) (hcd : x.addr ≠ s.h.dv)
    (hnb16 : nb % 16 = 0) (hnb : 16 ≤ nb) (hlt : z < nb) (hfit : nb + 16 ≤ z + x.size)
    {h0 h1 h2 : Heap} (e0 : unlink_chunk s.h x.addr x.size = .ok h0)
    (e1 : set_inuse h0 p nb = .ok h1) (e2 : set_inuse h1 (p + nb) (z + x.size - nb) = .ok h2) :
    SInv { s with h := h2 } ∧ ra_SplitU s { s with h := h2 } p nb (z + x.size - nb) := by
  have w := hi.wfs
  have u := ga.u
  have hea := u.ea
  have hes := u.es
  subst hea
  subst hes
  have hxa : x.addr = e.addr + e.size := u.ya
  have fr := unlink_chunk_frame e0
  obtain ⟨_, hxs16, _⟩ := shapeOk_free w.shape u.mem_y (isFree_iff.1 ga.xf).1
  have hok := w.ents
  rw [u.hes] at hok
  have hok2 : entsOk ((pre ++ [e, x]) ++ y :: post) = true := by simpa using hok
  obtain ⟨o1, _⟩ := entsOk_mid2 hok
  obtain ⟨_, hoky, _⟩ := entsOk_append.1 hok2
  have hnb0 : e.addr < e.addr + nb := Nat.lt_add_of_pos_right (Nat.zero_lt_of_lt hlt)
  have hle : nb ≤ e.size + x.size := Nat.le_trans (Nat.le_add_right _ _) hfit
  have hsum : nb + (e.size + x.size - nb) = e.size + x.size := Nat.add_sub_cancel' hle
  have hrs : 16 ≤ e.size + x.size - nb := Nat.le_sub_of_add_le' hfit
  have hya : y.addr = e.addr + nb + (e.size + x.size - nb) := by
    rw [Nat.add_assoc, hsum, ← Nat.add_assoc, ← hxa]; exact ga.ya
  -- the two header writes
  have r1 := ra_grow_part e1 (by rw [fr.ents]; exact u.hes) (by rw [fr.ents]; exact w.ents) hxa ga.ya hlt
    (Nat.lt_of_lt_of_le (Nat.lt_add_of_pos_right (by decide)) hfit)
  subst r1
  have r2 := ra_stub_inuse e2 (pre := pre) (post := post) (y := y)
    (np := { addr := e.addr, size := nb, cin := true, pin := e.pin, pfoot := e.pfoot }) rfl
    (fun q hq => Nat.lt_trans (o1 q hq).2 hnb0) hnb0 hya (Nat.lt_of_lt_of_le (by decide) hrs)
    (fun q hq => Nat.lt_of_lt_of_le (Nat.lt_add_of_pos_right (entsOk_pos hoky y List.mem_cons_self))
      (entsOk_head_le hoky q hq))
  -- the virtual state after `exhaust`
  obtain ⟨i1, rt1⟩ := ra_merge_exhaust_core hi ga
    (H := { h0 with ents := pre ++ [{ addr := e.addr, size := e.size + x.size, cin := true, pin := e.pin, pfoot := e.pfoot },
      { y with pin := true }] ++ post })
    (np := { addr := e.addr, size := e.size + x.size, cin := true, pin := e.pin, pfoot := e.pfoot })
    (ny := { y with pin := true }) rfl (ra_delisted_unlink w e0 hcd rfl rfl rfl rfl rfl rfl)
    rfl rfl rfl rfl rfl rfl rfl ga.yc rfl
  have hge16 : 16 ≤ e.size + x.size := Nat.le_trans u.zge (Nat.le_add_right _ _)
  have u1 : ra_UserAt { s with h := { h0 with ents := pre ++
      [{ addr := e.addr, size := e.size + x.size, cin := true, pin := e.pin, pfoot := e.pfoot }, { y with pin := true }] ++ post } }
      e.addr (nb + (e.size + x.size - nb)) pre post
      { addr := e.addr, size := e.size + x.size, cin := true, pin := e.pin, pfoot := e.pfoot } { y with pin := true } g :=
    ⟨by simp, rfl, hsum.symm, rfl, (gl_isRecord_addr (segs := s.segs) (e := e) rfl).trans u.er,
      by rw [hsum]; exact Nat.ne_of_gt (Nat.lt_of_lt_of_le (by decide) hge16), u.p16,
      by rw [hsum]; exact mod16_add u.z16 hxs16, by rw [hsum]; exact hge16,
      u.hg, u.ge, ga.gy, by rw [hsum, ← Nat.add_assoc, ← hxa]; exact ga.ya, rfl⟩
  obtain ⟨i2, sp1⟩ := ra_split_core i1 u1 hnb16 hnb (mod16_of_add hsum hnb16 (mod16_add u.z16 hxs16)) hrs (H := h2)
    (by rw [r2]; exact ⟨rfl, rfl, rfl, rfl, rfl, rfl, rfl⟩)
  exact ⟨i2, ra_splitU_of_resizedTo rt1 sp1 (Nat.lt_of_lt_of_le (by decide) hnb)⟩

theorem ra_into_next_split (hd : dispose_chunk_Spec) {s : St} (hi : SInv s) {p z nb : Nat} {pre post : List Ent}
    {e x y : Ent} {g : Seg} (ga : ra_GrowAt s p z pre post e x y g) (hcd : x.addr ≠ s.h.dv)
    (hnb16 : nb % 16 = 0) (hnb : 16 ≤ nb) (hlt : z < nb) (hfit : nb + 16 ≤ z + x.size)
    {h0 h1 h2 h3 : Heap} {t : String} (e0 : unlink_chunk s.h x.addr x.size = .ok h0)
    (e1 : set_inuse h0 p nb = .ok h1) (e2 : set_inuse h1 (p + nb) (z + x.size - nb) = .ok h2)
    (e3 : dispose_chunk (h2.tag t) (p + nb) (z + x.size - nb) = .ok h3) :
    SInv { s with h := h3 } ∧ Resized s { s with h := h3 } p nb := by
  obtain ⟨i2, sp⟩ := ra_into_next_split_mid hi ga hcd hnb16 hnb hlt hfit e0 e1 e2
  obtain ⟨r1, r2⟩ := ra_split_dispose hd (s := s) i2 sp (Nat.lt_of_lt_of_le (by decide) hnb) e3
  exact ⟨r1, r2.resized (Nat.le_refl nb)⟩

/-- `set_inuse` changes the header table only -/
theorem ra_set_inuse_fields {h h' : Heap} {a sz : Nat} (e : set_inuse h a sz = .ok h') :
    h'.sbins = h.sbins ∧ h'.tbins = h.tbins ∧ h'.dv = h.dv ∧ h'.dvsize = h.dvsize ∧ h'.top = h.top ∧
      h'.topsize = h.topsize := by
  unfold set_inuse at e
  dsimp only at e
  msimp at e
  obtain ⟨h1, e1, e2⟩ := e
  unfold writeHead at e1
  split at e1
  · msimp at e1
  · msimp at e1
    subst e1
    subst e2
    unfold orPin
    dsimp only
    split <;> exact ⟨rfl, rfl, rfl, rfl, rfl, rfl⟩

/-- **`try_realloc_chunk_Spec`** (given `dispose_chunk_Spec`) -/
theorem ra_try_realloc_chunk_spec (hd : dispose_chunk_Spec) : try_realloc_chunk_Spec := by
  intro s hi p nb z h' hu hnb hh
  have w := hi.wfs
  obtain ⟨pre, post, e, x, g, u⟩ := ra_user_parts w hu
  have hnb16 := hnb.1
  have hnb32 := hnb.2.1
  unfold try_realloc_chunk at hh
  dsimp only at hh
  msimp at hh
  obtain ⟨e0, he0, _, _, hh⟩ := hh
  have := getE_spec he0
  rw [u.find w] at this
  injection this with this
  subst this
  have hesz := u.es
  subst hesz
  rw [MIN_CHUNK_SIZE_eq] at hh
  by_cases hge : e.size ≥ nb
  · rw [if_pos hge] at hh
    by_cases hrs : e.size - nb ≥ 32
    · -- shrink-split
      rw [if_pos hrs] at hh
      msimp at hh
      obtain ⟨h1, e1, h2, e2, h3, e3, hh⟩ := hh
      injection hh with hh
      subst hh
      exact ra_shrink_split hd hi hu hnb hge hrs e1 e2 e3
    · -- shrink-keep
      rw [if_neg hrs] at hh
      msimp at hh
      injection hh with hh
      subst hh
      exact ⟨ra_sinv_same hi (ra_sameHeap_tag _ _), e.size, hge,
        fun a z' => (ra_user_same (H := s.h.tag "realloc-shrink-keep") rfl a z').trans (ra_resizedTo_self hu a z')⟩
  · have hlt : e.size < nb := Nat.lt_of_not_le hge
    rw [if_neg hge] at hh
    by_cases ht : p + e.size = s.h.top
    · rw [if_pos ht] at hh
      by_cases hfit : e.size + s.h.topsize ≤ nb
      · rw [if_pos hfit] at hh
        msimp at hh
        cases hh
      · -- into-top
        rw [if_neg hfit] at hh
        msimp at hh
        obtain ⟨h1, e1, h2, e2, hh⟩ := hh
        injection hh with hh
        subst hh
        obtain ⟨r1, r2⟩ := ra_into_top hi hu hnb16 hlt (Nat.lt_of_not_le hfit) ht e1 e2
          (H := ({ h2 with top := p + nb, topsize := e.size + s.h.topsize - nb } : Heap).tag "realloc-into-top")
          ⟨rfl, rfl, rfl, rfl, rfl, rfl, rfl⟩
        exact ⟨r1, r2.resized (Nat.le_refl nb)⟩
    · rw [if_neg ht] at hh
      by_cases hdv : p + e.size = s.h.dv
      · rw [if_pos hdv] at hh
        by_cases hfit : e.size + s.h.dvsize < nb
        · rw [if_pos hfit] at hh
          msimp at hh
          cases hh
        · rw [if_neg hfit] at hh
          have hfit' : nb ≤ e.size + s.h.dvsize := Nat.le_of_not_lt hfit
          by_cases hds : e.size + s.h.dvsize - nb ≥ 32
          · -- into-dv-split
            rw [if_pos hds] at hh
            msimp at hh
            obtain ⟨h1, e1, h2, e2, h3, e3, hh⟩ := hh
            injection hh with hh
            subst hh
            obtain ⟨r1, r2⟩ := ra_into_dv_split hi hu hnb16 hlt ht hdv
              (Nat.add_comm _ _ ▸ Nat.add_le_of_le_sub hfit' hds) e1 e2 e3
              (H := ({ h3 with dvsize := e.size + s.h.dvsize - nb, dv := p + nb } : Heap).tag "realloc-into-dv-split")
              ⟨rfl, rfl, rfl, rfl, rfl, rfl, rfl⟩
            exact ⟨r1, r2.resized (Nat.le_refl nb)⟩
          · -- into-dv-exhaust
            rw [if_neg hds] at hh
            msimp at hh
            obtain ⟨h1, e1, hh⟩ := hh
            injection hh with hh
            subst hh
            obtain ⟨hxf, hxs, hd32, hd0⟩ := ra_dv_at w u.mem_y (by rw [u.ya, hdv])
            obtain ⟨y, post', hp, ga⟩ := ra_grow_parts w u hxf (by rw [u.ya]; exact ht)
            subst hp
            rw [← hxs] at e1 hfit'
            have hxd : x.addr = s.h.dv := by rw [u.ya, hdv]
            obtain ⟨f1, f2, f3, f4, f5, f6⟩ := ra_set_inuse_fields e1
            obtain ⟨r1, r2⟩ := ra_grow_exhaust hi ga (h0 := s.h) rfl e1
              (H := ({ h1 with dvsize := 0, dv := 0 } : Heap).tag "realloc-into-dv-exhaust") rfl
              (by rw [hxd]; exact ra_delisted_dv w hd0 f1 f2 f5 f6 rfl rfl)
            exact ⟨r1, r2.resized hfit'⟩
      · rw [if_neg hdv] at hh
        msimp at hh
        obtain ⟨en, hen, hh⟩ := hh
        have hfx : findEnt s.h.ents (p + e.size) = some x := by rw [← u.ya]; exact entsOk_find x u.mem_y w.ents
        have := getE_spec hen
        rw [hfx] at this
        injection this with this
        subst this
        by_cases hcin : (!x.cin) = true
        · rw [if_pos hcin] at hh
          have hxf : isFree x = true := isFree_iff.2 ⟨by simpa using hcin, u.yp⟩
          obtain ⟨y, post', hp, ga⟩ := ra_grow_parts w u hxf (by rw [u.ya]; exact ht)
          subst hp
          have hcd : x.addr ≠ s.h.dv := by rw [u.ya]; exact hdv
          by_cases hfit : e.size + x.size < nb
          · rw [if_pos hfit] at hh
            msimp at hh
            cases hh
          · rw [if_neg hfit] at hh
            have hfit' : nb ≤ e.size + x.size := Nat.le_of_not_lt hfit
            msimp at hh
            obtain ⟨h0, e0', hh⟩ := hh
            rw [← u.ya] at e0'
            by_cases hrs : e.size + x.size - nb < 32
            · -- into-next-exhaust
              rw [if_pos hrs] at hh
              msimp at hh
              obtain ⟨h1, e1, hh⟩ := hh
              injection hh with hh
              subst hh
              obtain ⟨f1, f2, f3, f4, f5, f6⟩ := ra_set_inuse_fields e1
              obtain ⟨r1, r2⟩ := ra_grow_exhaust hi ga (h0 := h0) (unlink_chunk_frame e0').ents e1
                (H := h1.tag "realloc-into-next-exhaust") rfl
                (ra_delisted_unlink w e0' hcd f1 f2 f5 f6 f3 f4)
              exact ⟨r1, r2.resized hfit'⟩
            · -- into-next-split
              rw [if_neg hrs] at hh
              msimp at hh
              obtain ⟨h1, e1, h2, e2, h3, e3, hh⟩ := hh
              injection hh with hh
              subst hh
              exact ra_into_next_split hd hi ga hcd hnb16 (Nat.le_trans (by decide) hnb32) hlt
                (Nat.add_comm _ _ ▸ Nat.add_le_of_le_sub hfit' (Nat.le_trans (by decide : 16 ≤ 32) (Nat.le_of_not_lt hrs)))
                e0' e1 e2 e3
        · rw [if_neg hcin] at hh
          msimp at hh
          cases hh

/-! ## H. non-vacuity -/

/-- `try_realloc_chunk h p nb` succeeds in place and the branch tag `tag` was recorded -/
def ra_branchIs (h : Heap) (p nb : Nat) (tag : String) : Bool :=
  match try_realloc_chunk { h with tr := [] } p nb with
  | .ok (some h') => h'.tr.contains tag
  | _ => false

def ra_userB (s : St) (a z : Nat) : Bool :=
  match findEnt s.h.ents a with
  | some e => e.cin && decide (e.size = z) && decide (z ≠ 8) && !isRecord s.segs e
  | none => false

theorem ra_user_of_check {s : St} {a z : Nat} (h : ra_userB s a z = true) : User s a z := by
  unfold ra_userB at h
  split at h
  · rename_i e he
    simp only [Bool.and_eq_true, decide_eq_true_eq, Bool.not_eq_true'] at h
    exact ⟨e, he, h.1.1.1, h.1.1.2, h.1.2, h.2⟩
  · cases h

set_option maxRecDepth 40000 in
/-- non-vacuity: the hypotheses of `try_realloc_chunk_Spec` hold on reachable states on which each of the
seven successful branches is taken -/
example : Inv smallState ∧ User smallState.st 1048576 112 ∧ User smallState.st 1048800 112 ∧
    ra_branchIs smallState.st.h 1048576 48 "realloc-shrink-split" = true ∧
    ra_branchIs smallState.st.h 1048576 96 "realloc-shrink-keep" = true ∧
    ra_branchIs smallState.st.h 1048576 128 "realloc-into-next-split" = true ∧
    ra_branchIs smallState.st.h 1048576 208 "realloc-into-next-exhaust" = true ∧
    ra_branchIs smallState.st.h 1048800 256 "realloc-into-top" = true ∧
    Inv pilotState ∧ User pilotState.st 1048688 32 ∧
    ra_branchIs pilotState.st.h 1048688 48 "realloc-into-dv-split" = true ∧
    ra_branchIs pilotState.st.h 1048688 96 "realloc-into-dv-exhaust" = true :=
  ⟨fr_inv_of_check (by decide +kernel), ra_user_of_check (by decide), ra_user_of_check (by decide),
    by decide, by decide, by decide, by decide, by decide,
    fr_inv_of_check (by decide +kernel), ra_user_of_check (by decide), by decide +kernel⟩

end TinyVerif.Dl
