import TinyVerif.Proofs.DlIndBase
/-!
# `WF` alone is not inductive: kernel-checked counterexamples to `wf_step`

A step theorem `WF hs → hs.step op os = .ok (hs', out) → WF hs'` would quantify over all `WF` states,
reachable or not, and is false: `WF` (`Model/DlmallocWF.lean`) lacks facts that hold in every reachable
state and that the allocator relies on.  Two of them are shown here by counterexample:

1. `RecsOk` — a pushed segment record (`Seg.recAt ≠ 0`) lies in the payload of an *in-use* header.
   `cexState` satisfies `WF` although the `recAt` of its second segment points into a binned free
   chunk (the real record chunk is passed off as a live block, which satisfies `liveOk`).  An ordinary
   `malloc` (no OS call, so any contract on the OS answers holds vacuously) hands out that chunk and ends in a state
   violating `liveOk` (the new block "is a record").
2. `FenceOk` — the header before a fencepost is a fencepost or a record chunk, never a user chunk.
   `cexState2` satisfies `WF` with the record chunk passed off as a live block; `free` of it clears
   PINUSE of the first fencepost and ends in a state violating `shapeOk`.

`RecsOk` and `FenceOk` are defined in `Proofs/DlIndBase.lean` §7 (`liveOk_alloc` uses `RecsOk` exactly where
it is needed); the inductive invariant `Inv` (`Proofs/DlIndSpec.lean`) adds them and three more conjuncts
(`TailOk`, `HeadOk`, `RecIn`) to `WF`; `wf_step` (`Props/C03Ind.lean`) is stated for it.  Both
counterexamples are checked by kernel evaluation (`decide +kernel`).
-/
namespace TinyVerif.Dl

/-- three small blocks, a large one that forces a second (non-adjacent) segment, the middle small
block freed again (it goes into a small bin) -/
def cexOps : List (Op × List OsDir) :=
  [(.malloc 1 100 8, [.m (some 1048576)]), (.malloc 2 100 8, []), (.malloc 3 100 8, []),
   (.malloc 4 70000 8, [.m (some 4194304)]), (.free 2, [])]

def cexReached : Hist := match Hist.init.run cexOps with
  | .ok (hs, _) => hs
  | .error _ => Hist.init

/-- the reachable state with the record pointer of the old segment redirected into the free chunk at
`1048688` (payload `1048704`), and the real record chunk (`1114032`) passed off as a live block -/
def cexState : Hist :=
  { st := { cexReached.st with
      segs := [{ base := 4194304, size := 131072, recAt := 0 }, { base := 1048576, size := 65536, recAt := 1048704 }] },
    live := { id := 9, ptr := 1114048, size := 32, align := 8 } :: cexReached.live }

/-- `cexState` is well-formed, one `malloc` later it is not -/
theorem wf_step_counterexample :
    WF cexState ∧ ¬ RecsOk cexState.st ∧
    ∃ hs' out, cexState.step (.malloc 7 100 8) [] = .ok (hs', out) ∧ out.ptr = 1048704 ∧ ¬ WF hs' := by
  refine ⟨by unfold WF; decide +kernel, ?_, ?_⟩
  · intro h
    have := h { base := 1048576, size := 65536, recAt := 1048704 } (by decide +kernel) (by decide +kernel)
    obtain ⟨_, e, he, hc⟩ := this
    have h2 : findEnt cexState.st.h.ents (1048704 - 16) = some { addr := 1048688, size := 112, cin := false, pin := true, pfoot := 0 } := by
      decide +kernel
    rw [h2] at he
    injection he with he
    subst he
    cases hc
  · obtain ⟨v, hv, hp⟩ := matchB_ok (x := cexState.step (.malloc 7 100 8) [])
      (p := fun v => decide (v.2.ptr = 1048704) && !wfb v.1) (by decide +kernel)
    simp only [Bool.and_eq_true, decide_eq_true_eq, Bool.not_eq_true'] at hp
    exact ⟨v.1, v.2, hv, hp.1, by unfold WF; rw [hp.2]; decide +kernel⟩

/-- second gap: nothing in `WF` says that the header before a fencepost is the segment-record chunk.
Here the record chunk (`1114032`, followed by the three fenceposts) is passed off as a live block and
the record pointer is dropped; freeing the "block" merges it with the free chunk before it and clears
PINUSE of the first fencepost, which `shapeOk` rejects -/
def cexState2 : Hist :=
  { st := { cexReached.st with
      segs := [{ base := 4194304, size := 131072, recAt := 0 }, { base := 1048576, size := 65536, recAt := 0 }] },
    live := { id := 9, ptr := 1114048, size := 32, align := 8 } :: cexReached.live }

theorem wf_step_counterexample_free :
    WF cexState2 ∧ ¬ FenceOk cexState2.st ∧
    ∃ hs' out, cexState2.step (.free 9) [] = .ok (hs', out) ∧ ¬ WF hs' := by
  refine ⟨by unfold WF; decide +kernel, ?_, ?_⟩
  · intro h
    have := h
      [{ addr := 1048576, size := 112, cin := true, pin := true, pfoot := 0 },
       { addr := 1048688, size := 112, cin := false, pin := true, pfoot := 0 },
       { addr := 1048800, size := 112, cin := true, pin := false, pfoot := 112 },
       { addr := 1048912, size := 65120, cin := false, pin := true, pfoot := 0 }]
      { addr := 1114032, size := 48, cin := true, pin := false, pfoot := 65120 }
      { addr := 1114080, size := 8, cin := true, pin := true, pfoot := 0 }
      [{ addr := 1114088, size := 8, cin := true, pin := true, pfoot := 0 },
       { addr := 1114096, size := 8, cin := true, pin := true, pfoot := 0 },
       { addr := 4194304, size := 70016, cin := true, pin := true, pfoot := 0 },
       { addr := 4264320, size := 60976, cin := false, pin := true, pfoot := 0 },
       { addr := 4325296, size := 80, cin := false, pin := false, pfoot := 0 }]
      (by decide +kernel) rfl rfl
    revert this
    decide +kernel
  · obtain ⟨v, hv, hp⟩ := matchB_ok (x := cexState2.step (.free 9) [])
      (p := fun v => !wfb v.1) (by decide +kernel)
    simp only [Bool.not_eq_true'] at hp
    exact ⟨v.1, v.2, hv, by unfold WF; rw [hp]; decide +kernel⟩

end TinyVerif.Dl
