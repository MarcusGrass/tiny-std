import TinyVerif.Proofs.DlIndGlue
/-!
# Steps that change the segment list (tag `sg_`)

`struct_window` (`DlIndBase.lean`) keeps `segs` fixed.  Here the new header table is described as a set
(`z ∈ E' ↔ z is new ∨ (z ∈ E ∧ z is kept)`; two sorted tables with the same headers are equal, `sg_entsOk_ext`),
and the invariant is read segment by segment (`SegInv`): a segment whose headers are the same in the new table
keeps its part of the invariant (`SegInv.far`), so each step proves `SegInv` only for the one or two segments it
touches.  `SgTop` names what `topOk` gives: the head segment, `top`, its foot word, the table on either side.

The steps: `sg_top_split` (common tail of `sys_alloc`), `sg_retop` (`sys-extend`, `trim_top`), `sg_release_seg`
(`releaseLoop`), `sg_addseg_core` (`add_segment`), `sg_prepend_mid` (`sys-prepend`).  The functions themselves are
in `DlIndSys.lean`.
-/
namespace TinyVerif.Dl

/-! ## `isRecord`, `FenceOk`, `User` -/

theorem sg_isRecord_false {segs : List Seg} {e : Ent} :
    isRecord segs e = false ↔ ∀ g ∈ segs, g.recAt ≠ e.addr + 16 := by
  cases h : isRecord segs e with
  | false =>
    simp only [true_iff]
    intro g hg hga
    have := gl_isRecord_iff.2 ⟨g, hg, hga⟩
    rw [h] at this; cases this
  | true =>
    simp only [Bool.true_eq_false, false_iff]
    intro hall
    obtain ⟨g, hg, hga⟩ := gl_isRecord_iff.1 h
    exact hall g hg hga

/-- `User` only reads the header table and the segment list -/
theorem sg_user_congr {s s' : St} (he : s'.h.ents = s.h.ents) (hs : s'.segs = s.segs) (a z : Nat) :
    User s' a z ↔ User s a z := by
  unfold User; rw [he, hs]

theorem sg_sameUsers_of_eq {s s' : St} (he : s'.h.ents = s.h.ents) (hs : s'.segs = s.segs) : SameUsers s s' :=
  fun a z => sg_user_congr he hs a z

theorem sg_sameUsers_trans {a b c : St} (h1 : SameUsers a b) (h2 : SameUsers b c) : SameUsers a c :=
  fun x z => (h2 x z).trans (h1 x z)

theorem sg_alloc_of_same {s s1 s2 : St} {nb mem : Nat} (h1 : SameUsers s s1) (h2 : Alloc s1 s2 nb mem) :
    Alloc s s2 nb mem := by
  obtain ⟨a1, a2, a3, sz, a4, a5⟩ := h2
  refine ⟨a1, a2, fun z hz => a3 z ((h1 _ _).2 hz), sz, a4, fun a z => ?_⟩
  rw [a5 a z, h1 a z]

/-- a header lying in two segments of a disjoint segment list: the segments coincide -/
theorem sg_seg_unique {segs : List Seg} (hd : segsDisjoint segs = true) {g g' : Seg} (hg : g ∈ segs) (hg' : g' ∈ segs)
    {e : Ent} (h1 : inSeg g e = true) (h2 : inSeg g' e = true) : g = g' :=
  gl_seg_unique hd hg hg' h1 h2 rfl

/-! ## states that agree on what the invariant reads -/

/-- same headers, same segments, same `top`: what remains to be shown are the conjuncts that read the free lists,
`topsize` and `footprint` -/
theorem sg_sinv_congr {s s' : St} (hi : SInv s) (he : s'.h.ents = s.h.ents) (hsegs : s'.segs = s.segs)
    (htop : s'.h.top = s.h.top) (hla : s'.least_addr = s.least_addr) (hfl : freeListOk s'.h = true)
    (hsb : sbinsOk s'.h = true) (htb : tbinsOk s'.h = true) (hdv : dvOk s'.h = true) (ht : topOk s' = true) : SInv s' := by
  have w := hi.wfs
  refine ⟨⟨?_, ?_, ?_, ?_, ?_, hfl, hsb, htb, hdv, ht, ?_⟩, ?_, ?_, ?_, ?_, ?_⟩
  · rw [he]; exact w.ents
  · rw [he]; exact w.shape
  · rw [he, hsegs]; exact w.inSegs
  · rw [he, hsegs]; exact w.tiles
  · rw [he, hsegs, htop]; exact w.tags
  · unfold segsOk; rw [hsegs, hla]; exact w.segs
  · intro g hg hn
    rw [hsegs] at hg; rw [he]
    exact hi.recs g hg hn
  · intro pre x y post hes
    rw [he] at hes; rw [hsegs]
    exact hi.fence pre x y post hes
  · intro g hg hn e hem
    rw [hsegs] at hg ⊢; rw [he] at hem
    exact hi.tail g hg hn e hem
  · intro g hg e hem
    rw [hsegs] at hg; rw [he] at hem
    exact hi.head g hg e hem
  · intro g hg
    rw [hsegs] at hg
    exact hi.recin g hg

/-- `SInv` reads the heap (without the ghost trace), the segment list, `least_addr`, and — only while the
segment list is empty — `footprint` -/
theorem sg_sinv_same {s s' : St} (hi : SInv s) (hh : SameHeap s'.h s.h) (hsegs : s'.segs = s.segs)
    (hla : s'.least_addr = s.least_addr) (hfp : s.segs = [] → s'.footprint = s.footprint) : SInv s' := by
  have w := hi.wfs
  obtain ⟨h1, h2, h3, h4, h5, h6, h7⟩ := hh
  have hfl : Dl.freeList s'.h = Dl.freeList s.h := by unfold Dl.freeList binned; rw [h2, h3, h4, h6]
  refine sg_sinv_congr hi h1 hsegs h6 hla ?_ ?_ ?_ ?_ ?_
  · unfold freeListOk; rw [hfl, h1]; exact w.freeList
  · unfold sbinsOk; rw [h1, h2]; exact w.sbins
  · unfold tbinsOk; rw [h1, h3]; exact w.tbins
  · unfold dvOk; rw [h1, h4, h5]; exact w.dv
  · have ht := w.top
    unfold topOk at ht ⊢
    rw [hsegs, h1, h6, h7]
    cases hs : s.segs with
    | nil => rw [hs] at ht; rw [hfp hs]; exact ht
    | cons g rest => rw [hs] at ht; exact ht

theorem sg_sinv_tag {s : St} (hi : SInv s) (t : String) : SInv (s.tag t) :=
  sg_sinv_same hi ⟨rfl, rfl, rfl, rfl, rfl, rfl, rfl⟩ rfl rfl (fun _ => rfl)

theorem sg_sameUsers_tag (s : St) (t : String) : SameUsers s (s.tag t) := sg_sameUsers_of_eq rfl rfl

/-! ## a segment's headers are a contiguous block of the sorted table -/

theorem sg_addr_lt_of_entsOk {a : Ent} {r : List Ent} (h : entsOk (a :: r) = true) : ∀ b ∈ r, a.addr < b.addr := by
  intro b hb
  have h1 := entsOk_head_le h b hb
  have h2 := entsOk_pos h a List.mem_cons_self
  omega

/-- the table splits into the headers below a segment, the segment's headers, the headers above it -/
theorem sg_seg_split {es : List Ent} (hok : entsOk es = true) (g : Seg) :
    ∃ pre post, es = pre ++ segEnts es g ++ post ∧ (∀ e ∈ pre, e.addr < g.base) ∧
      (∀ e ∈ post, g.base + g.size ≤ e.addr) := by
  induction es with
  | nil => exact ⟨[], [], rfl, by simp, by simp⟩
  | cons a r ih =>
    obtain ⟨pre, post, hr, h1, h2⟩ := ih (entsOk_tail hok)
    have hlt := sg_addr_lt_of_entsOk hok
    by_cases c1 : a.addr < g.base
    · have hns : inSeg g a = false := by
        cases h : inSeg g a with
        | false => rfl
        | true => rw [inSeg_iff] at h; omega
      refine ⟨a :: pre, post, ?_, ?_, h2⟩
      · simp only [segEnts, List.filter, hns, List.cons_append]
        congr 1
      · intro e he
        rcases List.mem_cons.1 he with rfl | he
        · exact c1
        · exact h1 e he
    · have hpre : pre = [] := by
        cases pre with
        | nil => rfl
        | cons p ps =>
          exfalso
          have hp : p ∈ r := by rw [hr]; simp
          have := hlt p hp
          have := h1 p List.mem_cons_self
          omega
      subst hpre
      by_cases c2 : a.addr < g.base + g.size
      · have hs : inSeg g a = true := by rw [inSeg_iff]; omega
        refine ⟨[], post, ?_, by simp, h2⟩
        simp only [segEnts, List.filter, hs, List.nil_append, List.cons_append]
        congr 1
      · have hns : inSeg g a = false := by
          cases h : inSeg g a with
          | false => rfl
          | true => rw [inSeg_iff] at h; omega
        have hmid : segEnts r g = [] := by
          apply segEnts_none
          intro e he
          have := hlt e he
          cases h : inSeg g e with
          | false => rfl
          | true => rw [inSeg_iff] at h; omega
        refine ⟨[], a :: post, ?_, by simp, ?_⟩
        · have hrp : r = post := by rw [hmid] at hr; simpa using hr
          have hmid' : List.filter (inSeg g) r = [] := hmid
          simp only [segEnts, List.filter, hns, List.nil_append]
          rw [hmid', ← hrp]; rfl
        · intro e he
          rcases List.mem_cons.1 he with rfl | he
          · omega
          · exact h2 e he

/-! ### disjoint segment lists -/

theorem sg_segsDisjoint_iff (l : List Seg) :
    segsDisjoint l = true ↔ l.Pairwise (fun a b => a.base + a.size ≤ b.base ∨ b.base + b.size ≤ a.base) := by
  induction l with
  | nil => simp [segsDisjoint]
  | cons g gs ih =>
    simp only [segsDisjoint, Bool.and_eq_true, List.all_eq_true, Bool.or_eq_true, decide_eq_true_eq,
      List.pairwise_cons, ih]

theorem sg_segsDisjoint_sublist {l l' : List Seg} (h : segsDisjoint l = true) (hs : l'.Sublist l) :
    segsDisjoint l' = true := by
  rw [sg_segsDisjoint_iff] at h ⊢
  exact h.sublist hs

/-- the other segments of a disjoint list are disjoint from `g` -/
theorem sg_disjoint_of_split {pref rest : List Seg} {g : Seg} (h : segsDisjoint (pref ++ g :: rest) = true) :
    ∀ g' ∈ pref ++ rest, g.base + g.size ≤ g'.base ∨ g'.base + g'.size ≤ g.base := by
  rw [sg_segsDisjoint_iff, List.pairwise_append] at h
  obtain ⟨_, h2, h3⟩ := h
  intro g' hg'
  rcases List.mem_append.1 hg' with hg' | hg'
  · have := h3 g' hg' g List.mem_cons_self
    omega
  · exact (List.pairwise_cons.1 h2).1 g' hg'

/-! ## sorted tables as sets: membership forms of the header writes -/

/-- two sorted tables with the same headers are equal -/
theorem sg_entsOk_ext : ∀ {l1 l2 : List Ent}, entsOk l1 = true → entsOk l2 = true → (∀ z, z ∈ l1 ↔ z ∈ l2) → l1 = l2 := by
  intro l1
  induction l1 with
  | nil =>
    intro l2 _ _ h
    cases l2 with
    | nil => rfl
    | cons b r => exact absurd ((h b).2 List.mem_cons_self) (by simp)
  | cons a r ih =>
    intro l2 h1 h2 h
    cases l2 with
    | nil => exact absurd ((h a).1 List.mem_cons_self) (by simp)
    | cons b r2 =>
      have la := sg_addr_lt_of_entsOk h1
      have lb := sg_addr_lt_of_entsOk h2
      have hab : a = b := by
        have ha : a ∈ b :: r2 := (h a).1 List.mem_cons_self
        have hb : b ∈ a :: r := (h b).2 List.mem_cons_self
        rcases List.mem_cons.1 ha with ha | ha
        · exact ha
        · rcases List.mem_cons.1 hb with hb | hb
          · exact hb.symm
          · have := la b hb; have := lb a ha; omega
      subst hab
      congr 1
      refine ih (entsOk_tail h1) (entsOk_tail h2) ?_
      intro z
      constructor
      · intro hz
        rcases List.mem_cons.1 ((h z).1 (List.mem_cons_of_mem _ hz)) with hza | hza
        · subst hza; have := la z hz; omega
        · exact hza
      · intro hz
        rcases List.mem_cons.1 ((h z).2 (List.mem_cons_of_mem _ hz)) with hza | hza
        · subst hza; have := lb z hz; omega
        · exact hza

theorem sg_entsOk_filter {l : List Ent} (h : entsOk l = true) (p : Ent → Bool) : entsOk (l.filter p) = true := by
  rw [entsOk_iff] at h ⊢
  exact ⟨fun e he => h.1 e (List.mem_filter.1 he).1, h.2.filter p⟩

/-- the headers of a segment, identified by membership -/
theorem sg_segEnts_eq {es l : List Ent} {g : Seg} (hok : entsOk es = true) (hl : entsOk l = true)
    (h : ∀ z, z ∈ l ↔ z ∈ es ∧ inSeg g z = true) : segEnts es g = l := by
  refine sg_entsOk_ext (sg_entsOk_filter hok _) hl ?_
  intro z
  rw [mem_segEnts, h z]

theorem sg_mem_dropEnts {h : Heap} {lo hi : Nat} {z : Ent} :
    z ∈ (dropEnts h lo hi).ents ↔ z ∈ h.ents ∧ (z.addr < lo ∨ hi ≤ z.addr) := by
  simp [dropEnts]

/-- **`putEnt` on a sorted table, as a set**: the new header replaces the headers starting inside it -/
theorem sg_putEnt_tab {es : List Ent} {e : Ent} (hok : entsOk es = true) (hpos : 0 < e.size)
    (hlow : ∀ y ∈ es, y.addr < e.addr → y.addr + y.size ≤ e.addr) :
    entsOk (putEnt es e) = true ∧
      ∀ z, z ∈ putEnt es e ↔ z = e ∨ (z ∈ es ∧ (z.addr < e.addr ∨ e.addr + e.size ≤ z.addr)) := by
  obtain ⟨pre, post, hsplit, h1, h2⟩ := sg_seg_split hok { base := e.addr, size := e.size, recAt := 0 }
  have hmid : ∀ m ∈ segEnts es { base := e.addr, size := e.size, recAt := 0 }, m ∈ es ∧ e.addr ≤ m.addr ∧ m.addr < e.addr + e.size := by
    intro m hm
    obtain ⟨a, b⟩ := mem_segEnts.1 hm
    rw [inSeg_iff] at b
    exact ⟨a, b⟩
  generalize segEnts es { base := e.addr, size := e.size, recAt := 0 } = mid at hsplit hmid
  simp only at h1 h2
  have hput : putEnt es e = pre ++ e :: post := by
    rw [hsplit]
    refine putEnt_window h1 ?_ ?_
    · intro m hm
      have := hmid m hm
      exact ⟨this.2.1, Or.inr this.2.2⟩
    · intro q hq
      have := h2 q hq
      omega
  rw [hput]
  have hok' := hok
  rw [hsplit, List.append_assoc] at hok'
  obtain ⟨a1, a2, a3⟩ := entsOk_append.1 hok'
  obtain ⟨_, a5, _⟩ := entsOk_append.1 a2
  have hprem : ∀ p ∈ pre, p ∈ es := fun p hp => by rw [hsplit]; simp [hp]
  have hpostm : ∀ p ∈ post, p ∈ es := fun p hp => by rw [hsplit]; simp [hp]
  constructor
  · refine entsOk_append.2 ⟨a1, ?_, ?_⟩
    · have : entsOk ([e] ++ post) = true := by
        refine entsOk_append.2 ⟨by simp [entsOk, hpos], a5, ?_⟩
        intro a ha b hb
        simp only [List.mem_singleton] at ha
        subst ha
        exact h2 b hb
      simpa using this
    · intro a ha b hb
      rcases List.mem_cons.1 hb with hb | hb
      · subst hb; exact hlow a (hprem a ha) (h1 a ha)
      · exact a3 a ha b (List.mem_append.2 (Or.inr hb))
  · intro z
    simp only [List.mem_append, List.mem_cons]
    constructor
    · rintro (h | h | h)
      · exact Or.inr ⟨hprem z h, Or.inl (h1 z h)⟩
      · exact Or.inl h
      · exact Or.inr ⟨hpostm z h, Or.inr (h2 z h)⟩
    · rintro (h | ⟨hz, hc⟩)
      · exact Or.inr (Or.inl h)
      · rw [hsplit] at hz
        simp only [List.mem_append] at hz
        rcases hz with (hz | hz) | hz
        · exact Or.inl hz
        · have := hmid z hz; omega
        · exact Or.inr (Or.inr hz)

/-- **`modEnt` on a sorted table, as a set** (the rewritten header keeps address and size) -/
theorem sg_modEnt_tab {es : List Ent} {x : Ent} {f : Ent → Ent} (hok : entsOk es = true) (hx : x ∈ es)
    (hfa : (f x).addr = x.addr) (hfs : (f x).size = x.size) :
    ∃ es', modEnt f es x.addr = some es' ∧ entsOk es' = true ∧
      ∀ z, z ∈ es' ↔ z = f x ∨ (z ∈ es ∧ z.addr ≠ x.addr) := by
  obtain ⟨pre, post, hes⟩ := List.append_of_mem hx
  subst hes
  refine ⟨pre ++ f x :: post, modEnt_mid hok, ?_, ?_⟩
  · obtain ⟨a1, a2, a3⟩ := entsOk_append.1 hok
    refine entsOk_append.2 ⟨a1, ?_, ?_⟩
    · have hh := entsOk_head_le a2
      have : entsOk ([f x] ++ post) = true := by
        refine entsOk_append.2 ⟨?_, entsOk_tail a2, ?_⟩
        · have := entsOk_pos a2 x List.mem_cons_self
          simp [entsOk, hfs, this]
        · intro a ha b hb
          simp only [List.mem_singleton] at ha
          subst ha
          rw [hfa, hfs]; exact hh b hb
      simpa using this
    · intro a ha b hb
      rcases List.mem_cons.1 hb with hb | hb
      · subst hb; rw [hfa]; exact a3 a ha x List.mem_cons_self
      · exact a3 a ha b (List.mem_cons_of_mem _ hb)
  · intro z
    have hpre := entsOk_pre_lt hok
    obtain ⟨_, a2, _⟩ := entsOk_append.1 hok
    have hpost := sg_addr_lt_of_entsOk a2
    simp only [List.mem_append, List.mem_cons]
    constructor
    · rintro (h | h | h)
      · exact Or.inr ⟨Or.inl h, by have := (hpre z h).2; omega⟩
      · exact Or.inl h
      · exact Or.inr ⟨Or.inr (Or.inr h), by have := hpost z h; omega⟩
    · rintro (h | ⟨h | h | h, hne⟩)
      · exact Or.inr (Or.inl h)
      · exact Or.inl h
      · subst h; exact absurd rfl hne
      · exact Or.inr (Or.inr h)

/-- `writeHead` on a sorted table, as a set -/
theorem sg_writeHead_tab {h h' : Heap} {a size : Nat} {c p : Bool} (e : writeHead h a size c p = .ok h')
    (hok : entsOk h.ents = true) (hpos : 0 < size) (hlow : ∀ y ∈ h.ents, y.addr < a → y.addr + y.size ≤ a) :
    h' = { h with ents := h'.ents } ∧ entsOk h'.ents = true ∧
      ∀ z, z ∈ h'.ents ↔ z = { addr := a, size := size, cin := c, pin := p, pfoot := pfootAt h.ents a } ∨
        (z ∈ h.ents ∧ (z.addr < a ∨ a + size ≤ z.addr)) := by
  have h8 : size % 8 = 0 := by
    unfold writeHead at e
    split at e
    · msimp at e
    · rename_i hh; omega
  rw [writeHead_eq h8] at e
  injection e with e
  subst e
  obtain ⟨t1, t2⟩ := sg_putEnt_tab (e := { addr := a, size := size, cin := c, pin := p, pfoot := pfootAt h.ents a })
    hok hpos hlow
  exact ⟨rfl, t1, t2⟩

/-- `writeHead` into a region where no header starts and into which none reaches -/
theorem sg_writeHead_fresh {h h' : Heap} {a size : Nat} {c p : Bool} (e : writeHead h a size c p = .ok h')
    (hok : entsOk h.ents = true) (hpos : 0 < size)
    (hfree : ∀ y ∈ h.ents, y.addr + y.size ≤ a ∨ a + size ≤ y.addr) :
    h' = { h with ents := h'.ents } ∧ entsOk h'.ents = true ∧
      ∀ z, z ∈ h'.ents ↔ z = { addr := a, size := size, cin := c, pin := p, pfoot := 0 } ∨ z ∈ h.ents := by
  have hp := entsOk_pos hok
  obtain ⟨r1, r2, r3⟩ := sg_writeHead_tab e hok hpos (fun y hy hlt => by rcases hfree y hy with h | h <;> omega)
  rw [pfootAt_none (findEnt_none fun y hy hya => by have := hp y hy; rcases hfree y hy with h | h <;> omega)] at r3
  refine ⟨r1, r2, fun z => (r3 z).trans ⟨?_, ?_⟩⟩
  · rintro (h | ⟨h, _⟩)
    · exact Or.inl h
    · exact Or.inr h
  · rintro (h | h)
    · exact Or.inl h
    · exact Or.inr ⟨h, by have := hp z h; rcases hfree z h with h' | h' <;> omega⟩

theorem sg_setFoot_tab {h h' : Heap} {a v : Nat} {x : Ent} (e : setFoot h a v = .ok h') (hok : entsOk h.ents = true)
    (hx : x ∈ h.ents) (ha : x.addr = a) :
    h' = { h with ents := h'.ents } ∧ entsOk h'.ents = true ∧
      ∀ z, z ∈ h'.ents ↔ z = { x with pfoot := v } ∨ (z ∈ h.ents ∧ z.addr ≠ a) := by
  subst ha
  obtain ⟨es', h1, h2, h3⟩ := sg_modEnt_tab (f := fun e => { e with pfoot := v }) hok hx rfl rfl
  unfold setFoot at e
  rw [h1] at e
  msimp at e
  subst e
  exact ⟨rfl, h2, h3⟩

theorem sg_clearPin_tab {h h' : Heap} {a : Nat} {x : Ent} (e : clearPin h a = .ok h') (hok : entsOk h.ents = true)
    (hx : x ∈ h.ents) (ha : x.addr = a) :
    h' = { h with ents := h'.ents } ∧ entsOk h'.ents = true ∧
      ∀ z, z ∈ h'.ents ↔ z = { x with pin := false } ∨ (z ∈ h.ents ∧ z.addr ≠ a) := by
  subst ha
  obtain ⟨es', h1, h2, h3⟩ := sg_modEnt_tab (f := fun e => { e with pin := false }) hok hx rfl rfl
  unfold clearPin at e
  rw [h1] at e
  msimp at e
  subst e
  exact ⟨rfl, h2, h3⟩

/-- a header found by address in a sorted table -/
theorem sg_find_iff {es : List Ent} (hok : entsOk es = true) {a : Nat} {e : Ent} :
    findEnt es a = some e ↔ e ∈ es ∧ e.addr = a := by
  constructor
  · exact findEnt_some
  · rintro ⟨h1, h2⟩; rw [← h2]; exact entsOk_find e h1 hok

theorem sg_find_none_iff {es : List Ent} {a : Nat} : findEnt es a = none ↔ ∀ e ∈ es, e.addr ≠ a := by
  constructor
  · intro h e he hea
    induction es with
    | nil => cases he
    | cons x xs ih =>
      simp only [findEnt] at h
      split at h
      · cases h
      · rename_i hx
        rcases List.mem_cons.1 he with rfl | he
        · exact hx hea
        · exact ih h he
  · exact findEnt_none

/-! ## `init_top` -/

theorem sg_init_top_ok {s s' : St} {ptr size : Nat} (h : init_top s ptr size = .ok s') (h16 : ptr % 16 = 0)
    (hlt : ptr + 32 ≤ 2 ^ 64) :
    ∃ h1 h2, writeHead { s.h with top := ptr, topsize := size } ptr size false true = .ok h1 ∧
      writeHead h1 (ptr + size) 80 false false = .ok h2 ∧
      s' = { s with h := h2, trim_check := DEFAULT_TRIM_THRESHOLD } := by
  unfold init_top at h
  have hoff : align_offset_usize (ptr + MEM_OFFSET) = 0 := by
    rw [MEM_OFFSET_eq, align_offset_usize_eq (ptr + 16) (by omega)]; omega
  rw [hoff] at h
  simp only [Nat.add_zero, Nat.sub_zero, top_foot_size_eq] at h
  msimp at h
  obtain ⟨_, _, h1, e1, h2, e2, h⟩ := h
  exact ⟨h1, h2, e1, e2, h.symm⟩

/-! ## the header table and the segment list -/

theorem sg_fresh_ents {s : St} (w : WFS s) {tbase tsize : Nat}
    (hf : ∀ g ∈ s.segs, tbase + tsize ≤ g.base ∨ g.base + g.size ≤ tbase) :
    ∀ e ∈ s.h.ents, e.addr + e.size ≤ tbase ∨ tbase + tsize ≤ e.addr := by
  intro e he
  obtain ⟨g, hg, hge⟩ := w.struct.seg_of he
  have := w.struct.in_seg hg he hge
  rcases hf g hg with h | h
  · right; omega
  · left; omega

/-- what is known about the fresh mapping -/
structure SgFresh (s : St) (tbase tsize : Nat) : Prop where
  fresh : OsFresh s tbase tsize
  page : tbase % 4096 = 0
  gran : tsize % 65536 = 0

theorem SgFresh.ents {s : St} {tbase tsize : Nat} (hf : SgFresh s tbase tsize) (w : WFS s) :
    ∀ e ∈ s.h.ents, e.addr + e.size ≤ tbase ∨ tbase + tsize ≤ e.addr := sg_fresh_ents w hf.fresh.2.2.2

/-- `tiles` below a prefix, with the segment end moving -/
theorem sg_tiles_prefix_end (l1 : List Ent) {m m' : Ent} {r r' : List Ent} {e e' : Nat}
    (h8 : 8 ≤ m.size → 8 ≤ m'.size)
    (hr : ∀ a, tiles (m :: r) a e = true → tiles (m' :: r') a e' = true) :
    ∀ a, tiles (l1 ++ m :: r) a e = true → tiles (l1 ++ m' :: r') a e' = true := by
  induction l1 with
  | nil => exact hr
  | cons x xs ih =>
    intro a h
    cases xs with
    | nil =>
      simp only [List.cons_append, List.nil_append, tiles, Bool.and_eq_true, decide_eq_true_eq] at h ⊢
      exact ⟨⟨h.1.1, h8 h.1.2⟩, hr _ h.2⟩
    | cons z zs =>
      simp only [List.cons_append, tiles, Bool.and_eq_true, decide_eq_true_eq] at h ⊢
      exact ⟨h.1, ih _ h.2⟩

theorem sg_isRecord_congr {segs segs' : List Seg} (h : segs'.map (·.recAt) = segs.map (·.recAt)) (e : Ent) :
    isRecord segs' e = isRecord segs e := by
  have : ∀ l : List Seg, isRecord l e = (l.map (·.recAt)).any (fun r => decide (r = e.addr + 16)) := by
    intro l; unfold isRecord; rw [List.any_map]; rfl
  rw [this, this, h]

theorem WFS.seg_bounds {s : St} (w : WFS s) {g : Seg} (hg : g ∈ s.segs) :
    g.base % 4096 = 0 ∧ g.size % 4096 = 0 ∧ 0 < g.base ∧ 80 < g.size ∧ s.least_addr ≤ g.base ∧ g.base + g.size ≤ 2 ^ 64 := by
  have hs := w.segs
  unfold segsOk at hs
  simp only [Bool.and_eq_true, List.all_eq_true, decide_eq_true_eq, top_foot_size_eq] at hs
  have := hs.2 g hg
  omega

theorem sg_segsOk_cons {s : St} {g : Seg} {rest : List Seg} (hs : segsOk s = true) (hsegs : s.segs = g :: rest) :
    (∀ x ∈ rest, g.base + g.size ≤ x.base ∨ x.base + x.size ≤ g.base) ∧ segsDisjoint rest = true ∧
    ∀ x ∈ g :: rest, x.base % 4096 = 0 ∧ x.size % 4096 = 0 ∧ 0 < x.base ∧ 80 < x.size ∧ s.least_addr ≤ x.base ∧
      x.base + x.size ≤ 2 ^ 64 := by
  unfold segsOk at hs
  rw [hsegs] at hs
  simp only [segsDisjoint, Bool.and_eq_true, List.all_eq_true, Bool.or_eq_true, decide_eq_true_eq,
    top_foot_size_eq] at hs
  refine ⟨hs.1.1, hs.1.2, ?_⟩
  intro x hx
  have := hs.2 x hx
  omega

theorem sg_segsOk_of {s : St} {g : Seg} {rest : List Seg} (hsegs : s.segs = g :: rest)
    (h1 : ∀ x ∈ rest, g.base + g.size ≤ x.base ∨ x.base + x.size ≤ g.base) (h2 : segsDisjoint rest = true)
    (h3 : ∀ x ∈ g :: rest, x.base % 4096 = 0 ∧ x.size % 4096 = 0 ∧ 0 < x.base ∧ 80 < x.size ∧ s.least_addr ≤ x.base ∧
      x.base + x.size ≤ 2 ^ 64) : segsOk s = true := by
  unfold segsOk
  rw [hsegs]
  simp only [segsDisjoint, Bool.and_eq_true, List.all_eq_true, Bool.or_eq_true, decide_eq_true_eq,
    top_foot_size_eq]
  refine ⟨⟨h1, h2⟩, ?_⟩
  intro x hx
  have := h3 x hx
  omega

theorem sg_notInSeg_iff {g : Seg} {e : Ent} : inSeg g e = false ↔ e.addr < g.base ∨ g.base + g.size ≤ e.addr := by
  cases hi : inSeg g e with
  | false => rw [← Bool.not_eq_true, inSeg_iff] at hi; exact ⟨fun _ => (by omega), fun _ => rfl⟩
  | true => rw [inSeg_iff] at hi; exact ⟨fun h => (by cases h), fun h => by omega⟩

theorem sg_notInSeg {g : Seg} {e : Ent} (h : e.addr < g.base ∨ g.base + g.size ≤ e.addr) : inSeg g e = false :=
  sg_notInSeg_iff.2 h

/-! ## `top` and its foot word -/

/-- `X` is the header of a `top` chunk of `n` bytes at `a`, `F` the foot word after it -/
structure SgTopPair (X F : Ent) (a n : Nat) : Prop where
  xa : X.addr = a
  xs : X.size = n
  xc : X.cin = false
  xp : X.pin = true
  fa : F.addr = a + n
  fs : F.size = 80
  fc : F.cin = false
  fp : F.pin = false

theorem SgTopPair.xfree {X F : Ent} {a n : Nat} (P : SgTopPair X F a n) : isFree X = true := by
  simp [isFree, P.xc, P.xp]

theorem SgTopPair.ffree {X F : Ent} {a n : Nat} (P : SgTopPair X F a n) : isFree F = false := by
  simp [isFree, P.fp]

theorem SgTopPair.sorted {X F : Ent} {a n : Nat} (P : SgTopPair X F a n) (hn : 0 < n) : entsOk [X, F] = true := by
  have := P.xa; have := P.xs; have := P.fa; have := P.fs
  simp only [entsOk, Bool.and_eq_true, decide_eq_true_eq]; omega

theorem SgTopPair.shape {X F : Ent} {a n : Nat} (P : SgTopPair X F a n) (ha : a % 16 = 0) (hn : n % 16 = 0)
    (h16 : 16 ≤ n) : shapeOk [X, F] = true := by
  have := P.xa; have := P.xs; have := P.fa; have := P.fs
  simp only [shapeOk, List.all_cons, List.all_nil, Bool.and_true, Bool.and_eq_true, Bool.or_eq_true, decide_eq_true_eq]
  exact ⟨Or.inr ⟨⟨by omega, by omega⟩, by omega⟩, Or.inr ⟨⟨by omega, by omega⟩, by omega⟩⟩

/-- `[X, F]` ends a segment whose last 80 bytes are the foot word -/
theorem SgTopPair.tile {X F : Ent} {a n e : Nat} (P : SgTopPair X F a n) (he : a + n + 80 = e) :
    tiles [X, F] a e = true := by
  have := P.xa; have := P.xs; have := P.fa; have := P.fs
  simp only [tiles, isTrailerEnd, P.fc, P.fp, Bool.and_eq_true, Bool.or_eq_true, decide_eq_true_eq]
  refine ⟨⟨by omega, by omega⟩, ⟨by omega, Or.inl (by omega)⟩, Or.inl (by simp)⟩

theorem SgTopPair.tags {X F : Ent} {a n : Nat} (P : SgTopPair X F a n) : tagsFrom a X [F] = true := by
  simp [tagsFrom, linkOk, isFree, P.xa, P.xc, P.xp, P.fc, P.fp]

/-- `topOk` from the `top` header and its foot word found in the table -/
theorem sg_topOk_of {s : St} {g : Seg} {rest : List Seg} {X F : Ent} (hsegs : s.segs = g :: rest)
    (hok : entsOk s.h.ents = true) (hX : X ∈ s.h.ents) (hF : F ∈ s.h.ents) (P : SgTopPair X F s.h.top s.h.topsize)
    (h0 : s.h.top ≠ 0) (hn : 0 < s.h.topsize) (hb : g.base ≤ s.h.top)
    (he : s.h.top + s.h.topsize + 80 = g.base + g.size) (hr : g.recAt = 0) : topOk s = true := by
  have e1 := entsOk_find X hX hok
  have e2 := entsOk_find F hF hok
  rw [P.xa] at e1
  rw [P.fa] at e2
  unfold topOk
  rw [hsegs]
  simp only [e1, e2, isFree, P.xs, P.xc, P.xp, P.fs, P.fc, P.fp, top_foot_size_eq, Bool.and_eq_true, decide_eq_true_eq,
    Bool.not_false, and_true, ne_eq]
  exact ⟨⟨⟨⟨h0, hn⟩, hb⟩, he⟩, hr⟩

/-- **`init_top` on the table as a set**: the new `top` header and its foot word replace what started in
`[ptr, ptr + size + 80)` -/
theorem sg_init_top_tab {s s' : St} {ptr size : Nat} (h : init_top s ptr size = .ok s') (h16 : ptr % 16 = 0)
    (hlt : ptr + 32 ≤ 2 ^ 64) (hok : entsOk s.h.ents = true) (hpos : 0 < size)
    (hlow : ∀ y ∈ s.h.ents, y.addr < ptr → y.addr + y.size ≤ ptr) :
    ∃ X F, SgTopPair X F ptr size ∧ s' = { s with h := s'.h, trim_check := DEFAULT_TRIM_THRESHOLD } ∧
      HeapIs s'.h s'.h.ents s.h.sbins s.h.tbins s.h.dv s.h.dvsize ptr size ∧ entsOk s'.h.ents = true ∧
      ∀ z, z ∈ s'.h.ents ↔ z = X ∨ z = F ∨ (z ∈ s.h.ents ∧ (z.addr < ptr ∨ ptr + size + 80 ≤ z.addr)) := by
  obtain ⟨h1, h2, e1, e2, hs'⟩ := sg_init_top_ok h h16 hlt
  obtain ⟨a1, a2, a3⟩ := sg_writeHead_tab e1 hok hpos hlow
  obtain ⟨b1, b2, b3⟩ := sg_writeHead_tab e2 a2 (by omega) (by
    intro y hy hl
    rcases (a3 y).1 hy with rfl | ⟨hy, hc⟩
    · exact Nat.le_refl _
    · rcases hc with hc | hc
      · have := hlow y hy hc; omega
      · omega)
  have hh : s'.h = h2 := by rw [hs']
  rw [hh]
  refine ⟨{ addr := ptr, size := size, cin := false, pin := true, pfoot := pfootAt s.h.ents ptr },
    { addr := ptr + size, size := 80, cin := false, pin := false, pfoot := pfootAt h1.ents (ptr + size) },
    ⟨rfl, rfl, rfl, rfl, rfl, rfl, rfl, rfl⟩, hs', ?_, b2, fun z => ?_⟩
  · rw [b1, a1]; exact ⟨rfl, rfl, rfl, rfl, rfl, rfl, rfl⟩
  · rw [b3 z, a3 z]
    constructor
    · rintro (h | ⟨h | ⟨h, hc⟩, hc'⟩)
      · exact Or.inr (Or.inl h)
      · exact Or.inl h
      · exact Or.inr (Or.inr ⟨h, by omega⟩)
    · rintro (h | h | ⟨h, hc⟩)
      · exact Or.inr ⟨Or.inl h, by subst h; simp only; omega⟩
      · exact Or.inl h
      · exact Or.inr ⟨Or.inr ⟨h, by omega⟩, by omega⟩

theorem sg_init_top_fresh {s s' : St} {ptr size : Nat} (h : init_top s ptr size = .ok s') (h16 : ptr % 16 = 0)
    (hlt : ptr + 32 ≤ 2 ^ 64) (hok : entsOk s.h.ents = true) (hpos : 0 < size)
    (hfree : ∀ y ∈ s.h.ents, y.addr + y.size ≤ ptr ∨ ptr + size + 80 ≤ y.addr) :
    s' = { s with h := s'.h, trim_check := DEFAULT_TRIM_THRESHOLD } ∧
      s'.h = { s.h with top := ptr, topsize := size, ents := s'.h.ents } ∧ entsOk s'.h.ents = true ∧
      ∀ z, z ∈ s'.h.ents ↔ z = { addr := ptr, size := size, cin := false, pin := true, pfoot := 0 } ∨
        z = { addr := ptr + size, size := 80, cin := false, pin := false, pfoot := 0 } ∨ z ∈ s.h.ents := by
  obtain ⟨h1, h2, e1, e2, hs'⟩ := sg_init_top_ok h h16 hlt
  obtain ⟨a1, a2, a3⟩ := sg_writeHead_fresh e1 hok hpos (fun y hy => by rcases hfree y hy with h | h <;> omega)
  obtain ⟨b1, b2, b3⟩ := sg_writeHead_fresh e2 a2 (by omega) (by
    intro y hy
    rcases (a3 y).1 hy with rfl | hy
    · exact Or.inl (Nat.le_refl _)
    · rcases hfree y hy with h | h <;> omega)
  have hh : s'.h = h2 := by rw [hs']
  rw [hh]
  refine ⟨hs', by rw [b1, a1], b2, fun z => ?_⟩
  rw [b3 z, a3 z]
  exact or_left_comm

/-- the head segment `g0`, the header `x` of `top`, its foot word `f`, and the table around them: `pre` are the
headers below `top`, `post` those above the head segment -/
structure SgTop (s : St) (g0 : Seg) (rest : List Seg) (pre : List Ent) (x f : Ent) (post : List Ent) : Prop where
  segs : s.segs = g0 :: rest
  ents : s.h.ents = pre ++ x :: f :: post
  pair : SgTopPair x f s.h.top s.h.topsize
  base : g0.base ≤ s.h.top
  fin : s.h.top + s.h.topsize + 80 = g0.base + g0.size
  top0 : s.h.top ≠ 0

theorem WFS.sgTop {s : St} (w : WFS s) (hne : s.h.topsize ≠ 0) : ∃ g0 rest pre x f post, SgTop s g0 rest pre x f post := by
  obtain ⟨g, rest, pre, x, f, post, h1, h2, h3, h4, h5, h6, h7, h8, h9, h10, h11, h12, _⟩ := w.top_parts hne
  exact ⟨g, rest, pre, x, f, post, h1, h2, ⟨h3, h5, (isFree_iff.1 h4).1, (isFree_iff.1 h4).2, h6, h9, h7, h8⟩, h10, h11, h12⟩

section
variable {s : St} {g0 : Seg} {rest : List Seg} {pre post : List Ent} {x f : Ent} (T : SgTop s g0 rest pre x f post)
include T

theorem SgTop.g0m : g0 ∈ s.segs := by rw [T.segs]; exact List.mem_cons_self
theorem SgTop.restm {g : Seg} (hg : g ∈ rest) : g ∈ s.segs := by rw [T.segs]; exact List.mem_cons_of_mem _ hg
theorem SgTop.xm : x ∈ s.h.ents := by rw [T.ents]; simp
theorem SgTop.fm : f ∈ s.h.ents := by rw [T.ents]; simp

theorem SgTop.aligned (w : WFS s) : s.h.top % 16 = 0 ∧ s.h.topsize % 16 = 0 ∧ 16 ≤ s.h.topsize := by
  obtain ⟨a, b, c⟩ := shapeOk_free w.shape T.xm T.pair.xc
  exact ⟨T.pair.xa ▸ a, T.pair.xs ▸ b, T.pair.xs ▸ c⟩

theorem SgTop.mem : ∀ z, z ∈ s.h.ents ↔ z ∈ pre ∨ z = x ∨ z = f ∨ z ∈ post := by
  intro z; rw [T.ents]; simp only [List.mem_append, List.mem_cons]

theorem SgTop.rec0 (w : WFS s) : g0.recAt = 0 := by
  have ht := w.top
  unfold topOk at ht
  simp only [T.segs, Bool.and_eq_true, decide_eq_true_eq] at ht
  exact ht.1.1.2

theorem SgTop.mem_pre (w : WFS s) {z : Ent} : z ∈ pre ↔ z ∈ s.h.ents ∧ z.addr + z.size ≤ s.h.top := by
  have hok := w.ents
  rw [T.ents] at hok
  obtain ⟨o1, o2, o3, o4, o5⟩ := entsOk_mid2 hok
  have := T.pair.xa; have := T.pair.fa
  rw [T.mem z]
  constructor
  · intro h; have := o1 z h; exact ⟨Or.inl h, by omega⟩
  · rintro ⟨h | h | h | h, hle⟩
    · exact h
    · subst h; omega
    · subst h; omega
    · have := o5 z h; omega

theorem SgTop.mem_post (w : WFS s) {z : Ent} : z ∈ post ↔ z ∈ s.h.ents ∧ g0.base + g0.size ≤ z.addr := by
  have hok := w.ents
  rw [T.ents] at hok
  obtain ⟨o1, o2, o3, o4, o5⟩ := entsOk_mid2 hok
  have := T.pair.xa; have := T.pair.xs; have := T.pair.fa; have := T.pair.fs; have := T.fin
  rw [T.mem z]
  constructor
  · intro h; have := o5 z h; exact ⟨Or.inr (Or.inr (Or.inr h)), by omega⟩
  · rintro ⟨h | h | h | h, hle⟩
    · have := o1 z h; omega
    · subst h; omega
    · subst h; omega
    · exact h

/-- the headers of the head segment: those below `top`, then `x` and `f` -/
theorem SgTop.seg0 (w : WFS s) : segEnts s.h.ents g0 = segEnts pre g0 ++ [x, f] := by
  have := T.pair.xa; have := T.pair.xs; have := T.pair.fa; have := T.fin; have := T.base
  rw [T.ents, show pre ++ x :: f :: post = pre ++ [x, f] ++ post by simp, segEnts_window (g := g0) (mid := [x, f]),
    segEnts_none (l := post), List.append_nil]
  · intro e he; exact sg_notInSeg (Or.inr ((T.mem_post w).1 he).2)
  · intro e he
    simp only [List.mem_cons, List.not_mem_nil, or_false] at he
    rcases he with rfl | rfl <;> (rw [inSeg_iff]; omega)

theorem SgTop.mem_out (w : WFS s) {z : Ent} :
    z ∈ pre ∨ z ∈ post ↔ z ∈ s.h.ents ∧ (z.addr < s.h.top ∨ g0.base + g0.size ≤ z.addr) := by
  rw [T.mem_pre w, T.mem_post w]
  constructor
  · rintro (⟨h, hl⟩ | ⟨h, hl⟩)
    · exact ⟨h, Or.inl (by have := entsOk_pos w.ents z h; omega)⟩
    · exact ⟨h, Or.inr hl⟩
  · rintro ⟨h, hl | hl⟩
    · exact Or.inl ⟨h, T.pair.xa ▸ entsOk_sep w.ents z h x T.xm (by rw [T.pair.xa]; exact hl)⟩
    · exact Or.inr ⟨h, hl⟩

theorem SgTop.holds (w : WFS s) {sp : Seg} (hsp : sp ∈ s.segs) (hh : sp.holds s.h.top = true) : sp = g0 := by
  unfold Seg.holds Seg.top at hh
  simp only [Bool.and_eq_true, decide_eq_true_eq] at hh
  have := T.pair.xa; have := T.fin; have := T.base
  exact sg_seg_unique w.segsDisjoint hsp T.g0m (e := x) (by rw [inSeg_iff]; omega) (by rw [inSeg_iff]; omega)
end

/-! ## the invariant, segment by segment -/

/-- what `SInv` says about one segment `g`: a predicate of the table, the record addresses and `top` -/
structure SegInv (es : List Ent) (segs : List Seg) (top : Nat) (g : Seg) : Prop where
  tile : tiles (segEnts es g) g.base (g.base + g.size) = true
  tags : tagsOk top true (segEnts es g) = true
  head : ∀ e ∈ es, e.addr = g.base → e.size ≠ 8
  recs : g.recAt ≠ 0 → 16 ≤ g.recAt ∧ ∃ e, findEnt es (g.recAt - 16) = some e ∧ e.cin = true
  tail : g.recAt ≠ 0 → ∀ e ∈ es, inSeg g e = true →
    e.size = 8 ∨ isRecord segs e = true ∨ e.addr + e.size + 80 ≤ g.base + g.size
  recin : g.recAt ≠ 0 → g.base + 16 ≤ g.recAt ∧ g.recAt < g.base + g.size

theorem SInv.seg {s : St} (hi : SInv s) {g : Seg} (hg : g ∈ s.segs) : SegInv s.h.ents s.segs s.h.top g :=
  ⟨hi.wfs.struct.tiles_of hg, hi.wfs.struct.tags_of hg, hi.head g hg, hi.recs g hg, hi.tail g hg, hi.recin g hg⟩

theorem SegInv.of_rec0 {es : List Ent} {segs : List Seg} {top : Nat} {g : Seg} (hr : g.recAt = 0)
    (h1 : tiles (segEnts es g) g.base (g.base + g.size) = true ∧ tagsOk top true (segEnts es g) = true)
    (h3 : ∀ e ∈ es, e.addr = g.base → e.size ≠ 8) : SegInv es segs top g :=
  ⟨h1.1, h1.2, h3, fun h => absurd hr h, fun h => absurd hr h, fun h => absurd hr h⟩

theorem SInv.of_segs {s : St} (hok : entsOk s.h.ents = true) (hshape : shapeOk s.h.ents = true)
    (hin : ∀ e ∈ s.h.ents, ∃ g ∈ s.segs, inSeg g e = true)
    (hseg : ∀ g ∈ s.segs, SegInv s.h.ents s.segs s.h.top g)
    (hfl : freeListOk s.h = true) (hbins : sbinsOk s.h = true ∧ tbinsOk s.h = true ∧ dvOk s.h = true)
    (htop : topOk s = true) (hsegs : segsOk s = true) (hfence : FenceTab s.h.ents s.segs) : SInv s :=
  ⟨⟨hok, hshape, List.all_eq_true.2 fun e he => List.any_eq_true.2 (hin e he),
      List.all_eq_true.2 fun g hg => (hseg g hg).tile, List.all_eq_true.2 fun g hg => (hseg g hg).tags,
      hfl, hbins.1, hbins.2.1, hbins.2.2, htop, hsegs⟩,
    fun g hg => (hseg g hg).recs, (gl_fenceOk_iff_tab hok).2 hfence, fun g hg => (hseg g hg).tail,
    fun g hg => (hseg g hg).head, fun g hg => (hseg g hg).recin⟩

/-- a segment is not empty: its first header sits at its base -/
theorem sg_tiles_first {es : List Ent} {g : Seg} {e : Nat} (ht : tiles (segEnts es g) g.base e = true) :
    ∃ c T, segEnts es g = c :: T ∧ c ∈ es ∧ c.addr = g.base ∧ 0 < g.size := by
  cases hs : segEnts es g with
  | nil => rw [hs] at ht; simp [tiles] at ht
  | cons c T =>
    rw [hs] at ht
    have hm := mem_segEnts.1 (hs ▸ List.mem_cons_self : c ∈ segEnts es g)
    have := inSeg_iff.1 hm.2
    exact ⟨c, T, rfl, hm.1, tiles_head_addr ht, by omega⟩

/-- **a segment away from the change**: if the new table has the same headers inside `g` as the old one,
`g` keeps what the invariant says about it (`hrec`: records stay records; `htop`: the headers of `g` compare
with the new `top` as with the old) -/
theorem SegInv.far {es es' : List Ent} {segs segs' : List Seg} {top top' : Nat} {g : Seg}
    (h : SegInv es segs top g) (hok : entsOk es = true) (hok' : entsOk es' = true)
    (hsame : ∀ z, inSeg g z = true → (z ∈ es' ↔ z ∈ es))
    (hrec : ∀ e ∈ es, inSeg g e = true → isRecord segs e = true → isRecord segs' e = true)
    (htop : ∀ e ∈ es, inSeg g e = true → (e.addr = top ↔ e.addr = top')) : SegInv es' segs' top' g := by
  have hse : segEnts es' g = segEnts es g := by
    refine sg_segEnts_eq hok' (sg_entsOk_filter hok _) fun z => ?_
    rw [mem_segEnts]
    exact ⟨fun hz => ⟨(hsame z hz.2).2 hz.1, hz.2⟩, fun hz => ⟨(hsame z hz.2).1 hz.1, hz.2⟩⟩
  obtain ⟨_, _, _, _, _, hpos⟩ := sg_tiles_first h.tile
  refine ⟨hse ▸ h.tile, ?_, ?_, ?_, ?_, h.recin⟩
  · rw [hse]
    exact tagsOk_top_congr (fun e he => htop e (mem_segEnts.1 he).1 (mem_segEnts.1 he).2) h.tags
  · intro e he hb
    exact h.head e ((hsame e (by rw [inSeg_iff]; omega)).1 he) hb
  · intro hne
    obtain ⟨h16, e, he, hc⟩ := h.recs hne
    obtain ⟨hm, ha⟩ := findEnt_some he
    have := h.recin hne
    exact ⟨h16, e, ha ▸ entsOk_find e ((hsame e (by rw [inSeg_iff]; omega)).2 hm) hok', hc⟩
  · intro hne e he hge
    have hm := (hsame e hge).1 he
    rcases h.tail hne e hm hge with h1 | h1 | h1
    · exact Or.inl h1
    · exact Or.inr (Or.inl (hrec e hm hge h1))
    · exact Or.inr (Or.inr h1)

/-- a segment made of a fresh `top` and its foot word -/
theorem sg_newseg {es' : List Ent} {segs' : List Seg} {tbase tsize : Nat} {X F : Ent}
    (P : SgTopPair X F tbase (tsize - 80)) (hts : 96 ≤ tsize) (hok' : entsOk es' = true) (hX : X ∈ es') (hF : F ∈ es')
    (hall : ∀ z ∈ es', inSeg { base := tbase, size := tsize, recAt := 0 } z = true → z = X ∨ z = F) :
    SegInv es' segs' tbase { base := tbase, size := tsize, recAt := 0 } := by
  have hxa := P.xa; have hxs := P.xs; have hfa := P.fa; have hfs := P.fs
  have hse : segEnts es' { base := tbase, size := tsize, recAt := 0 } = [X, F] := by
    refine sg_segEnts_eq hok' (P.sorted (by omega)) fun z => ?_
    simp only [List.mem_cons, List.not_mem_nil, or_false]
    constructor
    · rintro (rfl | rfl)
      · exact ⟨hX, by rw [inSeg_iff]; simp only; omega⟩
      · exact ⟨hF, by rw [inSeg_iff]; simp only; omega⟩
    · exact fun hz => hall z hz.1 hz.2
  refine SegInv.of_rec0 rfl ?_ ?_
  · rw [hse]
    exact ⟨P.tile (by simp only; omega), (tagsOk_cons_iff _ _ _ _).2 ⟨P.xp, P.tags⟩⟩
  · intro e he hb h8
    rcases hall e he (by rw [inSeg_iff]; simp only at hb ⊢; omega) with rfl | rfl <;> omega

/-! ### the conjuncts that are not about one segment -/

theorem sg_shapeOk_of_mem {l l' n : List Ent} (h : ∀ z ∈ l', z ∈ l ∨ z ∈ n) (hl : shapeOk l = true)
    (hn : shapeOk n = true) : shapeOk l' = true := by
  unfold shapeOk at hl hn ⊢
  rw [List.all_eq_true] at hl hn ⊢
  exact fun z hz => (h z hz).elim (hl z) (hn z)

theorem sg_find_keep {es es' : List Ent} (hok : entsOk es = true) (hok' : entsOk es' = true) {e : Ent}
    (he : e ∈ es) (he' : e ∈ es') : findEnt es' e.addr = findEnt es e.addr := by
  rw [entsOk_find e he' hok', entsOk_find e he hok]

/-- every free header other than `top` is kept: the binned addresses and `dv` are found as before -/
theorem WFS.find_keep {s : St} (w : WFS s) (htn : s.h.top ≠ 0) {es' : List Ent} (hok' : entsOk es' = true)
    (hkeep : ∀ e ∈ s.h.ents, isFree e = true → e.addr ≠ s.h.top → e ∈ es') :
    ∀ a, a ∈ binned s.h ∨ (s.h.dv ≠ 0 ∧ a = s.h.dv) → findEnt es' a = findEnt s.h.ents a := by
  intro a ha
  have hfl : a ∈ Dl.freeList s.h ∧ a ≠ s.h.top := by
    rcases ha with ha | ⟨h0, rfl⟩
    · exact ⟨mem_freeList_of_binned ha, (w.binned_free ha).2.1⟩
    · exact ⟨mem_freeList.2 (Or.inr (Or.inl ⟨h0, rfl⟩)), w.dv_ne_top htn⟩
  obtain ⟨e, he, hfe⟩ := isFreeAt_iff.1 (((freeListOk_iff s.h).1 w.freeList).2.2 a hfl.1)
  obtain ⟨hm, hea⟩ := findEnt_some he
  subst hea
  exact sg_find_keep w.ents hok' hm (hkeep e hm hfe hfl.2)

theorem sg_dvOk_frame {h h' : Heap} (hdv : h'.dv = h.dv) (hdvs : h'.dvsize = h.dvsize)
    (hf : h.dv ≠ 0 → findEnt h'.ents h.dv = findEnt h.ents h.dv) (b : dvOk h = true) : dvOk h' = true := by
  by_cases h0 : h.dv = 0
  · unfold dvOk at b ⊢
    rw [hdv, hdvs, if_pos h0]; rw [if_pos h0] at b; exact b
  · rw [dvOk_frame hdv hdvs (hf h0)]; exact b

/-- the bin conjuncts and `dvOk` read the table at the binned addresses and at `dv` only -/
theorem sg_bins_frame {h h' : Heap} (hsb : h'.sbins = h.sbins) (htb : h'.tbins = h.tbins) (hdv : h'.dv = h.dv)
    (hdvs : h'.dvsize = h.dvsize)
    (hf : ∀ a, a ∈ binned h ∨ (h.dv ≠ 0 ∧ a = h.dv) → findEnt h'.ents a = findEnt h.ents a)
    (b1 : sbinsOk h = true) (b2 : tbinsOk h = true) (b3 : dvOk h = true) :
    sbinsOk h' = true ∧ tbinsOk h' = true ∧ dvOk h' = true :=
  ⟨sbinsOk_frame b1 hsb fun a ha => hf a (Or.inl (List.mem_append.2 (Or.inl ha))),
    tbinsOk_frame b2 htb fun a ha => hf a (Or.inl (List.mem_append.2 (Or.inr ha))),
    sg_dvOk_frame hdv hdvs (fun h0 => hf h.dv (Or.inr ⟨h0, rfl⟩)) b3⟩

/-- bins untouched, every free header other than `top` kept: the bin conjuncts and `dvOk` survive -/
theorem WFS.bins_keep {s : St} (w : WFS s) (htn : s.h.top ≠ 0) {H : Heap} (hok' : entsOk H.ents = true)
    (hsb : H.sbins = s.h.sbins) (htb : H.tbins = s.h.tbins) (hdv : H.dv = s.h.dv) (hdvs : H.dvsize = s.h.dvsize)
    (hkeep : ∀ e ∈ s.h.ents, isFree e = true → e.addr ≠ s.h.top → e ∈ H.ents) :
    sbinsOk H = true ∧ tbinsOk H = true ∧ dvOk H = true :=
  sg_bins_frame hsb htb hdv hdvs (w.find_keep htn hok' hkeep) w.sbins w.tbins w.dv

theorem sg_freeListOk_same {h h' : Heap} (hok : entsOk h.ents = true) (hok' : entsOk h'.ents = true)
    (hfl : Dl.freeList h' = Dl.freeList h) (hfs : ∀ a, a ∈ freeSet h'.ents ↔ a ∈ freeSet h.ents)
    (h0 : freeListOk h = true) : freeListOk h' = true := by
  rw [freeListOk_iff_set hok] at h0
  rw [freeListOk_iff_set hok', hfl]
  exact ⟨h0.1, fun a => (h0.2 a).trans (hfs a).symm⟩

/-- the user chunks are the same if the in-use headers that are no fenceposts and no records are -/
theorem sg_sameUsers_of {s s' : St} (hok : entsOk s.h.ents = true) (hok' : entsOk s'.h.ents = true)
    (h1 : ∀ e ∈ s'.h.ents, e.cin = true → e.size ≠ 8 → isRecord s'.segs e = false →
      e ∈ s.h.ents ∧ isRecord s.segs e = false)
    (h2 : ∀ e ∈ s.h.ents, e.cin = true → e.size ≠ 8 → isRecord s.segs e = false →
      e ∈ s'.h.ents ∧ isRecord s'.segs e = false) : SameUsers s s' := by
  intro a z
  rw [gl_user_iff_mem hok', gl_user_iff_mem hok]
  constructor
  · rintro ⟨e, he, u1, u2, u3, u4, u5⟩
    obtain ⟨hm, hr⟩ := h1 e he u2 (u3 ▸ u4) u5
    exact ⟨e, hm, u1, u2, u3, u4, hr⟩
  · rintro ⟨e, he, u1, u2, u3, u4, u5⟩
    obtain ⟨hm, hr⟩ := h2 e he u2 (u3 ▸ u4) u5
    exact ⟨e, hm, u1, u2, u3, u4, hr⟩

/-! ### the head segment with its end rewritten -/

/-- the headers `L` below the window stay, the window `[x, f]` becomes `m' :: ms'`, the segment end `e'` -/
theorem sg_rewindow {top top' b e e' : Nat} {L : List Ent} {x f m' : Ent} {ms' : List Ent}
    (ht : tiles (L ++ [x, f]) b e = true) (hta : tagsOk top true (L ++ [x, f]) = true)
    (hxa : x.addr = top) (hnew : tiles (m' :: ms') top e' = true) (h8 : 8 ≤ m'.size)
    (hhead : HeadEq x m') (hloc : tagsFrom top' m' ms' = true) (hL : ∀ z ∈ L, z.addr = top ↔ z.addr = top') :
    tiles (L ++ m' :: ms') b e' = true ∧ tagsOk top' true (L ++ m' :: ms') = true := by
  constructor
  · refine sg_tiles_prefix_end L (m := x) (r := [f]) (fun _ => h8) ?_ _ ht
    intro a h
    rw [← tiles_head_addr h, hxa]; exact hnew
  · rw [tagsOk_split] at hta ⊢
    exact ⟨tagsOk_snoc_congr hL hhead hta.1, hloc⟩

/-- in the new table the head segment (now `g'`, same base) consists of the old headers below `top` and the
window `m' :: ms'`: its structural conjuncts follow from the local ones of the window -/
theorem SgTop.reseg {s : St} {g0 : Seg} {rest : List Seg} {pre post : List Ent} {x f : Ent}
    (T : SgTop s g0 rest pre x f post) (w : WFS s) {es' : List Ent} {g' : Seg} {top' : Nat} {m' : Ent} {ms' : List Ent}
    (hok' : entsOk es' = true) (hb : g'.base = g0.base) (hwok : entsOk (m' :: ms') = true)
    (hnew : tiles (m' :: ms') s.h.top (g'.base + g'.size) = true) (h8 : 8 ≤ m'.size)
    (hhead : HeadEq x m') (hloc : tagsFrom top' m' ms' = true)
    (hL : ∀ z ∈ pre, z ∈ es' ∧ z.addr ≠ top')
    (hW : ∀ z ∈ m' :: ms', z ∈ es' ∧ s.h.top ≤ z.addr ∧ z.addr < g'.base + g'.size)
    (hall : ∀ z ∈ es', inSeg g' z = true → z ∈ pre ∨ z ∈ m' :: ms') :
    tiles (segEnts es' g') g'.base (g'.base + g'.size) = true ∧ tagsOk top' true (segEnts es' g') = true := by
  have hbase := T.base
  have hend := (hW m' List.mem_cons_self).2
  have hsort : entsOk (segEnts pre g0 ++ m' :: ms') = true := by
    have hok := w.ents
    rw [T.ents] at hok
    refine entsOk_append.2 ⟨sg_entsOk_filter (entsOk_append.1 hok).1 _, hwok, fun a ha b hb => ?_⟩
    have := ((T.mem_pre w).1 (mem_segEnts.1 ha).1).2; have := (hW b hb).2.1; omega
  have hse : segEnts es' g' = segEnts pre g0 ++ m' :: ms' := by
    refine sg_segEnts_eq hok' hsort fun z => ⟨fun hz => ?_, fun hz => ?_⟩
    · rcases List.mem_append.1 hz with h | h
      · obtain ⟨hp, hin⟩ := mem_segEnts.1 h
        have h1 := (T.mem_pre w).1 hp
        have := entsOk_pos w.ents z h1.1
        rw [inSeg_iff] at hin ⊢
        exact ⟨(hL z hp).1, by omega⟩
      · have := (hW z h).2
        exact ⟨(hW z h).1, by rw [inSeg_iff]; omega⟩
    · rcases hall z hz.1 hz.2 with h | h
      · have := T.fin; have := ((T.mem_pre w).1 h).2; have := inSeg_iff.1 hz.2
        exact List.mem_append.2 (Or.inl (mem_segEnts.2 ⟨h, by rw [inSeg_iff]; omega⟩))
      · exact List.mem_append.2 (Or.inr h)
  have ht := w.struct.tiles_of T.g0m
  have hta := w.struct.tags_of T.g0m
  rw [T.seg0 w] at ht hta
  rw [hse, hb]
  refine sg_rewindow ht hta T.pair.xa (hb ▸ hnew) h8 hhead hloc fun z hz => ?_
  have hp := (mem_segEnts.1 hz).1
  have h1 := (T.mem_pre w).1 hp
  have := entsOk_pos w.ents z h1.1
  exact ⟨fun h => by omega, fun h => absurd h (hL z hp).2⟩

/-! ### the common tail of `sys_alloc`: the request is cut from `top` -/

/-- **the tail of `sys_alloc`** (`top` is larger than the padded request): `SInv` is kept, one new user chunk -/
theorem sg_top_split {s : St} (hi : SInv s) {nb : Nat} (hnb16 : nb % 16 = 0) (hnb32 : 32 ≤ nb)
    (hlt : nb < s.h.topsize) {h1 h2 : Heap}
    (e1 : writeHead { s.h with topsize := s.h.topsize - nb, top := s.h.top + nb } (s.h.top + nb) (s.h.topsize - nb) false true = .ok h1)
    (e2 : set_size_and_pinuse_of_inuse_chunk h1 s.h.top nb = .ok h2) :
    SInv { s with h := h2 } ∧ Alloc s { s with h := h2 } nb (s.h.top + 16) := by
  have w := hi.wfs
  obtain ⟨g, rest, pre, x, f, post, hsegs, hes, hxa, hxf, hxs, hfa, hfc, hfp, hfs, hgb, hgt, htop0, hgx, hgf, r⟩ :=
    top_split_eq w hnb32 hlt e1 e2
  subst r
  obtain ⟨w', ha⟩ := top_split_core (pre := pre) (post := post) (x := x) (f := f) w hnb16 hnb32 hlt hsegs hes
    hxa hxf hxs hfa hfc hfp hgx hgf htop0
    (H := { s.h with topsize := s.h.topsize - nb, top := s.h.top + nb,
                      ents := pre ++ [{ addr := s.h.top, size := nb, cin := true, pin := true, pfoot := x.pfoot },
                        { addr := s.h.top + nb, size := s.h.topsize - nb, cin := false, pin := true, pfoot := 0 }, f] ++ post })
    (np := { addr := s.h.top, size := nb, cin := true, pin := true, pfoot := x.pfoot })
    (nr := { addr := s.h.top + nb, size := s.h.topsize - nb, cin := false, pin := true, pfoot := 0 })
    ⟨rfl, rfl, rfl, rfl, rfl, rfl, rfl⟩ rfl rfl rfl rfl rfl rfl rfl rfl
  exact gl_sinv_alloc hi w' ⟨s.h.top, rfl, ha⟩ (by omega)

/-- **the head segment reshaped at its end** (`sys-extend`: the segment grows by a fresh mapping; `trim_top`:
it shrinks): `top` and its foot word `[x, f]` become `[x', f']` with the same `top` address, the head segment
gets the size `newsize`, everything else is unchanged. -/
theorem sg_retop {s s' : St} (hi : SInv s) {g0 : Seg} {rest : List Seg} {pre post : List Ent} {x f : Ent}
    (T : SgTop s g0 rest pre x f post) {x' f' : Ent} {n newsize : Nat} (P : SgTopPair x' f' s.h.top n)
    (hok' : entsOk s'.h.ents = true) (hmem' : ∀ z, z ∈ s'.h.ents ↔ z = x' ∨ z = f' ∨ z ∈ pre ∨ z ∈ post)
    (hsegs' : s'.segs = { g0 with size := newsize } :: rest)
    (hn16 : n % 16 = 0) (hn : 16 ≤ n) (hend : s.h.top + n + 80 = g0.base + newsize)
    (hns : newsize % 4096 = 0) (hlim : g0.base + newsize ≤ 2 ^ 64)
    (hdisj : ∀ g ∈ rest, g0.base + newsize ≤ g.base ∨ g.base + g.size ≤ g0.base)
    (hpost : ∀ q ∈ post, g0.base + newsize ≤ q.addr)
    (hH : HeapIs s'.h s'.h.ents s.h.sbins s.h.tbins s.h.dv s.h.dvsize s.h.top n)
    (hla : s'.least_addr = s.least_addr) :
    SInv s' ∧ SameUsers s s' := by
  have w := hi.wfs
  obtain ⟨d1, d2, d3⟩ := sg_segsOk_cons w.segs T.segs
  have hsegsOk : segsOk s' = true := by
    refine sg_segsOk_of hsegs' hdisj d2 ?_
    intro g hg
    rw [hla]
    rcases List.mem_cons.1 hg with rfl | hg
    · have := d3 g0 List.mem_cons_self; have := T.base
      simp only; omega
    · exact d3 g (List.mem_cons_of_mem _ hg)
  clear hns hlim hla
  have hrec0 := T.rec0 w
  have hbase := T.base
  have hx'm : x' ∈ s'.h.ents := (hmem' x').2 (Or.inl rfl)
  have hf'm : f' ∈ s'.h.ents := (hmem' f').2 (Or.inr (Or.inl rfl))
  have hold : ∀ z, z ∈ pre ∨ z ∈ post → z ∈ s.h.ents := fun z hz => (T.mem z).2 (hz.elim Or.inl fun h => Or.inr (Or.inr (Or.inr h)))
  have hkeep : ∀ z ∈ s.h.ents, z ≠ x → z ≠ f → z ∈ s'.h.ents := by
    intro z hz h1 h2
    rcases (T.mem z).1 hz with h | h | h | h
    · exact (hmem' z).2 (Or.inr (Or.inr (Or.inl h)))
    · exact absurd h h1
    · exact absurd h h2
    · exact (hmem' z).2 (Or.inr (Or.inr (Or.inr h)))
  have hrecs : s'.segs.map (·.recAt) = s.segs.map (·.recAt) := by rw [hsegs', T.segs]; rfl
  -- the four headers of the two windows lie in the head segment, old and new
  have hin0 : inSeg g0 x = true ∧ inSeg g0 f = true := by
    have := T.pair.xa; have := T.pair.fa; have := T.fin
    constructor <;> (rw [inSeg_iff]; omega)
  have hin1 : inSeg { g0 with size := newsize } x' = true ∧ inSeg { g0 with size := newsize } f' = true := by
    have := P.xa; have := P.fa
    constructor <;> (rw [inSeg_iff]; simp only; omega)
  have hrest : ∀ g ∈ rest, ∀ z, inSeg g z = true → (z ∈ s'.h.ents ↔ z ∈ s.h.ents) := by
    intro g hg z hz
    have a1 := inSeg_false_of_disjoint hin0.1 (d1 g hg)
    have a2 := inSeg_false_of_disjoint hin0.2 (d1 g hg)
    have a3 := inSeg_false_of_disjoint hin1.1 (hdisj g hg)
    have a4 := inSeg_false_of_disjoint hin1.2 (hdisj g hg)
    rw [hmem' z, T.mem z]
    constructor
    · rintro (h | h | h | h)
      · rw [h, a3] at hz; cases hz
      · rw [h, a4] at hz; cases hz
      · exact Or.inl h
      · exact Or.inr (Or.inr (Or.inr h))
    · rintro (h | h | h | h)
      · exact Or.inr (Or.inr (Or.inl h))
      · rw [h, a1] at hz; cases hz
      · rw [h, a2] at hz; cases hz
      · exact Or.inr (Or.inr (Or.inr h))
  have hshape : shapeOk s'.h.ents = true := by
    refine sg_shapeOk_of_mem (n := [x', f']) ?_ w.shape (P.shape ?_ hn16 hn)
    · intro z hz
      rcases (hmem' z).1 hz with h | h | h | h
      · exact Or.inr (by simp [h])
      · exact Or.inr (by simp [h])
      · exact Or.inl (hold z (Or.inl h))
      · exact Or.inl (hold z (Or.inr h))
    · rw [← T.pair.xa]; exact (shapeOk_free w.shape T.xm T.pair.xc).1
  clear hn16
  have hseg0 : SegInv s'.h.ents s'.segs s'.h.top { g0 with size := newsize } := by
    refine SegInv.of_rec0 hrec0 ?_ ?_
    · rw [hH.top]
      refine T.reseg w hok' rfl (P.sorted (by omega)) (P.tile hend) (by rw [P.xs]; omega)
        ⟨by rw [P.xp, T.pair.xp], fun h => by rw [T.pair.xp] at h; cases h⟩ P.tags ?_ ?_ ?_
      · intro z hz
        have := ((T.mem_pre w).1 hz).2; have := entsOk_pos w.ents z (hold z (Or.inl hz))
        exact ⟨(hmem' z).2 (Or.inr (Or.inr (Or.inl hz))), by omega⟩
      · intro z hz
        have := P.xa; have := P.fa
        simp only [List.mem_cons, List.not_mem_nil, or_false] at hz
        rcases hz with rfl | rfl
        · exact ⟨hx'm, by omega, by simp only; omega⟩
        · exact ⟨hf'm, by omega, by simp only; omega⟩
      · intro z hz hin
        rcases (hmem' z).1 hz with h | h | h | h
        · exact Or.inr (by simp [h])
        · exact Or.inr (by simp [h])
        · exact Or.inl h
        · have := hpost z h; rw [inSeg_iff] at hin; simp only at hin; omega
    · intro e he hb h8
      rcases (hmem' e).1 he with h | h | h | h
      · rw [h, P.xs] at h8; omega
      · rw [h, P.fs] at h8; omega
      · exact hi.head g0 T.g0m e (hold e (Or.inl h)) hb h8
      · exact hi.head g0 T.g0m e (hold e (Or.inr h)) hb h8
  refine ⟨SInv.of_segs hok' hshape ?_ ?_ ?_ ?_ ?_ ?_ ?_, ?_⟩
  · -- every header lies in a segment
    intro z hz
    rw [hsegs']
    rcases (hmem' z).1 hz with h | h | h | h
    · exact ⟨_, List.mem_cons_self, h ▸ hin1.1⟩
    · exact ⟨_, List.mem_cons_self, h ▸ hin1.2⟩
    · have h1 := (T.mem_pre w).1 h
      obtain ⟨g, hg, hge⟩ := w.struct.seg_of h1.1
      rw [T.segs] at hg
      rcases List.mem_cons.1 hg with rfl | hg
      · refine ⟨_, List.mem_cons_self, ?_⟩
        have := entsOk_pos w.ents z h1.1
        rw [inSeg_iff] at hge ⊢; simp only; omega
      · exact ⟨g, List.mem_cons_of_mem _ hg, hge⟩
    · obtain ⟨g, hg, hge⟩ := w.struct.seg_of (hold z (Or.inr h))
      rw [T.segs] at hg
      rcases List.mem_cons.1 hg with rfl | hg
      · have := ((T.mem_post w).1 h).2; rw [inSeg_iff] at hge; omega
      · exact ⟨g, List.mem_cons_of_mem _ hg, hge⟩
  · intro g hg
    rw [hsegs'] at hg
    rcases List.mem_cons.1 hg with rfl | hg
    · exact hseg0
    · rw [hH.top]
      exact (hi.seg (T.restm hg)).far w.ents hok' (hrest g hg)
        (fun e _ _ h => by rw [sg_isRecord_congr hrecs]; exact h) (fun _ _ _ => Iff.rfl)
  · -- the free list
    have hfl : Dl.freeList s'.h = Dl.freeList s.h := by unfold Dl.freeList binned; rw [hH.top, hH.dv, hH.sbins, hH.tbins]
    refine sg_freeListOk_same w.ents hok' hfl (fun a => ?_) w.freeList
    rw [mem_freeSet, mem_freeSet]
    constructor
    · rintro ⟨e, he, hf, ha⟩
      rcases (hmem' e).1 he with h | h | h | h
      · exact ⟨x, T.xm, T.pair.xfree, by rw [← ha, h, P.xa, T.pair.xa]⟩
      · rw [h, P.ffree] at hf; cases hf
      · exact ⟨e, hold e (Or.inl h), hf, ha⟩
      · exact ⟨e, hold e (Or.inr h), hf, ha⟩
    · rintro ⟨e, he, hf, ha⟩
      by_cases hx : e = x
      · exact ⟨x', hx'm, P.xfree, by rw [← ha, hx, P.xa, T.pair.xa]⟩
      · exact ⟨e, hkeep e he hx (fun h => by rw [h, T.pair.ffree] at hf; cases hf), hf, ha⟩
  · refine w.bins_keep T.top0 hok' hH.sbins hH.tbins hH.dv hH.dvsize fun e he hf hne => ?_
    exact hkeep e he (fun h => hne (h ▸ T.pair.xa)) (fun h => by rw [h, T.pair.ffree] at hf; cases hf)
  · refine sg_topOk_of hsegs' hok' hx'm hf'm (by rw [hH.top, hH.topsize]; exact P) (by rw [hH.top]; exact T.top0)
      (by rw [hH.topsize]; omega) (by rw [hH.top]; exact hbase) (by rw [hH.top, hH.topsize]; exact hend) hrec0
  · exact hsegsOk
  · -- `FenceOk`
    have hfold := (gl_fenceOk_iff_tab w.ents).1 hi.fence
    intro a ha b hb h8 hadj
    have hb0 : b ∈ pre ∨ b ∈ post := by
      rcases (hmem' b).1 hb with h | h | h
      · rw [h, P.xs] at h8; omega
      · rw [h, P.fs] at h8; omega
      · exact h
    rcases (hmem' a).1 ha with h | h | h
    · exfalso
      rw [h, P.xa, P.xs, ← P.fa] at hadj
      rw [entsOk_addr_inj hok' hb hf'm hadj, P.fs] at h8; omega
    · -- a fencepost right after the new foot word would be the first header of a segment
      exfalso
      rw [h, P.fa, P.fs] at hadj
      rcases hb0 with hbp | hbp
      · have := ((T.mem_pre w).1 hbp).2; omega
      · obtain ⟨g, hg, hge⟩ := w.struct.seg_of (hold b (Or.inr hbp))
        have := ((T.mem_post w).1 hbp).2
        rw [inSeg_iff] at hge
        rw [T.segs] at hg
        rcases List.mem_cons.1 hg with rfl | hg
        · omega
        · exact hi.head g (T.restm hg) b (hold b (Or.inr hbp)) (by have := hdisj g hg; omega) h8
    · rw [sg_isRecord_congr hrecs]
      exact hfold a (hold a h) b (hold b hb0) h8 hadj
  · refine sg_sameUsers_of w.ents hok' (fun e he hc _ hr => ?_) (fun e he hc _ hr => ?_)
    · rw [sg_isRecord_congr hrecs] at hr
      rcases (hmem' e).1 he with h | h | h | h
      · rw [h, P.xc] at hc; cases hc
      · rw [h, P.fc] at hc; cases hc
      · exact ⟨hold e (Or.inl h), hr⟩
      · exact ⟨hold e (Or.inr h), hr⟩
    · rw [sg_isRecord_congr hrecs]
      exact ⟨hkeep e he (fun h => by rw [h, T.pair.xc] at hc; cases hc) (fun h => by rw [h, T.pair.fc] at hc; cases hc), hr⟩

theorem sg_headOk_same {s s' : St} (hh : HeadOk s) (he : s'.h.ents = s.h.ents) (hs : s'.segs = s.segs) : HeadOk s' := by
  intro g hg e hem
  rw [hs] at hg; rw [he] at hem
  exact hh g hg e hem

/-- a table all of whose fenceposts are old fenceposts (same address), under a segment list with the same
bases: `HeadOk` carries over -/
theorem sg_headOk_of_old {s s' : St} (hh : HeadOk s) (hs : ∀ g ∈ s'.segs, ∃ g1 ∈ s.segs, g1.base = g.base)
    (h1 : ∀ y' ∈ s'.h.ents, y'.size = 8 → ∃ y ∈ s.h.ents, y.addr = y'.addr ∧ y.size = 8) : HeadOk s' := by
  intro g hg e he hb h8
  obtain ⟨g1, hg1, hb1⟩ := hs g hg
  obtain ⟨y, hy, hya, hy8⟩ := h1 e he h8
  exact hh g1 hg1 y hy (by omega) hy8

/-! ## a whole segment disappears (`releaseLoop`) -/

theorem sg_isRecord_drop {pref rest : List Seg} {g : Seg} {e : Ent}
    (h : isRecord (pref ++ g :: rest) e = true) (hg : g.recAt ≠ e.addr + 16) : isRecord (pref ++ rest) e = true := by
  rw [gl_isRecord_iff] at h ⊢
  obtain ⟨g', hg', hr⟩ := h
  simp only [List.mem_append, List.mem_cons] at hg'
  rcases hg' with h1 | h1 | h1
  · exact ⟨g', by simp [h1], hr⟩
  · subst h1; exact absurd hr hg
  · exact ⟨g', by simp [h1], hr⟩

theorem sg_isRecord_mono {pref rest : List Seg} {g : Seg} {e : Ent}
    (h : isRecord (pref ++ rest) e = true) : isRecord (pref ++ g :: rest) e = true := by
  rw [gl_isRecord_iff] at h ⊢
  obtain ⟨g', hg', hr⟩ := h
  refine ⟨g', ?_, hr⟩
  simp only [List.mem_append, List.mem_cons] at hg' ⊢
  rcases hg' with h1 | h1
  · exact Or.inl h1
  · exact Or.inr (Or.inr h1)

theorem sg_entsLt {s : St} (w : WFS s) : EntsLt s.h.ents := mn_entsLt w w.struct

/-- **a non-head segment disappears**: its first chunk is free and reaches the last 80 bytes; `H1` is the heap
after that chunk left the free lists (`dv` cleared or unlinked from its tree bin), `V'` the state after the
headers of the segment were dropped and the segment removed from the list -/
theorem sg_release_seg {V V' : St} (hi : SInv V) {pref rest : List Seg} {g : Seg}
    (hsegs : V.segs = pref ++ g :: rest) (hpref : pref ≠ []) (hrec : g.recAt ≠ 0)
    {e0 : Ent} (he0 : findEnt V.h.ents g.base = some e0) (hfree : isFree e0 = true)
    (hreach : g.base + g.size ≤ g.base + e0.size + 80)
    {H1 : Heap} (h1e : H1.ents = V.h.ents) (h1t : H1.top = V.h.top)
    (hflp : List.Perm (freeList V.h) (g.base :: freeList H1))
    (h1sb : sbinsOk H1 = true) (h1tb : tbinsOk H1 = true) (h1dv : dvOk H1 = true)
    (hents' : V'.h.ents = V.h.ents.filter (fun e => !(decide (g.base ≤ e.addr) && decide (e.addr < g.top))))
    (hsb' : V'.h.sbins = H1.sbins) (htb' : V'.h.tbins = H1.tbins) (hdv' : V'.h.dv = H1.dv)
    (hdvs' : V'.h.dvsize = H1.dvsize) (htop' : V'.h.top = V.h.top) (htops' : V'.h.topsize = V.h.topsize)
    (hsegs' : V'.segs = pref ++ rest) (hla' : V'.least_addr = V.least_addr) :
    SInv V' ∧ SameUsers V V' := by
  have w := hi.wfs
  have hgm : g ∈ V.segs := by rw [hsegs]; simp
  have hsub : ∀ g' ∈ pref ++ rest, g' ∈ V.segs := by
    intro g' hg'
    rw [hsegs]
    simp only [List.mem_append, List.mem_cons] at hg' ⊢
    exact hg'.elim Or.inl fun h => Or.inr (Or.inr h)
  have hdis := sg_disjoint_of_split (hsegs ▸ w.segsDisjoint)
  have hri := hi.recin g hgm hrec
  -- the new table: the headers outside `g`
  have hmem' : ∀ z, z ∈ V'.h.ents ↔ z ∈ V.h.ents ∧ inSeg g z = false := by
    intro z
    rw [hents', List.mem_filter]
    exact and_congr_right fun _ => by rw [Bool.not_eq_true']; rfl
  have hok' : entsOk V'.h.ents = true := by rw [hents']; exact sg_entsOk_filter w.ents _
  have hout : ∀ g' ∈ pref ++ rest, ∀ z, inSeg g' z = true → inSeg g z = false :=
    fun g' hg' z hz => inSeg_false_of_disjoint hz (by have := hdis g' hg'; omega)
  have hfind : ∀ e ∈ V.h.ents, inSeg g e = false → findEnt V'.h.ents e.addr = findEnt V.h.ents e.addr :=
    fun e he hn => sg_find_keep w.ents hok' he ((hmem' e).2 ⟨he, hn⟩)
  -- the record of `g` lies in `g`, so no header outside `g` holds it
  have hrec_drop : ∀ e, inSeg g e = false → isRecord V.segs e = true → isRecord V'.segs e = true := by
    intro e hn h
    rw [hsegs] at h
    rw [hsegs']
    refine sg_isRecord_drop h fun hga => ?_
    rw [sg_notInSeg_iff] at hn
    omega
  -- the first chunk and the rest of the segment
  obtain ⟨he0m, he0a⟩ := findEnt_some he0
  obtain ⟨he0c, he0p⟩ := isFree_iff.1 hfree
  have hmid_other : ∀ e ∈ V.h.ents, inSeg g e = true → e ≠ e0 →
      e.cin = true ∧ (e.size = 8 ∨ isRecord V.segs e = true) := by
    intro e he hge hne
    have hpos := entsOk_pos w.ents e he
    rcases hi.tail g hgm hrec e he hge with h | h | h
    · exact ⟨(shapeOk_mem w.shape he).elim (fun h' => h'.2.1) (fun h' => by omega), Or.inl h⟩
    · exact ⟨gl_record_cin hi.recs w.ents he h, Or.inr h⟩
    · exfalso
      rw [inSeg_iff] at hge
      rcases Nat.lt_or_ge e0.addr e.addr with hlt | hge'
      · have := entsOk_sep w.ents e0 he0m e he hlt
        omega
      · exact hne (entsOk_addr_inj w.ents he he0m (by omega))
  have hfree_out : ∀ e ∈ V.h.ents, isFree e = true → e.addr ≠ g.base → inSeg g e = false := by
    intro e he hf hne
    cases h : inSeg g e with
    | false => rfl
    | true =>
      have := (hmid_other e he h fun h0 => hne (by rw [h0, he0a])).1
      rw [(isFree_iff.1 hf).1] at this; cases this
  -- the head segment, `top` and its foot word
  obtain ⟨g0, rest0, tpre, xt, ft, tpost, T⟩ := w.sgTop (w.topsize_ne hgm)
  obtain ⟨pref', hpc⟩ : ∃ pref', pref = g0 :: pref' := by
    cases pref with
    | nil => exact absurd rfl hpref
    | cons a l =>
      have := T.segs.symm.trans hsegs
      simp only [List.cons_append, List.cons.injEq] at this
      exact ⟨l, by rw [this.1]⟩
  have hg0m : g0 ∈ pref ++ rest := by rw [hpc]; simp
  have htop_out : inSeg g xt = false ∧ inSeg g ft = false := by
    have := T.pair.xa; have := T.pair.fa; have := T.fin; have := T.base; have := hdis g0 hg0m
    exact ⟨sg_notInSeg (by omega), sg_notInSeg (by omega)⟩
  have hfl' : Dl.freeList V'.h = Dl.freeList H1 := by
    unfold Dl.freeList binned; rw [htop', ← h1t, hdv', hsb', htb']
  obtain ⟨hnd0, hmem0⟩ := (freeListOk_iff_set w.ents).1 w.freeList
  have hnd1 : (g.base :: Dl.freeList H1).Nodup := hflp.nodup_iff.1 hnd0
  have hmem1 : ∀ a, a ∈ Dl.freeList H1 → ∃ e ∈ V.h.ents, isFree e = true ∧ e.addr = a ∧ inSeg g e = false := by
    intro a ha
    have hne : a ≠ g.base := fun h => (List.nodup_cons.1 hnd1).1 (h ▸ ha)
    obtain ⟨e, he, hf, hea⟩ := mem_freeSet.1 ((hmem0 a).1 (hflp.mem_iff.2 (List.mem_cons_of_mem _ ha)))
    exact ⟨e, he, hf, hea, hfree_out e he hf (hea ▸ hne)⟩
  refine ⟨SInv.of_segs hok' ?_ ?_ ?_ ?_ ?_ ?_ ?_ ?_, ?_⟩
  · exact sg_shapeOk_of_mem (n := []) (fun z hz => Or.inl ((hmem' z).1 hz).1) w.shape rfl
  · intro e he
    obtain ⟨heo, hn⟩ := (hmem' e).1 he
    obtain ⟨g', hg', hge⟩ := w.struct.seg_of heo
    rw [hsegs']
    rw [hsegs] at hg'
    simp only [List.mem_append, List.mem_cons] at hg' ⊢
    rcases hg' with h | rfl | h
    · exact ⟨g', Or.inl h, hge⟩
    · rw [hn] at hge; cases hge
    · exact ⟨g', Or.inr h, hge⟩
  · intro g' hg'
    rw [hsegs'] at hg'
    rw [htop']
    exact (hi.seg (hsub g' hg')).far w.ents hok'
      (fun z hz => ⟨fun h => ((hmem' z).1 h).1, fun h => (hmem' z).2 ⟨h, hout g' hg' z hz⟩⟩)
      (fun e _ hin h => hrec_drop e (hout g' hg' e hin) h) (fun _ _ _ => Iff.rfl)
  · refine (freeListOk_iff_set hok').2 ⟨by rw [hfl']; exact (List.nodup_cons.1 hnd1).2, fun a => ?_⟩
    rw [hfl']
    constructor
    · intro ha
      obtain ⟨e, he, hf, hea, hn⟩ := hmem1 a ha
      exact mem_freeSet.2 ⟨e, (hmem' e).2 ⟨he, hn⟩, hf, hea⟩
    · intro ha
      obtain ⟨e, he, hf, hea⟩ := mem_freeSet.1 ha
      obtain ⟨heo, hn⟩ := (hmem' e).1 he
      rcases List.mem_cons.1 (hflp.mem_iff.1 ((hmem0 a).2 (mem_freeSet.2 ⟨e, heo, hf, hea⟩))) with h | h
      · rw [sg_notInSeg_iff] at hn
        have := (w.seg_bounds hgm).2.2.2.1
        omega
      · exact h
  · refine sg_bins_frame hsb' htb' hdv' hdvs' (fun a ha => ?_) h1sb h1tb h1dv
    have hfl : a ∈ Dl.freeList H1 := by
      rcases ha with ha | ⟨h0, rfl⟩
      · exact mem_freeList_of_binned ha
      · exact mem_freeList.2 (Or.inr (Or.inl ⟨h0, rfl⟩))
    obtain ⟨e, he, _, hea, hn⟩ := hmem1 a hfl
    rw [h1e, ← hea]
    exact hfind e he hn
  · have hb := T.base; have hfin := T.fin
    rw [← htop', ← htops'] at hfin
    rw [← htop'] at hb
    refine sg_topOk_of (g := g0) (rest := pref' ++ rest) (by rw [hsegs', hpc]; rfl) hok'
      ((hmem' xt).2 ⟨T.xm, htop_out.1⟩) ((hmem' ft).2 ⟨T.fm, htop_out.2⟩) (by rw [htop', htops']; exact T.pair)
      (by rw [htop']; exact T.top0) ?_ hb hfin (T.rec0 w)
    rw [htops', ← T.pair.xs]; exact entsOk_pos w.ents xt T.xm
  · have hsg := w.segs
    unfold segsOk at hsg ⊢
    rw [hsegs', hla']
    rw [hsegs] at hsg
    simp only [Bool.and_eq_true, List.all_eq_true] at hsg ⊢
    refine ⟨sg_segsDisjoint_sublist hsg.1 (List.Sublist.append_left (List.sublist_cons_self g rest) _), fun g' hg' => hsg.2 g' ?_⟩
    simp only [List.mem_append, List.mem_cons] at hg' ⊢
    exact hg'.elim Or.inl fun h => Or.inr (Or.inr h)
  · have hfold := (gl_fenceOk_iff_tab w.ents).1 hi.fence
    intro a ha b hb h8 hadj
    obtain ⟨ha0, han⟩ := (hmem' a).1 ha
    exact (hfold a ha0 b ((hmem' b).1 hb).1 h8 hadj).imp id (hrec_drop a han)
  · refine sg_sameUsers_of w.ents hok' (fun e he _ _ hr => ?_) (fun e he hc h8 hr => ?_)
    · obtain ⟨heo, hn⟩ := (hmem' e).1 he
      refine ⟨heo, ?_⟩
      cases hr0 : isRecord V.segs e with
      | false => rfl
      | true => rw [hrec_drop e hn hr0] at hr; cases hr
    · have hn : inSeg g e = false := by
        cases h : inSeg g e with
        | false => rfl
        | true =>
          rcases (hmid_other e he h fun h0 => by rw [h0, he0c] at hc; cases hc).2 with h8' | hr'
          · exact absurd h8' h8
          · rw [hr] at hr'; cases hr'
      refine ⟨(hmem' e).2 ⟨he, hn⟩, ?_⟩
      cases hr' : isRecord V'.segs e with
      | false => rfl
      | true =>
        rw [hsegs'] at hr'
        have := sg_isRecord_mono (g := g) hr'
        rw [← hsegs, hr] at this; cases this

/-! ## the fencepost loop of `add_segment` -/

/-- `k` fenceposts at 8-byte steps from `p` -/
def sgFenceList : Nat → Nat → List Ent
  | 0, _ => []
  | k + 1, p => { addr := p, size := 8, cin := true, pin := true, pfoot := 0 } :: sgFenceList k (p + 8)

theorem sg_mem_fenceList {k p : Nat} {z : Ent} :
    z ∈ sgFenceList k p ↔ ∃ i, i < k ∧ z = { addr := p + 8 * i, size := 8, cin := true, pin := true, pfoot := 0 } := by
  induction k generalizing p with
  | zero => simp [sgFenceList]
  | succ k ih =>
    simp only [sgFenceList, List.mem_cons, ih]
    constructor
    · rintro (h | ⟨i, hi, h⟩)
      · exact ⟨0, by omega, by simpa using h⟩
      · exact ⟨i + 1, by omega, by rw [h]; congr 1; omega⟩
    · rintro ⟨i, hi, h⟩
      cases i with
      | zero => left; simpa using h
      | succ i => right; exact ⟨i, by omega, by rw [h]; congr 1; omega⟩

/-- **the fencepost loop**, by induction on the fuel: it writes fenceposts at `p, p+8, …, old_end-16` into the
empty region `[p, old_end)` of the table -/
theorem sg_fences : ∀ (fuel : Nat) {h h' : Heap} {p oe n n' : Nat}, fences fuel h p oe n = .ok (h', n') →
    entsOk h.ents = true → (∀ y ∈ h.ents, y.addr + y.size ≤ p ∨ oe ≤ y.addr) → p + 16 ≤ oe → (oe - p) % 8 = 0 →
    h' = { h with ents := h'.ents } ∧ entsOk h'.ents = true ∧
      (∀ z, z ∈ h'.ents ↔ z ∈ h.ents ∨ z ∈ sgFenceList ((oe - p) / 8 - 1) p) ∧ n' = n + ((oe - p) / 8 - 1) := by
  intro fuel
  induction fuel with
  | zero => intro h h' p oe n n' hh; unfold fences at hh; msimp at hh
  | succ k ih =>
    intro h h' p oe n n' hh hok hempty hp hmod
    unfold fences at hh
    rw [SIZEOF_USIZE_eq] at hh
    dsimp only at hh
    msimp at hh
    obtain ⟨h1, e1, hh⟩ := hh
    rw [show FENCEPOST_HEAD - INUSE = 8 by decide] at e1
    obtain ⟨r1, r2, hmem1⟩ := sg_writeHead_fresh e1 hok (by omega) (fun y hy => by rcases hempty y hy with h | h <;> omega)
    split at hh
    · rename_i hlt
      obtain ⟨i1, i2, i3, i4⟩ := ih hh r2 (by
          intro y hy
          rcases (hmem1 y).1 hy with h | h
          · subst h; left; simp only; omega
          · rcases hempty y h with h' | h'
            · left; omega
            · right; exact h') (by omega) (by omega)
      have hk : (oe - p) / 8 - 1 = ((oe - (p + 8)) / 8 - 1) + 1 := by omega
      refine ⟨?_, i2, ?_, by omega⟩
      · rw [i1, r1]
      · intro z
        rw [i3 z, hmem1 z, hk]
        simp only [sgFenceList, List.mem_cons]
        constructor
        · rintro ((h | h) | h)
          · exact Or.inr (Or.inl h)
          · exact Or.inl h
          · exact Or.inr (Or.inr h)
        · rintro (h | h | h)
          · exact Or.inl (Or.inr h)
          · exact Or.inl (Or.inl h)
          · exact Or.inr h
    · rename_i hge
      msimp at hh
      simp only [Prod.mk.injEq] at hh
      obtain ⟨e2, e3⟩ := hh
      subst e2
      have hk : (oe - p) / 8 - 1 = 1 := by omega
      refine ⟨r1, r2, ?_, by omega⟩
      intro z
      rw [hmem1 z, hk]
      simp only [sgFenceList, List.mem_cons, List.not_mem_nil, or_false]
      exact Or.comm

/-! ## `add_segment`: the invariant of the final state from a description of its table -/

theorem sg_isRecord_of_mem {segs : List Seg} {g : Seg} {e : Ent} (hg : g ∈ segs) (h : g.recAt = e.addr + 16) :
    isRecord segs e = true := gl_isRecord_iff.2 ⟨g, hg, h⟩

/-- the window `m' :: ms'` that replaces `top` and its foot word in the old head segment when `add_segment` is done:
what is left of the old `top` (if anything), the record chunk at `csp`, fenceposts up to 8 bytes before the segment
end `e` -/
structure SgRecWin (m' : Ent) (ms' : List Ent) (top e csp : Nat) : Prop where
  run : contig (m' :: ms') top = true
  fin : endE m' ms' + 8 = e
  last8 : (lastE m' ms').size = 8
  shape : shapeOk (m' :: ms') = true
  cls : ∀ z ∈ m' :: ms', z.size = 8 ∨ (z.addr = csp ∧ z.cin = true) ∨ (z.cin = false ∧ z.addr + z.size + 80 ≤ e)
  fence : ∀ a ∈ m' :: ms', ∀ b ∈ m' :: ms', b.size = 8 → b.addr = a.addr + a.size → a.size = 8 ∨ a.addr = csp
  recd : ∃ r ∈ m' :: ms', r.addr = csp ∧ r.cin = true
  csp : top ≤ csp ∧ csp + 16 < e
  m8 : m'.size ≠ 8

section
variable {m' : Ent} {ms' : List Ent} {top e csp : Nat} (W : SgRecWin m' ms' top e csp)
include W

theorem SgRecWin.size8 : ∀ z ∈ m' :: ms', 8 ≤ z.size := fun _ hz => shapeOk_size W.shape hz

theorem SgRecWin.range : entsOk (m' :: ms') = true ∧ ∀ z ∈ m' :: ms', top ≤ z.addr ∧ z.addr + z.size + 8 ≤ e := by
  obtain ⟨a, b⟩ := contig_range W.run (fun z hz => by have := W.size8 z hz; omega)
  exact ⟨a, fun z hz => by have := b z hz; have := W.fin; omega⟩

theorem SgRecWin.tile : tiles (m' :: ms') top e = true := by
  have := (tiles_split m' ms' [] top e).2 ⟨W.run, fun y hy => W.size8 y (List.mem_cons_of_mem _ hy), by
    simp only [tailOk, isTrailerEnd, Bool.and_eq_true, Bool.or_eq_true, decide_eq_true_eq]
    exact ⟨Or.inr W.fin, Or.inr W.last8⟩⟩
  simpa using this

theorem SgRecWin.later : ∀ z ∈ ms', top + 8 ≤ z.addr := by
  intro z hz
  have := entsOk_head_le W.range.1 z hz
  have := W.size8 m' List.mem_cons_self
  have := (W.range.2 m' List.mem_cons_self).1
  omega
end

/-- the free list after `add_segment`: `top` is the new mapping; the old `top` chunk is binned (`B = [top]`)
or gone (`B = []`) -/
theorem sg_addseg_freeListOk {s : St} (w : WFS s) (htn : s.h.top ≠ 0) {H : Heap} (hok' : entsOk H.ents = true)
    {tbase : Nat} (htb0 : tbase ≠ 0) (hnew : ∀ e ∈ s.h.ents, e.addr ≠ tbase)
    (htop : H.top = tbase) (hdv : H.dv = s.h.dv) {B : List Nat} (hB : B = [] ∨ B = [s.h.top])
    (hperm : List.Perm (binned H) (B ++ binned s.h))
    (hfree : ∀ a, a ∈ freeSet H.ents ↔ a = tbase ∨ a ∈ B ∨ (a ∈ freeSet s.h.ents ∧ a ≠ s.h.top)) :
    freeListOk H = true := by
  obtain ⟨hnd0, hmem0⟩ := (freeListOk_iff_set w.ents).1 w.freeList
  rw [freeList_top htn] at hnd0 hmem0
  simp only [List.nil_append, List.singleton_append, List.nodup_cons, List.mem_cons] at hnd0 hmem0
  have hfl : List.Perm (Dl.freeList H) (tbase :: (B ++ ((if s.h.dv = 0 then [] else [s.h.dv]) ++ binned s.h))) := by
    unfold Dl.freeList
    rw [htop, hdv, if_neg htb0]
    simp only [List.singleton_append]
    refine List.Perm.cons _ ?_
    refine (List.Perm.append_left _ hperm).trans ?_
    rw [← List.append_assoc, ← List.append_assoc]
    exact List.Perm.append_right _ List.perm_append_comm
  generalize (if s.h.dv = 0 then [] else [s.h.dv]) ++ binned s.h = R at hnd0 hmem0 hfl
  have hRfree : ∀ a, a ∈ R ↔ (a ∈ freeSet s.h.ents ∧ a ≠ s.h.top) := by
    intro a
    have := hmem0 a
    constructor
    · intro h
      exact ⟨this.1 (Or.inr h), fun h' => hnd0.1 (h' ▸ h)⟩
    · rintro ⟨h1, h2⟩
      rcases this.2 h1 with h | h
      · exact absurd h h2
      · exact h
  have htbR : tbase ∉ R := by
    intro h
    obtain ⟨e, he, _, hea⟩ := mem_freeSet.1 ((hRfree tbase).1 h).1
    exact hnew e he hea
  have htop_new : s.h.top ≠ tbase := by
    intro h
    obtain ⟨e, he, _, hea⟩ := mem_freeSet.1 ((hmem0 s.h.top).1 (Or.inl rfl))
    exact hnew e he (by omega)
  refine (freeListOk_iff_set hok').2 ⟨hfl.nodup_iff.2 ?_, ?_⟩
  · rcases hB with hB | hB
    · subst hB
      simp only [List.nil_append, List.nodup_cons]
      exact ⟨htbR, hnd0.2⟩
    · subst hB
      simp only [List.singleton_append, List.nodup_cons, List.mem_cons, not_or]
      exact ⟨⟨fun h => htop_new h.symm, htbR⟩, hnd0.1, hnd0.2⟩
  · intro a
    rw [hfl.mem_iff, hfree a]
    simp only [List.mem_cons, List.mem_append, hRfree a]

/-- **`add_segment`, the final state**: the new head segment `[X, F]`, the old head segment whose `top` and foot
word became the window `m' :: ms'`, its record address set, everything else unchanged.  The free-list and bin
conjuncts are hypotheses (they depend on whether the remainder of the old `top` was binned). -/
theorem sg_addseg_core {s s' : St} (hi : SInv s) {g0 : Seg} {rest : List Seg} {pre post : List Ent} {x f : Ent}
    (T : SgTop s g0 rest pre x f post) {tbase tsize : Nat} (hf : SgFresh s tbase tsize) (hts2 : 96 ≤ tsize)
    {X F : Ent} (P : SgTopPair X F tbase (tsize - 80)) {csp : Nat} {m' : Ent} {ms' : List Ent}
    (W : SgRecWin m' ms' s.h.top (g0.base + g0.size) csp) (whead : HeadEq x m') (wtags : tagsFrom tbase m' ms' = true)
    (hok' : entsOk s'.h.ents = true)
    (hmem' : ∀ z, z ∈ s'.h.ents ↔ z = X ∨ z = F ∨ z ∈ m' :: ms' ∨ z ∈ pre ∨ z ∈ post)
    (hsegs' : s'.segs = { base := tbase, size := tsize, recAt := 0 } :: { g0 with recAt := csp + 16 } :: rest)
    (hH : HeapIs s'.h s'.h.ents s'.h.sbins s'.h.tbins s.h.dv s.h.dvsize tbase (tsize - 80))
    {B : List Nat} (hB : B = [] ∨ B = [s.h.top]) (hperm : List.Perm (binned s'.h) (B ++ binned s.h))
    (hBW : ∀ a, a ∈ B ↔ ∃ e ∈ m' :: ms', isFree e = true ∧ e.addr = a)
    (hsb' : sbinsOk s'.h = true) (htb' : tbinsOk s'.h = true)
    (hla' : s'.least_addr ≤ tbase ∧ s'.least_addr ≤ s.least_addr) :
    SInv s' ∧ SameUsers s s' := by
  have w := hi.wfs
  obtain ⟨d1, d2, d3⟩ := sg_segsOk_cons w.segs T.segs
  have hfr := hf.fresh.2.2.2
  have hfresh := hf.ents w
  have hwin := W.range.2
  have hw8 := W.size8
  have hmemX : X ∈ s'.h.ents := (hmem' X).2 (Or.inl rfl)
  have hmemF : F ∈ s'.h.ents := (hmem' F).2 (Or.inr (Or.inl rfl))
  have hmemW : ∀ e ∈ m' :: ms', e ∈ s'.h.ents := fun e he => (hmem' e).2 (Or.inr (Or.inr (Or.inl he)))
  have hold : ∀ z, z ∈ pre ∨ z ∈ post → z ∈ s.h.ents :=
    fun z hz => (T.mem z).2 (hz.elim Or.inl fun h => Or.inr (Or.inr (Or.inr h)))
  have hg0r : ({ g0 with recAt := csp + 16 } : Seg) ∈ s'.segs := by rw [hsegs']; simp
  have hsegsOk : segsOk s' = true := by
    have hpos := hf.fresh.2.1; have hlim := hf.fresh.2.2.1
    refine sg_segsOk_of hsegs' ?_ ?_ ?_
    · intro g hg
      rcases List.mem_cons.1 hg with rfl | hg
      · have := hfr g0 T.g0m; simp only; omega
      · have := hfr g (T.restm hg); simp only; omega
    · simp only [segsDisjoint, Bool.and_eq_true, List.all_eq_true, Bool.or_eq_true, decide_eq_true_eq]
      exact ⟨d1, d2⟩
    · intro g hg
      have := hf.page; have := hf.gran
      simp only [List.mem_cons] at hg
      rcases hg with rfl | rfl | hg
      · simp only; omega
      · have := d3 g0 List.mem_cons_self; simp only; omega
      · have := d3 g (List.mem_cons_of_mem _ hg); omega
  clear hla'
  have hN_old : ∀ z ∈ s.h.ents, inSeg { base := tbase, size := tsize, recAt := 0 } z = false ∧ z.addr ≠ tbase := by
    intro z hz
    have := entsOk_pos w.ents z hz; have := hfresh z hz
    exact ⟨sg_notInSeg (by simp only; omega), by omega⟩
  have hW_in : ∀ z ∈ m' :: ms', inSeg { base := tbase, size := tsize, recAt := 0 } z = false ∧ inSeg g0 z = true := by
    intro z hz
    have := hwin z hz; have := hw8 z hz; have := hfr g0 T.g0m; have := T.base
    exact ⟨sg_notInSeg (by simp only; omega), by rw [inSeg_iff]; omega⟩
  have hXF : ∀ g ∈ s.segs, inSeg g X = false ∧ inSeg g F = false := by
    intro g hg
    have := hfr g hg; have := P.xa; have := P.fa
    exact ⟨sg_notInSeg (by omega), sg_notInSeg (by omega)⟩
  have hx0 : inSeg g0 x = true ∧ inSeg g0 f = true := by
    have := T.pair.xa; have := T.pair.fa; have := T.fin; have := T.base
    constructor <;> (rw [inSeg_iff]; omega)
  have hrecs_mono : ∀ e : Ent, isRecord s.segs e = true → isRecord s'.segs e = true := by
    intro e h
    obtain ⟨g, hg, hga⟩ := gl_isRecord_iff.1 h
    rw [T.segs] at hg
    rcases List.mem_cons.1 hg with rfl | hg
    · have := T.rec0 w; omega
    · exact sg_isRecord_of_mem (by rw [hsegs']; simp [hg]) hga
  have hcsp_rec : ∀ e : Ent, e.addr = csp → isRecord s'.segs e = true :=
    fun e he => sg_isRecord_of_mem hg0r (by simp only; omega)
  have hshape : shapeOk s'.h.ents = true := by
    refine sg_shapeOk_of_mem (n := [X, F] ++ (m' :: ms')) ?_ w.shape ?_
    · intro z hz
      rcases (hmem' z).1 hz with h | h | h | h
      · exact Or.inr (by simp [h])
      · exact Or.inr (by simp [h])
      · exact Or.inr (List.mem_append.2 (Or.inr h))
      · exact Or.inl (hold z h)
    · have := hf.page; have := hf.gran
      rw [shapeOk_append, P.shape (by omega) (by omega) (by omega), W.shape]; rfl
  have hsegN := sg_newseg (segs' := s'.segs) P hts2 hok' hmemX hmemF (by
    intro z hz hin
    rcases (hmem' z).1 hz with h | h | h | h
    · exact Or.inl h
    · exact Or.inr h
    · rw [(hW_in z h).1] at hin; cases hin
    · rw [(hN_old z (hold z h)).1] at hin; cases hin)
  have hseg0 : SegInv s'.h.ents s'.segs tbase { g0 with recAt := csp + 16 } := by
    have hst := T.reseg w hok' (g' := { g0 with recAt := csp + 16 }) rfl W.range.1 W.tile (hw8 m' List.mem_cons_self)
      whead wtags (fun z hz => ⟨(hmem' z).2 (Or.inr (Or.inr (Or.inr (Or.inl hz)))), (hN_old z (hold z (Or.inl hz))).2⟩)
      (fun z hz => ⟨hmemW z hz, by have := hwin z hz; have := hw8 z hz; simp only; omega⟩)
      (by
        intro z hz hin
        have hin0 : inSeg g0 z = true := hin
        rcases (hmem' z).1 hz with h | h | h | h | h
        · rw [h, (hXF g0 T.g0m).1] at hin0; cases hin0
        · rw [h, (hXF g0 T.g0m).2] at hin0; cases hin0
        · exact Or.inr h
        · exact Or.inl h
        · rw [sg_notInSeg (Or.inr ((T.mem_post w).1 h).2)] at hin0; cases hin0)
    refine ⟨hst.1, hst.2, ?_, ?_, ?_, fun _ => by have := W.csp; have := T.base; simp only; omega⟩
    · intro e he hb h8
      rcases (hmem' e).1 he with h | h | h | h
      · rw [h, P.xs] at h8; omega
      · rw [h, P.fs] at h8; omega
      · rcases List.mem_cons.1 h with h | h
        · exact W.m8 (h ▸ h8)
        · have := W.later e h; have := T.base; simp only at hb; omega
      · exact hi.head g0 T.g0m e (hold e h) hb h8
    · intro _
      obtain ⟨r, hr, hra, hrc⟩ := W.recd
      refine ⟨by simp only; omega, r, ?_, hrc⟩
      simp only [Nat.add_sub_cancel]
      exact hra ▸ entsOk_find r (hmemW r hr) hok'
    · intro _ e he hge
      have hge0 : inSeg g0 e = true := hge
      simp only
      rcases (hmem' e).1 he with h | h | h | h | h
      · rw [h, (hXF g0 T.g0m).1] at hge0; cases hge0
      · rw [h, (hXF g0 T.g0m).2] at hge0; cases hge0
      · rcases W.cls e h with h1 | h1 | h1
        · exact Or.inl h1
        · exact Or.inr (Or.inl (hcsp_rec e h1.1))
        · exact Or.inr (Or.inr h1.2)
      · have := ((T.mem_pre w).1 h).2; have := T.fin
        exact Or.inr (Or.inr (by omega))
      · rw [sg_notInSeg (Or.inr ((T.mem_post w).1 h).2)] at hge0; cases hge0
  have hsegr : ∀ g ∈ rest, SegInv s'.h.ents s'.segs tbase g := by
    intro g hg
    refine (hi.seg (T.restm hg)).far w.ents hok' (fun z hz => ?_) (fun e _ _ h => hrecs_mono e h) (fun e he hin => ?_)
    · have a1 := inSeg_false_of_disjoint hx0.1 (d1 g hg)
      have a2 := inSeg_false_of_disjoint hx0.2 (d1 g hg)
      rw [hmem' z, T.mem z]
      constructor
      · rintro (h | h | h | h | h)
        · rw [h, (hXF g (T.restm hg)).1] at hz; cases hz
        · rw [h, (hXF g (T.restm hg)).2] at hz; cases hz
        · rw [inSeg_false_of_disjoint (hW_in z h).2 (d1 g hg)] at hz; cases hz
        · exact Or.inl h
        · exact Or.inr (Or.inr (Or.inr h))
      · rintro (h | h | h | h)
        · exact Or.inr (Or.inr (Or.inr (Or.inl h)))
        · rw [h, a1] at hz; cases hz
        · rw [h, a2] at hz; cases hz
        · exact Or.inr (Or.inr (Or.inr (Or.inr h)))
    · have := (hN_old e he).2; have := inSeg_iff.1 hin; have := inSeg_iff.1 hx0.1; have := d1 g hg; have := T.pair.xa
      exact ⟨fun h => by omega, fun h => by omega⟩
  have hkeep : ∀ e ∈ s.h.ents, isFree e = true → e.addr ≠ s.h.top → e ∈ s'.h.ents := by
    intro e he hfe hne
    rcases (T.mem e).1 he with h | h | h | h
    · exact (hmem' e).2 (Or.inr (Or.inr (Or.inr (Or.inl h))))
    · exact absurd (h ▸ T.pair.xa) hne
    · rw [h, T.pair.ffree] at hfe; cases hfe
    · exact (hmem' e).2 (Or.inr (Or.inr (Or.inr (Or.inr h))))
  have hfl' : freeListOk s'.h = true := by
    refine sg_addseg_freeListOk w T.top0 hok' (Nat.ne_of_gt hf.fresh.2.1) (fun e he => (hN_old e he).2) hH.top hH.dv hB hperm fun a => ?_
    rw [mem_freeSet, mem_freeSet, hBW a]
    constructor
    · rintro ⟨e, he, hfe, hea⟩
      rcases (hmem' e).1 he with h | h | h | h | h
      · exact Or.inl (by rw [← hea, h, P.xa])
      · rw [h, P.ffree] at hfe; cases hfe
      · exact Or.inr (Or.inl ⟨e, h, hfe, hea⟩)
      · have := ((T.mem_pre w).1 h).2; have := entsOk_pos w.ents e (hold e (Or.inl h))
        exact Or.inr (Or.inr ⟨⟨e, hold e (Or.inl h), hfe, hea⟩, by omega⟩)
      · have := ((T.mem_post w).1 h).2; have := T.fin
        exact Or.inr (Or.inr ⟨⟨e, hold e (Or.inr h), hfe, hea⟩, by omega⟩)
    · rintro (h | ⟨e, he, hfe, hea⟩ | ⟨⟨e, he, hfe, hea⟩, hne⟩)
      · exact ⟨X, hmemX, P.xfree, by rw [h, P.xa]⟩
      · exact ⟨e, hmemW e he, hfe, hea⟩
      · exact ⟨e, hkeep e he hfe (hea ▸ hne), hfe, hea⟩
  refine ⟨SInv.of_segs hok' hshape ?_ ?_ hfl' ⟨hsb', htb', ?_⟩ ?_ ?_ ?_, ?_⟩
  · intro z hz
    rw [hsegs']
    rcases (hmem' z).1 hz with h | h | h | h
    · exact ⟨_, List.mem_cons_self, by have := P.xa; rw [h, inSeg_iff]; simp only; omega⟩
    · exact ⟨_, List.mem_cons_self, by have := P.fa; rw [h, inSeg_iff]; simp only; omega⟩
    · exact ⟨_, List.mem_cons_of_mem _ List.mem_cons_self, (hW_in z h).2⟩
    · obtain ⟨g, hg, hge⟩ := w.struct.seg_of (hold z h)
      rw [T.segs] at hg
      rcases List.mem_cons.1 hg with rfl | hg
      · exact ⟨_, List.mem_cons_of_mem _ List.mem_cons_self, hge⟩
      · exact ⟨g, List.mem_cons_of_mem _ (List.mem_cons_of_mem _ hg), hge⟩
  · intro g hg
    rw [hH.top]
    rw [hsegs'] at hg
    simp only [List.mem_cons] at hg
    rcases hg with rfl | rfl | hg
    · exact hsegN
    · exact hseg0
    · exact hsegr g hg
  · exact sg_dvOk_frame hH.dv hH.dvsize (fun h0 => w.find_keep T.top0 hok' hkeep _ (Or.inr ⟨h0, rfl⟩)) w.dv
  · exact sg_topOk_of hsegs' hok' hmemX hmemF (by rw [hH.top, hH.topsize]; exact P)
      (by rw [hH.top]; exact Nat.ne_of_gt hf.fresh.2.1)
      (by rw [hH.topsize]; omega) (by rw [hH.top]; exact Nat.le_refl _) (by rw [hH.top, hH.topsize]; simp only; omega) rfl
  · exact hsegsOk
  · -- `FenceOk`
    have hfold := (gl_fenceOk_iff_tab w.ents).1 hi.fence
    intro a ha b hb h8 hadj
    rcases (hmem' b).1 hb with hbX | hbF | hbW | hbO
    · rw [hbX, P.xs] at h8; omega
    · rw [hbF, P.fs] at h8; omega
    · -- `b` is one of the new fenceposts
      have hbgt : s.h.top + 8 ≤ b.addr := by
        rcases List.mem_cons.1 hbW with h | h
        · exact absurd (h ▸ h8) W.m8
        · exact W.later b h
      have := (hwin b hbW).2
      rcases (hmem' a).1 ha with haX | haF | haW | haO | haO
      · have := hfr g0 T.g0m; have := T.base
        rw [haX, P.xa, P.xs] at hadj; omega
      · have := hfr g0 T.g0m; have := T.base
        rw [haF, P.fa, P.fs] at hadj; omega
      · exact (W.fence a haW b hbW h8 hadj).imp id (hcsp_rec a)
      · have := ((T.mem_pre w).1 haO).2; omega
      · have := ((T.mem_post w).1 haO).2; omega
    · -- `b` is an old fencepost
      have hbm := hold b hbO
      rcases (hmem' a).1 ha with haX | haF | haW | haO
      · have := hfresh b hbm; have := entsOk_pos w.ents b hbm
        rw [haX, P.xa, P.xs] at hadj; omega
      · -- a fencepost right after the new foot word would be the first header of a segment
        exfalso
        rw [haF, P.fa, P.fs] at hadj
        obtain ⟨g, hg, hge⟩ := w.struct.seg_of hbm
        have := hfr g hg
        rw [inSeg_iff] at hge
        exact hi.head g hg b hbm (by omega) h8
      · exfalso
        have := hwin a haW; have := hw8 a haW
        rcases hbO with h | h
        · have := ((T.mem_pre w).1 h).2; have := entsOk_pos w.ents b hbm; omega
        · have := ((T.mem_post w).1 h).2; omega
      · exact (hfold a (hold a haO) b hbm h8 hadj).imp id (hrecs_mono a)
  · refine sg_sameUsers_of w.ents hok' (fun e he hc h8 hr => ?_) (fun e he hc h8 hr => ?_)
    · rcases (hmem' e).1 he with h | h | h | h
      · rw [h, P.xc] at hc; cases hc
      · rw [h, P.fc] at hc; cases hc
      · exfalso
        rcases W.cls e h with h1 | h1 | h1
        · exact h8 h1
        · rw [hcsp_rec e h1.1] at hr; cases hr
        · rw [h1.1] at hc; cases hc
      · refine ⟨hold e h, ?_⟩
        cases hr0 : isRecord s.segs e with
        | false => rfl
        | true => rw [hrecs_mono e hr0] at hr; cases hr
    · have hm : e ∈ pre ∨ e ∈ post := by
        rcases (T.mem e).1 he with h | h | h | h
        · exact Or.inl h
        · rw [h, T.pair.xc] at hc; cases hc
        · rw [h, T.pair.fc] at hc; cases hc
        · exact Or.inr h
      refine ⟨(hmem' e).2 (Or.inr (Or.inr (Or.inr hm))), ?_⟩
      cases hr' : isRecord s'.segs e with
      | false => rfl
      | true =>
        exfalso
        obtain ⟨g, hg, hga⟩ := gl_isRecord_iff.1 hr'
        rw [hsegs'] at hg
        simp only [List.mem_cons] at hg
        rcases hg with rfl | rfl | hg
        · simp only at hga; omega
        · -- the record chunk lies in the window, `e` outside
          simp only at hga
          have := W.csp
          rcases hm with h | h
          · have := ((T.mem_pre w).1 h).2; have := entsOk_pos w.ents e he; omega
          · have := ((T.mem_post w).1 h).2; omega
        · rw [sg_isRecord_of_mem (T.restm hg) hga] at hr; cases hr

/-! ## `sys-prepend`: a segment grows at its start -/

theorem sg_replaceSeg_split {l1 l2 : List Seg} {old new : Seg} (h : old ∉ l1) :
    replaceSeg (l1 ++ old :: l2) old new = l1 ++ new :: l2 := by
  induction l1 with
  | nil => simp [replaceSeg]
  | cons a r ih =>
    have ha : a ≠ old := fun h' => h (h' ▸ List.mem_cons_self)
    have hr : old ∉ r := fun h' => h (List.mem_cons_of_mem _ h')
    simp only [List.cons_append, replaceSeg, if_neg ha, ih hr]

theorem sg_split_first {l : List Seg} {g : Seg} (h : g ∈ l) : ∃ l1 l2, l = l1 ++ g :: l2 ∧ g ∉ l1 := by
  induction l with
  | nil => cases h
  | cons a r ih =>
    by_cases hag : a = g
    · exact ⟨[], r, by rw [hag]; rfl, by simp⟩
    · have hr : g ∈ r := by
        rcases List.mem_cons.1 h with h | h
        · exact absurd h.symm hag
        · exact h
      obtain ⟨l1, l2, h1, h2⟩ := ih hr
      refine ⟨a :: l1, l2, by rw [h1]; rfl, ?_⟩
      intro hm
      rcases List.mem_cons.1 hm with hm | hm
      · exact hag hm.symm
      · exact h2 hm

/-- the first header of a segment: it sits at the segment base and has PINUSE set -/
theorem sg_first_entry {s : St} (w : WFS s) {g : Seg} (hg : g ∈ s.segs) :
    ∃ e T, segEnts s.h.ents g = e :: T ∧ e ∈ s.h.ents ∧ e.addr = g.base ∧ e.pin = true := by
  obtain ⟨e, T, hs, hm, ha, _⟩ := sg_tiles_first (w.struct.tiles_of hg)
  have hta := w.struct.tags_of hg
  rw [hs, tagsOk_cons_iff] at hta
  exact ⟨e, T, hs, hm, ha, hta.1⟩

/-- **the segment `sq` extended downwards by a fresh mapping**, with two in-use chunks `P` (the request) and
`Q` (the rest of the mapping) in front of its old first header: the invariant holds, the user chunks are the
old ones plus `P` and `Q`.  (`sys-prepend` = this state followed by freeing `Q`.) -/
theorem sg_prepend_mid {s I : St} (hi : SInv s) {l1 l2 : List Seg} {sq : Seg} (hsegs : s.segs = l1 ++ sq :: l2)
    {tbase tsize : Nat} (hf : SgFresh s tbase tsize) (hsqb : sq.base = tbase + tsize)
    {P Q : Ent} (hPQ : shapeOk [P, Q] = true) (P1 : P.addr = tbase) (P2 : 32 ≤ P.size) (P3 : P.cin = true)
    (P4 : P.pin = true) (Q1 : Q.addr = P.addr + P.size) (Q2 : Q.addr + Q.size = sq.base) (Q3 : Q.cin = true)
    (Q4 : Q.pin = true) (Q5 : 32 ≤ Q.size)
    (hokI : entsOk I.h.ents = true) (hmemI : ∀ z, z ∈ I.h.ents ↔ z = P ∨ z = Q ∨ z ∈ s.h.ents)
    (hsegsI : I.segs = l1 ++ { sq with base := tbase, size := sq.size + tsize } :: l2)
    (hH : HeapIs I.h I.h.ents s.h.sbins s.h.tbins s.h.dv s.h.dvsize s.h.top s.h.topsize)
    (hla : I.least_addr ≤ tbase ∧ I.least_addr ≤ s.least_addr) :
    SInv I ∧ (∀ a z, User I a z ↔ (User s a z ∨ (a = P.addr ∧ z = P.size) ∨ (a = Q.addr ∧ z = Q.size))) ∧
      ∃ eo, findEnt I.h.ents sq.base = some eo ∧ eo ∈ s.h.ents ∧ eo.pin = true := by
  subst P1
  have w := hi.wfs
  have hsqm : sq ∈ s.segs := by rw [hsegs]; simp
  have hothers : ∀ g, g ∈ l1 ∨ g ∈ l2 → g ∈ s.segs := by
    intro g hg; rw [hsegs]; rcases hg with h | h <;> simp [h]
  have hfr := hf.fresh.2.2.2
  have hfresh := hf.ents w
  have hpos0 := entsOk_pos w.ents
  obtain ⟨eo, To, hsqe, heom, heoa, heop⟩ := sg_first_entry w hsqm
  have hPm : P ∈ I.h.ents := (hmemI P).2 (Or.inl rfl)
  have hQm : Q ∈ I.h.ents := (hmemI Q).2 (Or.inr (Or.inl rfl))
  have hOm : ∀ z ∈ s.h.ents, z ∈ I.h.ents := fun z hz => (hmemI z).2 (Or.inr (Or.inr hz))
  have hfind : ∀ z ∈ s.h.ents, findEnt I.h.ents z.addr = some z := fun z hz => entsOk_find z (hOm z hz) hokI
  have hrecs : I.segs.map (·.recAt) = s.segs.map (·.recAt) := by rw [hsegsI, hsegs]; simp
  have hnoP : ∀ z ∈ s.h.ents, z.addr ≠ P.addr ∧ z.addr ≠ Q.addr := by
    intro z hz
    have := hpos0 z hz
    rcases hfresh z hz with h | h <;> omega
  have hsegI_mem : ∀ g, g ∈ I.segs ↔ g = { sq with base := P.addr, size := sq.size + tsize } ∨ g ∈ l1 ∨ g ∈ l2 := by
    intro g; rw [hsegsI]; simp only [List.mem_append, List.mem_cons]
    exact or_left_comm
  have hsegsOk : segsOk I = true := by
    unfold segsOk
    simp only [Bool.and_eq_true, List.all_eq_true, decide_eq_true_eq, top_foot_size_eq]
    constructor
    · rw [hsegsI, sg_segsDisjoint_iff, List.pairwise_append]
      have hd0 := w.segsDisjoint
      rw [hsegs, sg_segsDisjoint_iff, List.pairwise_append] at hd0
      obtain ⟨a1, a2, a3⟩ := hd0
      obtain ⟨b1, b2⟩ := List.pairwise_cons.1 a2
      refine ⟨a1, List.pairwise_cons.2 ⟨?_, b2⟩, ?_⟩
      · intro g hg
        have := b1 g hg
        have := hfr g (hothers g (Or.inr hg))
        have := w.seg_bounds (hothers g (Or.inr hg))
        simp only; omega
      · intro a ha b hb
        rcases List.mem_cons.1 hb with rfl | hb
        · have := a3 a ha sq List.mem_cons_self
          have := hfr a (hothers a (Or.inl ha))
          have := w.seg_bounds (hothers a (Or.inl ha))
          simp only; omega
        · exact a3 a ha b (List.mem_cons_of_mem _ hb)
    · intro g hg
      have := hf.page; have := hf.gran; have := w.seg_bounds hsqm
      rcases (hsegI_mem g).1 hg with rfl | h
      · exact ⟨⟨⟨⟨⟨by omega, by simp only; omega⟩, hf.fresh.2.1⟩, by simp only; omega⟩, hla.1⟩, by simp only; omega⟩
      · have := w.seg_bounds (hothers g h); omega
  clear hla
  have hseg_other : ∀ g, g ∈ l1 ∨ g ∈ l2 → SegInv I.h.ents I.segs s.h.top g := by
    intro g hg
    have := hfr g (hothers g hg)
    refine (hi.seg (hothers g hg)).far w.ents hokI (fun z hz => ?_)
      (fun e _ _ h => by rw [sg_isRecord_congr hrecs]; exact h) (fun _ _ _ => Iff.rfl)
    rw [hmemI z]
    refine ⟨fun h => ?_, fun h => Or.inr (Or.inr h)⟩
    rcases h with rfl | rfl | h
    · rw [sg_notInSeg (by omega)] at hz; cases hz
    · rw [sg_notInSeg (by omega)] at hz; cases hz
    · exact h
  have hsq'in : ∀ z, inSeg { sq with base := P.addr, size := sq.size + tsize } z = true ↔
      (P.addr ≤ z.addr ∧ z.addr < sq.base + sq.size) := by
    intro z; rw [inSeg_iff]; simp only; omega
  have hold_in : ∀ z ∈ s.h.ents, P.addr ≤ z.addr → z.addr < sq.base + sq.size → inSeg sq z = true := by
    intro z hz h1 h2
    have := hpos0 z hz
    rw [inSeg_iff]
    rcases hfresh z hz with h' | h' <;> omega
  have hseg_sq : SegInv I.h.ents I.segs s.h.top { sq with base := P.addr, size := sq.size + tsize } := by
    have hse : segEnts I.h.ents { sq with base := P.addr, size := sq.size + tsize } = P :: Q :: eo :: To := by
      have h0 : entsOk (eo :: To) = true := by rw [← hsqe]; exact sg_entsOk_filter w.ents _
      refine sg_segEnts_eq hokI ?_ fun z => ?_
      · simp only [entsOk, Bool.and_eq_true, decide_eq_true_eq] at h0 ⊢
        exact ⟨⟨by omega, by omega⟩, ⟨by omega, by omega⟩, h0⟩
      · rw [hsq'in z]
        have hT : z ∈ eo :: To ↔ z ∈ s.h.ents ∧ inSeg sq z = true := by rw [← hsqe]; exact mem_segEnts
        simp only [List.mem_cons] at hT ⊢
        constructor
        · rintro (rfl | rfl | h)
          · exact ⟨hPm, by omega⟩
          · exact ⟨hQm, by omega⟩
          · have hin := inSeg_iff.1 (hT.1 h).2
            exact ⟨hOm z (hT.1 h).1, by omega⟩
        · rintro ⟨h1, h2⟩
          rcases (hmemI z).1 h1 with h | h | h
          · exact Or.inl h
          · exact Or.inr (Or.inl h)
          · exact Or.inr (Or.inr (hT.2 ⟨h, hold_in z h h2.1 h2.2⟩))
    have so := hi.seg hsqm
    have ht := so.tile
    have hta := so.tags
    rw [hsqe] at ht hta
    refine ⟨?_, ?_, ?_, ?_, ?_, ?_⟩
    · rw [hse]
      have h8 : 8 ≤ eo.size := shapeOk_size w.shape heom
      simp only [tiles, Bool.and_eq_true, decide_eq_true_eq]
      refine ⟨⟨trivial, by omega⟩, ⟨by omega, h8⟩, ?_⟩
      rw [show P.addr + P.size + Q.size = sq.base by omega, show P.addr + (sq.size + tsize) = sq.base + sq.size by omega]
      exact ht
    · rw [hse]
      simp only [tagsOk, isFree, P3, P4, Q3, Q4, Bool.not_true, Bool.false_and, Bool.and_true, beq_self_eq_true,
        Bool.true_and, if_false, Bool.false_eq_true]
      exact hta
    · intro e he hb h8
      rcases (hmemI e).1 he with rfl | rfl | h
      · omega
      · omega
      · exact (hnoP e h).1 hb
    · intro hne
      obtain ⟨h16, e, he, hc⟩ := so.recs hne
      obtain ⟨hm, ha⟩ := findEnt_some he
      exact ⟨h16, e, ha ▸ hfind e hm, hc⟩
    · intro hne e he hge
      rw [sg_isRecord_congr hrecs]
      have hge' := (hsq'in e).1 hge
      have h80 := (w.seg_bounds hsqm).2.2.2.1
      rcases (hmemI e).1 he with rfl | rfl | h
      · exact Or.inr (Or.inr (by simp only; omega))
      · exact Or.inr (Or.inr (by simp only; omega))
      · rcases so.tail hne e h (hold_in e h hge'.1 hge'.2) with h1 | h1 | h1
        · exact Or.inl h1
        · exact Or.inr (Or.inl h1)
        · exact Or.inr (Or.inr (by simp only; omega))
    · intro hne
      have := so.recin hne
      simp only; omega
  obtain ⟨g0, rest, tpre, xt, ft, tpost, T⟩ := w.sgTop (w.topsize_ne hsqm)
  refine ⟨SInv.of_segs hokI ?_ ?_ ?_ ?_ ?_ ?_ ?_ ?_, ?_, ?_⟩
  · refine sg_shapeOk_of_mem (n := [P, Q]) (fun z hz => ?_) w.shape ?_
    · rcases (hmemI z).1 hz with h | h | h
      · exact Or.inr (by simp [h])
      · exact Or.inr (by simp [h])
      · exact Or.inl h
    · exact hPQ
  · intro z hz
    rcases (hmemI z).1 hz with rfl | rfl | h
    · exact ⟨_, (hsegI_mem _).2 (Or.inl rfl), (hsq'in _).2 (by omega)⟩
    · exact ⟨_, (hsegI_mem _).2 (Or.inl rfl), (hsq'in _).2 (by omega)⟩
    · obtain ⟨g, hg, hge⟩ := w.struct.seg_of h
      rw [hsegs] at hg
      simp only [List.mem_append, List.mem_cons] at hg
      rcases hg with hg | rfl | hg
      · exact ⟨g, (hsegI_mem g).2 (Or.inr (Or.inl hg)), hge⟩
      · refine ⟨_, (hsegI_mem _).2 (Or.inl rfl), (hsq'in z).2 ?_⟩
        rw [inSeg_iff] at hge; omega
      · exact ⟨g, (hsegI_mem g).2 (Or.inr (Or.inr hg)), hge⟩
  · intro g hg
    rw [hH.top]
    rcases (hsegI_mem g).1 hg with rfl | h
    · exact hseg_sq
    · exact hseg_other g h
  · have hfl : Dl.freeList I.h = Dl.freeList s.h := by unfold Dl.freeList binned; rw [hH.top, hH.dv, hH.sbins, hH.tbins]
    refine sg_freeListOk_same w.ents hokI hfl (fun a => ?_) w.freeList
    rw [mem_freeSet, mem_freeSet]
    refine ⟨fun ⟨e, he, hfe, ha⟩ => ?_, fun ⟨e, he, hfe, ha⟩ => ⟨e, hOm e he, hfe, ha⟩⟩
    rcases (hmemI e).1 he with rfl | rfl | h
    · simp [isFree, P3] at hfe
    · simp [isFree, Q3] at hfe
    · exact ⟨e, h, hfe, ha⟩
  · exact w.bins_keep T.top0 hokI hH.sbins hH.tbins hH.dv hH.dvsize fun e he _ _ => hOm e he
  · -- `topOk`: `top` and its foot word are where they were
    have hb := T.base; have hfin := T.fin
    have hrec0 := T.rec0 w
    have hP : SgTopPair xt ft I.h.top I.h.topsize := by rw [hH.top, hH.topsize]; exact T.pair
    have hts : 0 < I.h.topsize := by
      rw [hH.topsize, ← T.pair.xs]; exact hpos0 xt T.xm
    rw [← hH.top, ← hH.topsize] at hfin
    rw [← hH.top] at hb
    cases l1 with
    | nil =>
      have hg : g0 = sq := by have := T.segs.symm.trans hsegs; simp at this; exact this.1
      subst hg
      exact sg_topOk_of hsegsI hokI (hOm xt T.xm) (hOm ft T.fm) hP (by rw [hH.top]; exact T.top0) hts
        (by simp only; omega) (by simp only; omega) hrec0
    | cons g1 l1' =>
      have hg : g0 = g1 := by have := T.segs.symm.trans hsegs; simp at this; exact this.1
      subst hg
      exact sg_topOk_of hsegsI hokI (hOm xt T.xm) (hOm ft T.fm) hP (by rw [hH.top]; exact T.top0) hts hb hfin hrec0
  · exact hsegsOk
  · -- `FenceOk`
    have hfold := (gl_fenceOk_iff_tab w.ents).1 hi.fence
    intro a ha b hb h8 hadj
    rw [sg_isRecord_congr hrecs]
    rcases (hmemI b).1 hb with rfl | rfl | hb
    · omega
    · omega
    · rcases (hmemI a).1 ha with rfl | rfl | ha
      · exact absurd (by omega) (hnoP b hb).2
      · exact absurd h8 (hi.head sq hsqm b hb (by omega))
      · exact hfold a ha b hb h8 hadj
  · -- users
    have hrecP : ∀ e : Ent, (e.addr = P.addr ∨ e.addr = Q.addr) → isRecord s.segs e = false := by
      intro e he
      rw [sg_isRecord_false]
      intro g hg hga
      obtain ⟨_, e2, he2, _⟩ := hi.recs g hg (by omega)
      obtain ⟨hm2, ha2⟩ := findEnt_some he2
      have := hnoP e2 hm2
      omega
    intro a z
    rw [gl_user_iff_mem hokI, gl_user_iff_mem w.ents]
    constructor
    · rintro ⟨e, he, u1, u2, u3, u4, u5⟩
      rcases (hmemI e).1 he with rfl | rfl | h
      · exact Or.inr (Or.inl ⟨u1.symm, u3.symm⟩)
      · exact Or.inr (Or.inr ⟨u1.symm, u3.symm⟩)
      · exact Or.inl ⟨e, h, u1, u2, u3, u4, by rw [← sg_isRecord_congr hrecs]; exact u5⟩
    · rintro (⟨e, he, u1, u2, u3, u4, u5⟩ | ⟨h1, h2⟩ | ⟨h1, h2⟩)
      · exact ⟨e, hOm e he, u1, u2, u3, u4, by rw [sg_isRecord_congr hrecs]; exact u5⟩
      · exact ⟨P, hPm, h1.symm, P3, h2.symm, by omega, by rw [sg_isRecord_congr hrecs]; exact hrecP P (Or.inl rfl)⟩
      · exact ⟨Q, hQm, h1.symm, Q3, h2.symm, by omega, by rw [sg_isRecord_congr hrecs]; exact hrecP Q (Or.inr rfl)⟩
  · exact ⟨eo, heoa ▸ hfind eo heom, heom, heop⟩

end TinyVerif.Dl
