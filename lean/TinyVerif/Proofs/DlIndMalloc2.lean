import TinyVerif.Proofs.DlIndMalloc
import TinyVerif.Proofs.DlIndGlue
/-!
# `malloc_nosys` preserves the invariant — tree branches and the interface theorem

`tmalloc_small` (`tsmall-exhaust`, `tsmall-split`) and `tmalloc_large` (`tlarge-exhaust`, `tlarge-split`)
on the generic layer of `Proofs/DlIndMalloc.lean`; then `mn_malloc_nosys_spec : malloc_nosys_Spec`
(`Proofs/DlIndSpec.lean`), which dispatches over all ten outcomes of `malloc_nosys`.

Nothing about *which* chunk the tree search picks is needed: `unlink_large_chunk` succeeds only on a
member of a tree bin, and the model asserts that the header size of the chosen chunk is `rsize + nb`.
-/
namespace TinyVerif.Dl

/-! ## `tmalloc_small`: `tsmall-exhaust`, `tsmall-split` -/

theorem mn_tmalloc_small_wfs {s : St} (w : WFS s) {nb : Nat} (hnb16 : nb % 16 = 0) (hnb32 : 32 ≤ nb)
    {h' : Heap} {mem : Nat} (hh : tmalloc_small s.h nb = .ok (h', mem)) :
    WFS { s with h := h' } ∧ AllocFacts s.h.ents h'.ents nb mem := by
  unfold tmalloc_small at hh
  dsimp only at hh
  msimp at hh
  obtain ⟨t, ht, hh⟩ := hh
  split at hh
  · msimp at hh
  · rename_i a sz ring l r
    msimp at hh
    obtain ⟨_, hlt, hh⟩ := hh
    generalize hres : Tree.lmBest _ nb (some a) (sz - nb) = res at hh
    obtain ⟨v, rsize⟩ := res
    dsimp only at hh
    split at hh
    · msimp at hh
    · rename_i vc
      msimp at hh
      obtain ⟨e, he, _, hsz, h1, e1, hh⟩ := hh
      simp only [ne_eq, decide_eq_false_iff_not, Decidable.not_not] at hsz
      have u := mn_unlinked_large w e1
      split at hh
      · -- `tsmall-exhaust`
        msimp at hh
        obtain ⟨h2, e2, hh⟩ := hh
        simp only [Prod.mk.injEq] at hh
        obtain ⟨hh1, hh2⟩ := hh
        subst hh1; subst hh2
        obtain ⟨r1, r2⟩ := mn_exhaust_wfs w u (getE_spec he) hsz e2 (nb := nb) (by omega) "tsmall-exhaust"
        exact ⟨r1, vc, by rw [MEM_OFFSET_eq], r2⟩
      · -- `tsmall-split`
        rename_i hge
        rw [MIN_CHUNK_SIZE_eq] at hge
        msimp at hh
        obtain ⟨h2, e2, h3, e3, h4, e4, hh⟩ := hh
        simp only [Prod.mk.injEq] at hh
        obtain ⟨hh1, hh2⟩ := hh
        subst hh1; subst hh2
        have m := mn_split_mid w u (getE_spec he) (by omega) hnb16 hnb32 (by omega) e2 e3
        obtain ⟨r1, r2⟩ := mn_split_dv_wfs w m (by omega) (by omega) e4 "tsmall-split"
        exact ⟨r1, vc, by rw [MEM_OFFSET_eq], r2⟩

/-! ## `tmalloc_large`: `tlarge-exhaust`, `tlarge-split` -/

theorem mn_tmalloc_large_wfs {s : St} (w : WFS s) {nb : Nat} (hnb16 : nb % 16 = 0) (hnb32 : 32 ≤ nb)
    {h' : Heap} {mem : Nat} (hh : tmalloc_large s.h nb = .ok (some (h', mem))) :
    WFS { s with h := h' } ∧ AllocFacts s.h.ents h'.ents nb mem := by
  unfold tmalloc_large at hh
  msimp at hh
  obtain ⟨⟨v, rsize⟩, hs, hh⟩ := hh
  dsimp only at hh
  split at hh
  · msimp at hh; cases hh
  · rename_i vc
    split at hh
    · msimp at hh; cases hh
    · msimp at hh
      obtain ⟨e, he, _, hsz, h1, e1, hh⟩ := hh
      simp only [ne_eq, decide_eq_false_iff_not, Decidable.not_not] at hsz
      have u := mn_unlinked_large w e1
      split at hh
      · -- `tlarge-exhaust`
        msimp at hh
        obtain ⟨h2, e2, hh⟩ := hh
        injection hh with hh
        simp only [Prod.mk.injEq] at hh
        obtain ⟨hh1, hh2⟩ := hh
        subst hh1; subst hh2
        obtain ⟨r1, r2⟩ := mn_exhaust_wfs w u (getE_spec he) hsz e2 (nb := nb) (by omega) "tlarge-exhaust"
        exact ⟨r1, vc, by rw [MEM_OFFSET_eq], r2⟩
      · -- `tlarge-split`
        rename_i hge
        rw [MIN_CHUNK_SIZE_eq] at hge
        msimp at hh
        obtain ⟨h2, e2, h3, e3, h4, e4, hh⟩ := hh
        injection hh with hh
        simp only [Prod.mk.injEq] at hh
        obtain ⟨hh1, hh2⟩ := hh
        subst hh1; subst hh2
        have hxm := (findEnt_some (getE_spec he)).1
        obtain ⟨_, hes16, _⟩ := shapeOk_free w.shape hxm
          (isFree_iff.1 (by
            obtain ⟨⟨x, hfx, hxf⟩, _, _⟩ := w.binned_free ((u.perm.mem_iff).2 List.mem_cons_self)
            rw [getE_spec he] at hfx
            injection hfx with hfx
            subst hfx
            exact hxf)).1
        have m := mn_split_mid w u (getE_spec he) (by omega) hnb16 hnb32 (by omega) e2 e3
        obtain ⟨r1, r2⟩ := mn_split_ins_wfs w m (by omega) e4 "tlarge-split"
        exact ⟨r1, vc, by rw [MEM_OFFSET_eq], r2⟩

/-! ## the interface theorem -/

/-- **`malloc_nosys` preserves `SInv`** and hands out a fresh user chunk of at least `nbOf size` bytes
(`malloc_nosys_Spec`, `Proofs/DlIndSpec.lean`), for all ten outcomes: `small-bin`, `small-next-exhaust`,
`small-next-split`, `tsmall-exhaust`, `tsmall-split`, `tlarge-exhaust`, `tlarge-split`, `dv-split`,
`dv-exhaust`, `top-split`. -/
theorem mn_malloc_nosys_spec : malloc_nosys_Spec := by
  intro s hi size h' mem hh
  have w := hi.wfs
  by_cases hs : size ≤ MAX_SMALL_REQUEST
  · have hs' := hs
    rw [MAX_SMALL_REQUEST_eq] at hs'
    have hnb32 := request2size_ge_min size (by omega)
    have hnb16 := request2size_aligned size (by omega)
    have hnbof : nbOf size = request2size size := by unfold nbOf; rw [if_pos hs]
    by_cases hbits : (smallmap s.h >>> small_index (request2size size)) &&& 3 ≠ 0
    · exact gl_malloc_nosys_small_bin_sinv hi hs hbits hh
    · rw [hnbof]
      unfold malloc_nosys at hh
      dsimp only at hh
      rw [if_pos hs, if_neg hbits] at hh
      by_cases hdv : request2size size > s.h.dvsize
      · rw [if_pos hdv] at hh
        by_cases hsb : smallmap s.h >>> small_index (request2size size) ≠ 0
        · -- the next non-empty small bin
          rw [if_pos hsb] at hh
          msimp at hh
          obtain ⟨⟨h1, p⟩, e1, _, hlt, hh⟩ := hh
          simp only [decide_eq_false_iff_not, Nat.not_lt] at hlt
          split at hh
          · -- `small-next-exhaust`
            msimp at hh
            obtain ⟨h2, e2, hh⟩ := hh
            injection hh with hh1 hh2
            subst hh1; subst hh2
            obtain ⟨w', r2⟩ := mn_small_next_exhaust_wfs w e1 hlt e2 "small-next-exhaust"
            exact gl_sinv_alloc hi w' ⟨p, by rw [MEM_OFFSET_eq], r2⟩ (by omega)
          · -- `small-next-split`
            rename_i hge
            rw [MIN_CHUNK_SIZE_eq] at hge
            msimp at hh
            obtain ⟨h2, e2, h3, e3, h4, e4, hh⟩ := hh
            injection hh with hh1 hh2
            subst hh1; subst hh2
            obtain ⟨w', r2⟩ := mn_small_next_split_wfs w e1 hnb16 hnb32 hlt (by omega) e2 e3 e4 "small-next-split"
            exact gl_sinv_alloc hi w' ⟨p, by rw [MEM_OFFSET_eq], r2⟩ (by omega)
        · rw [if_neg hsb] at hh
          split at hh
          · -- `tmalloc_small`
            msimp at hh
            obtain ⟨⟨h1, m1⟩, ht, hh⟩ := hh
            injection hh with hh1 hh2
            subst hh1; subst hh2
            obtain ⟨w', hf⟩ := mn_tmalloc_small_wfs w hnb16 hnb32 ht
            exact gl_sinv_alloc hi w' hf (by omega)
          · exact gl_malloc_dv_top_sinv hi hnb16 hnb32 hh
      · rw [if_neg hdv] at hh
        exact gl_malloc_dv_top_sinv hi hnb16 hnb32 hh
  · have hnbof : nbOf size = pad_request size := by unfold nbOf; rw [if_neg hs]
    rw [hnbof]
    unfold malloc_nosys at hh
    dsimp only at hh
    rw [if_neg hs] at hh
    split at hh
    · msimp at hh; cases hh
    · rename_i hmax
      have hs' := hs
      rw [MAX_SMALL_REQUEST_eq] at hs'
      have hlt := MAX_REQUEST_lt
      rw [MAX_REQUEST_eq] at hmax
      have hsz : size + 24 ≤ 2 ^ 64 := by omega
      have hnb16 := pad_request_aligned size hsz
      have hnb32 : 32 ≤ pad_request size := by have := pad_request_ge size hsz; omega
      split at hh
      · msimp at hh
        obtain ⟨r, hr, hh⟩ := hh
        split at hh
        · -- `tmalloc_large` found a chunk
          rename_i h1 m1
          msimp at hh
          injection hh with hh1 hh2
          subst hh1; subst hh2
          obtain ⟨w', hf⟩ := mn_tmalloc_large_wfs w hnb16 hnb32 hr
          exact gl_sinv_alloc hi w' hf (by omega)
        · exact gl_malloc_dv_top_sinv hi hnb16 hnb32 hh
      · exact gl_malloc_dv_top_sinv hi hnb16 hnb32 hh

/-! ## non-vacuity: reachable states satisfying `Inv` on which each of the six branches of this file and of
`Proofs/DlIndMalloc.lean` is taken -/

/-- `malloc_nosys h size` succeeds with a chunk and its last branch tag is `tag` -/
def mn_branchIs (h : Heap) (size : Nat) (tag : String) : Bool :=
  match malloc_nosys h size with
  | .ok (.done h' _) => h'.tr.getLast? == some tag
  | _ => false

def mn_stateOf (ops : List (Op × List OsDir)) : Hist := match Hist.init.run ops with
  | .ok (hs, _) => hs
  | .error _ => Hist.init

/-- one segment; a freed 1008-byte chunk sits in tree bin 3 -/
def mn_ops1 : List (Op × List OsDir) :=
  [(.malloc 1 1000 8, [.m (some 1048576)]), (.malloc 2 100 8, []), (.free 1, [])]

/-- one segment; a freed 256-byte chunk sits in tree bin 0 -/
def mn_ops2 : List (Op × List OsDir) :=
  [(.malloc 1 240 8, [.m (some 1048576)]), (.malloc 2 100 8, []), (.free 1, [])]

/-- two segments (fenceposts and a record chunk in the first one), `dv` used up, a 112-byte chunk in small bin 14 -/
def mn_ops3 : List (Op × List OsDir) := glOps ++ [(.malloc 4 65216 8, [])]

/-- two segments; the rest of the first segment (65344 bytes, ending at the record chunk) sits in a tree bin -/
def mn_ops4 : List (Op × List OsDir) :=
  [(.malloc 1 100 8, [.m (some 1048576)]), (.malloc 2 100000 8, [.m (some 4194304)])]

set_option maxRecDepth 40000 in
example : Inv (mn_stateOf mn_ops1) ∧ mn_branchIs (mn_stateOf mn_ops1).st.h 100 "tsmall-split" = true ∧
    mn_branchIs (mn_stateOf mn_ops1).st.h 500 "tlarge-split" = true ∧
    mn_branchIs (mn_stateOf mn_ops1).st.h 990 "tlarge-exhaust" = true :=
  ⟨fr_inv_of_check (by decide +kernel), by decide +kernel⟩

set_option maxRecDepth 40000 in
example : Inv (mn_stateOf mn_ops2) ∧ mn_branchIs (mn_stateOf mn_ops2).st.h 232 "tsmall-exhaust" = true :=
  ⟨fr_inv_of_check (by decide +kernel), by decide +kernel⟩

set_option maxRecDepth 40000 in
example : Inv (mn_stateOf mn_ops3) ∧ (mn_stateOf mn_ops3).st.segs.length = 2 ∧
    mn_branchIs (mn_stateOf mn_ops3).st.h 8 "small-next-split" = true ∧
    mn_branchIs (mn_stateOf mn_ops3).st.h 85 "small-next-exhaust" = true :=
  ⟨fr_inv_of_check (by decide +kernel), by decide +kernel⟩

set_option maxRecDepth 40000 in
example : Inv (mn_stateOf mn_ops4) ∧ (mn_stateOf mn_ops4).st.segs.length = 2 ∧
    mn_branchIs (mn_stateOf mn_ops4).st.h 100 "tsmall-split" = true ∧
    mn_branchIs (mn_stateOf mn_ops4).st.h 500 "tlarge-split" = true ∧
    mn_branchIs (mn_stateOf mn_ops4).st.h 65320 "tlarge-exhaust" = true :=
  ⟨fr_inv_of_check (by decide +kernel), by decide +kernel⟩

end TinyVerif.Dl
