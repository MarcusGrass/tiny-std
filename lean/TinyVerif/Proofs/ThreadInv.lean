import TinyVerif.Model.Thread
namespace TinyVerif.Thread

/-! ## what each party's program counter says about the ledger -/

/-- T is past its dealings with the flag (won the CAS, or lost it and freed the block) -/
def tPastFlag (p : Bool) (t : TPc) : Bool :=
  match t with
  | .notStarted => false
  | .run => false
  | .write _ => false
  | .pRead => false
  | .cas => false
  | .setTid => false
  | .dropVal => false
  | .freeTsm => false
  | .freeTls => !p
  | .freeBox => !p
  | .munmap => true
  | .exit => true
  | .dead => true

/-- T has released its thread-local block -/
def tFreedTls (p : Bool) (t : TPc) : Bool :=
  match t with
  | .notStarted => false
  | .run => false
  | .write _ => false
  | .pRead => false
  | .cas => p
  | .setTid => p
  | .dropVal => false
  | .freeTsm => p
  | .freeTls => false
  | .freeBox => true
  | .munmap => true
  | .exit => true
  | .dead => true

def tFreedStack (t : TPc) : Bool :=
  match t with
  | .notStarted => false
  | .run => false
  | .write _ => false
  | .pRead => false
  | .cas => false
  | .setTid => false
  | .dropVal => false
  | .freeTsm => false
  | .freeTls => false
  | .freeBox => false
  | .munmap => false
  | .exit => true
  | .dead => true

def tFreedBox (p : Bool) (t : TPc) : Bool :=
  match t with
  | .notStarted => false
  | .run => false
  | .write _ => false
  | .pRead => false
  | .cas => false
  | .setTid => false
  | .dropVal => false
  | .freeTsm => false
  | .freeTls => false
  | .freeBox => false
  | .munmap => !p
  | .exit => !p
  | .dead => !p

/-- T lost the CAS and has not freed the block yet -/
def tLost (t : TPc) : Bool :=
  match t with
  | .notStarted => false
  | .run => false
  | .write _ => false
  | .pRead => false
  | .cas => false
  | .setTid => true
  | .dropVal => true
  | .freeTsm => true
  | .freeTls => false
  | .freeBox => false
  | .munmap => false
  | .exit => false
  | .dead => false

/-- the closure body has been entered -/
def tRan (t : TPc) : Bool :=
  match t with
  | .notStarted => false
  | .run => false
  | .write _ => true
  | .pRead => true
  | .cas => true
  | .setTid => true
  | .dropVal => true
  | .freeTsm => true
  | .freeTls => true
  | .freeBox => true
  | .munmap => true
  | .exit => true
  | .dead => true

/-- T is past the write of the result slot (or in the panic handler) -/
def tPastWrite (t : TPc) : Bool :=
  match t with
  | .notStarted => false
  | .run => false
  | .write _ => false
  | .pRead => true
  | .cas => true
  | .setTid => true
  | .dropVal => true
  | .freeTsm => true
  | .freeTls => true
  | .freeBox => true
  | .munmap => true
  | .exit => true
  | .dead => true

/-- which pcs belong to the returning path / the panic path -/
def tOkP (p : Bool) (t : TPc) : Bool :=
  match t with
  | .notStarted => !p
  | .run => !p
  | .write _ => !p
  | .pRead => p
  | .dropVal => !p
  | .freeBox => !p
  | _ => true

def isParked (h : HPc) : Bool :=
  match h with
  | .wParked _ => true
  | .fresh | .sp1 | .sp2 | .sp3 | .sp4 | .uTls | .uStack | .uBox _ | .uTsm _ | .failed _ | .handle | .wLoad _ | .wSys _
  | .jRead | .jFree | .joined | .dCas | .dFree | .detached | .dropped => false

def hFreedTsm (h : HPc) : Bool :=
  match h with
  | .fresh => false
  | .sp1 => false
  | .sp2 => false
  | .sp3 => false
  | .sp4 => false
  | .uTls => false
  | .uStack => false
  | .uBox _ => false
  | .uTsm _ => false
  | .failed _ => true
  | .handle => false
  | .wLoad _ => false
  | .wSys _ => false
  | .wParked _ => false
  | .jRead => false
  | .jFree => false
  | .joined => true
  | .dCas => false
  | .dFree => false
  | .detached => false
  | .dropped => true

/-- H lost the drop CAS -/
def hLostPath (h : HPc) : Bool :=
  match h with
  | .fresh => false
  | .sp1 => false
  | .sp2 => false
  | .sp3 => false
  | .sp4 => false
  | .uTls => false
  | .uStack => false
  | .uBox _ => false
  | .uTsm _ => false
  | .failed _ => false
  | .handle => false
  | .wLoad b => !b
  | .wSys b => !b
  | .wParked b => !b
  | .jRead => false
  | .jFree => false
  | .joined => false
  | .dCas => false
  | .dFree => true
  | .detached => false
  | .dropped => true

/-- H has returned from futex_wait_fast -/
def hAfterWait (h : HPc) : Bool :=
  match h with
  | .fresh => false
  | .sp1 => false
  | .sp2 => false
  | .sp3 => false
  | .sp4 => false
  | .uTls => false
  | .uStack => false
  | .uBox _ => false
  | .uTsm _ => false
  | .failed _ => false
  | .handle => false
  | .wLoad _ => false
  | .wSys _ => false
  | .wParked _ => false
  | .jRead => true
  | .jFree => true
  | .joined => true
  | .dCas => false
  | .dFree => true
  | .detached => false
  | .dropped => true

def hReadDone (h : HPc) : Bool :=
  match h with
  | .fresh => false
  | .sp1 => false
  | .sp2 => false
  | .sp3 => false
  | .sp4 => false
  | .uTls => false
  | .uStack => false
  | .uBox _ => false
  | .uTsm _ => false
  | .failed _ => false
  | .handle => false
  | .wLoad _ => false
  | .wSys _ => false
  | .wParked _ => false
  | .jRead => false
  | .jFree => true
  | .joined => true
  | .dCas => false
  | .dFree => false
  | .detached => false
  | .dropped => false

def tlsH (h : HPc) : RSt :=
  match h with
  | .fresh => .unalloc
  | .sp1 => .unalloc
  | .sp2 => .unalloc
  | .sp3 => .unalloc
  | .sp4 => .live
  | .uTls => .live
  | .uStack => .freed
  | .uBox b => if b then .freed else .unalloc
  | .uTsm b => if b then .freed else .unalloc
  | .failed b => if b then .freed else .unalloc
  | .handle => .unalloc
  | .wLoad _ => .unalloc
  | .wSys _ => .unalloc
  | .wParked _ => .unalloc
  | .jRead => .unalloc
  | .jFree => .unalloc
  | .joined => .unalloc
  | .dCas => .unalloc
  | .dFree => .unalloc
  | .detached => .unalloc
  | .dropped => .unalloc

def stackH (h : HPc) : RSt :=
  match h with
  | .fresh => .unalloc
  | .sp1 => .unalloc
  | .sp2 => .unalloc
  | .sp3 => .live
  | .sp4 => .live
  | .uTls => .live
  | .uStack => .live
  | .uBox b => if b then .freed else .unalloc
  | .uTsm b => if b then .freed else .unalloc
  | .failed b => if b then .freed else .unalloc
  | .handle => .unalloc
  | .wLoad _ => .unalloc
  | .wSys _ => .unalloc
  | .wParked _ => .unalloc
  | .jRead => .unalloc
  | .jFree => .unalloc
  | .joined => .unalloc
  | .dCas => .unalloc
  | .dFree => .unalloc
  | .detached => .unalloc
  | .dropped => .unalloc

def boxH (h : HPc) : RSt :=
  match h with
  | .fresh => .unalloc
  | .sp1 => .unalloc
  | .sp2 => .live
  | .sp3 => .live
  | .sp4 => .live
  | .uTls => .live
  | .uStack => .live
  | .uBox _ => .live
  | .uTsm _ => .freed
  | .failed _ => .freed
  | .handle => .live
  | .wLoad _ => .live
  | .wSys _ => .live
  | .wParked _ => .live
  | .jRead => .live
  | .jFree => .live
  | .joined => .live
  | .dCas => .live
  | .dFree => .live
  | .detached => .live
  | .dropped => .live

def tlsOf (x : Inst) : RSt :=
  if spawnedOk x.h then (if tFreedTls x.panicked x.t then .freed else .live) else tlsH x.h
def stackOf (x : Inst) : RSt :=
  if spawnedOk x.h then (if tFreedStack x.t then .freed else .live) else stackH x.h
def boxOf (x : Inst) : RSt :=
  if spawnedOk x.h then (if tFreedBox x.panicked x.t then .freed else .live) else boxH x.h
def tsmOf (x : Inst) : RSt :=
  if x.h = .fresh then .unalloc
  else if hFreedTsm x.h ∨ (x.winner = some .H ∧ tPastFlag x.panicked x.t = true) then .freed else .live

/-- T (having lost the CAS) is past the drop of the unread result -/
def tDropped (p : Bool) (t : TPc) : Bool :=
  match t with
  | .freeTsm => true
  | _ => tPastFlag p t

def valOf (x : Inst) : RSt :=
  if (x.panicked = true ∧ x.dpanic = false) ∨ tRan x.t = false then .unalloc
  else if x.dpanic = true ∨ hReadDone x.h = true ∨ x.h = .dropped ∨ (x.winner = some .H ∧ tDropped x.panicked x.t = true) then .freed else .live

def cnt (r : RSt) : Nat := if r = .freed then 1 else 0

/-- the inductive invariant of one instance (for the repaired code and the stated environment: `Cfg.Good`) -/
structure IInv (x : Inst) : Prop where
  started : x.t = .notStarted ↔ spawnedOk x.h = false
  tlsEq : x.tls = tlsOf x
  stackEq : x.stack = stackOf x
  boxEq : x.box = boxOf x
  tsmEq : x.tsm = tsmOf x
  valEq : x.val = valOf x
  tlsC : x.tlsFrees = cnt x.tls
  stackC : x.stackFrees = cnt x.stack
  boxC : x.boxFrees = cnt x.box
  tsmC : x.tsmFrees = cnt x.tsm
  nbad : x.bad = false
  nrace : x.raced = false
  wH : x.winner = some .H ↔ x.h = .detached
  wT : x.winner = some .T → tPastFlag x.panicked x.t = true
  flagT : x.flag = true → x.winner = some .H ∨ x.winner = some .T
  flagF : x.flag = false → x.winner = none
  lost : tLost x.t = true → x.winner = some .H
  pastW : tPastFlag x.panicked x.t = true → x.flag = true
  pOK : tOkP x.panicked x.t = true
  dpath : hLostPath x.h = true → x.winner = some .T
  aw : hAfterWait x.h = true → x.kdone = true ∧ x.hsees = true
  kd : x.kdone = true → x.t = .dead
  wordI : x.h ≠ .fresh → (x.word = 1 ∧ (x.kdone = false ∨ x.ctid = false)) ∨ (x.word = 0 ∧ x.kdone = true ∧ x.ctid = true)
  ctidW : x.t ≠ .notStarted → x.ctid = false → x.winner = some .H
  parkedI : isParked x.h = true → x.kdone = false
  ctidI : (x.t = .freeTsm ∨ x.t = .dropVal ∨ (x.winner = some .H ∧ tPastFlag x.panicked x.t = true)) → x.ctid = false
  runsI : x.runs = b2n (tRan x.t)
  ret0 : tRan x.t = false → x.ret = none ∧ x.panicked = false
  ret1 : ∀ v, x.t = .write v → x.ret = some (some v) ∧ x.panicked = false
  ret2 : tPastWrite x.t = true → x.ret = some x.slot ∧ ((x.panicked = true ∧ x.dpanic = false) ↔ x.slot = none)
  dpI : x.dpanic = true → x.panicked = true ∧ x.winner = some .H ∧ tPastWrite x.t = true ∧ tRan x.t = true
  slot0 : tPastWrite x.t = false → x.slot = none
  joinI : x.joinRes = if hReadDone x.h then some x.slot else none

theorem init_inv : IInv Inst.init := by
  constructor <;> simp [Inst.init, spawnedOk, tlsOf, stackOf, boxOf, tsmOf, valOf, tlsH, stackH, boxH, cnt,
    tPastFlag, tLost, hLostPath, hAfterWait, tRan, b2n, tPastWrite, hReadDone, tOkP, isParked]


/-! relations between the H-side predicates (so that T's and K's steps never need a case split on H's pc) -/
theorem hFreed_cases (h : HPc) (hf : hFreedTsm h = true) : hAfterWait h = true ∨ spawnedOk h = false := by
  cases h <;> simp_all [hFreedTsm, hAfterWait, spawnedOk]
theorem hLost_spawned (h : HPc) (hf : hLostPath h = true) : spawnedOk h = true := by
  cases h <;> simp_all [hLostPath, spawnedOk]
theorem hAfter_spawned (h : HPc) (hf : hAfterWait h = true) : spawnedOk h = true := by
  cases h <;> simp_all [hAfterWait, spawnedOk]
theorem hRead_after (h : HPc) (hf : hReadDone h = true) : hAfterWait h = true := by
  cases h <;> simp_all [hAfterWait, hReadDone]

theorem isParked_cases (h : HPc) (hf : isParked h = true) : h = .wParked true ∨ h = .wParked false := by
  cases h <;> simp_all [isParked]

attribute [grind] touchTsm touchTls touchStack touchBox freeTsm freeTls freeStack freeBox notLive
     tlsOf stackOf boxOf tsmOf valOf takeVal cnt spawnedOk tlsH stackH boxH hFreedTsm hLostPath hAfterWait hReadDone
     tPastFlag tFreedTls tFreedStack tFreedBox tLost tRan tPastWrite b2n afterWait retTo afterFlag afterTid expectOf tOkP isParked tDropped
attribute [grind →] hFreed_cases hLost_spawned hAfter_spawned hRead_after isParked_cases

/-- `IInv` from its clauses in three groups: what the ledger says, the flag / exit hand-shake, the closure's result -/
theorem IInv.of_groups {x : Inst}
    (ledger : x.tls = tlsOf x ∧
      x.stack = stackOf x ∧
      x.box = boxOf x ∧
      x.tsm = tsmOf x ∧
      x.val = valOf x ∧
      x.tlsFrees = cnt x.tls ∧
      x.stackFrees = cnt x.stack ∧
      x.boxFrees = cnt x.box ∧
      x.tsmFrees = cnt x.tsm ∧
      x.bad = false ∧
      x.raced = false)
    (protocol : (x.t = .notStarted ↔ spawnedOk x.h = false) ∧
      (x.winner = some .H ↔ x.h = .detached) ∧
      (x.winner = some .T → tPastFlag x.panicked x.t = true) ∧
      (x.flag = true → x.winner = some .H ∨ x.winner = some .T) ∧
      (x.flag = false → x.winner = none) ∧
      (tLost x.t = true → x.winner = some .H) ∧
      (tPastFlag x.panicked x.t = true → x.flag = true) ∧
      tOkP x.panicked x.t = true ∧
      (hLostPath x.h = true → x.winner = some .T) ∧
      (hAfterWait x.h = true → x.kdone = true ∧ x.hsees = true) ∧
      (x.kdone = true → x.t = .dead) ∧
      (x.h ≠ .fresh → (x.word = 1 ∧ (x.kdone = false ∨ x.ctid = false)) ∨ (x.word = 0 ∧ x.kdone = true ∧ x.ctid = true)) ∧
      (x.t ≠ .notStarted → x.ctid = false → x.winner = some .H) ∧
      (isParked x.h = true → x.kdone = false) ∧
      ((x.t = .freeTsm ∨ x.t = .dropVal ∨ (x.winner = some .H ∧ tPastFlag x.panicked x.t = true)) → x.ctid = false))
    (result : x.runs = b2n (tRan x.t) ∧
      (tRan x.t = false → x.ret = none ∧ x.panicked = false) ∧
      (∀ v, x.t = .write v → x.ret = some (some v) ∧ x.panicked = false) ∧
      (tPastWrite x.t = true → x.ret = some x.slot ∧ ((x.panicked = true ∧ x.dpanic = false) ↔ x.slot = none)) ∧
      (x.dpanic = true → x.panicked = true ∧ x.winner = some .H ∧ tPastWrite x.t = true ∧ tRan x.t = true) ∧
      (tPastWrite x.t = false → x.slot = none) ∧
      (x.joinRes = if hReadDone x.h then some x.slot else none)) : IInv x := by
  obtain ⟨tlsEq, stackEq, boxEq, tsmEq, valEq, tlsC, stackC, boxC, tsmC, nbad, nrace⟩ := ledger
  obtain ⟨started, wH, wT, flagT, flagF, lost, pastW, pOK, dpath, aw, kd, wordI, ctidW, parkedI, ctidI⟩ := protocol
  obtain ⟨runsI, ret0, ret1, ret2, dpI, slot0, joinI⟩ := result
  exact ⟨started, tlsEq, stackEq, boxEq, tsmEq, valEq, tlsC, stackC, boxC, tsmC, nbad, nrace, wH, wT, flagT, flagF, lost, pastW, pOK, dpath, aw, kd, wordI, ctidW, parkedI, ctidI, runsI, ret0, ret1, ret2, dpI, slot0, joinI⟩

/-- `takeVal` as one record update, so that projections of the new state compute -/
theorem takeVal_eq (x : Inst) : takeVal x =
    { x with bad := x.bad || (x.slot.isSome && notLive x.val), val := if x.slot = none then x.val else .freed } := by
  unfold takeVal
  split
  · next h => cases x; simp_all
  · next h => simp [Option.isSome_iff_ne_none.2 h]

set_option hygiene false in
/-- One event of `stepI` preserves `IInv` (hypotheses `hc`, `h`, `hinv` of the `inv_*` lemmas): unfold the event, drop the
disabled branches, write the new state as one record, and leave the clauses to `grind`, one call per group of
`IInv.of_groups`: the clauses of a group share their case analysis on the program counters, while all clauses at once
need more case splits along one path than `grind` makes. -/
macro "inv_event" : tactic => `(tactic| (
  simp only [stepI] at h
  repeat' split at h
  all_goals first | (simp at h; done) | skip
  all_goals (simp only [Option.some.injEq] at h; subst h)
  all_goals (try simp only [takeVal_eq, touchTsm, touchTls, touchStack, touchBox, freeTsm, freeTls, freeStack, freeBox])
  all_goals (
    obtain ⟨c1, c2, c3, c4, c5, c6, c7, c8, c9, c10⟩ := hc
    obtain ⟨started, tlsEq, stackEq, boxEq, tsmEq, valEq, tlsC, stackC, boxC, tsmC, nbad, nrace, wH, wT, flagT, flagF, lost, pastW, pOK, dpath, aw, kd,
      wordI, ctidW, parkedI, ctidI, runsI, ret0, ret1, ret2, dpI, slot0, joinI⟩ := hinv
    apply IInv.of_groups
    · grind
    -- the protocol and result clauses do not read the ledger
    · clear tlsEq stackEq boxEq tsmEq valEq tlsC stackC boxC tsmC
      grind
    · clear tlsEq stackEq boxEq tsmEq valEq tlsC stackC boxC tsmC
      grind)))

end TinyVerif.Thread
