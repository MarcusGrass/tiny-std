import TinyVerif.Proofs.DlIndSeg
import TinyVerif.Proofs.DlIndFree2
/-!
# The functions that change the segment list / talk to the OS (tag `sg_`)

`sg_sys_alloc_spec : sys_alloc_Spec` (the mmap contract `OsOk` includes page alignment: `segsOk` of a new
segment needs it), `sg_release_unused_segments_spec`, `sg_sys_trim_spec` of `DlIndSpec.lean`.

Branches: `sg_place_init` (`sys-init`), `sg_extend` (`sys-extend`), `sg_add_segment` (`sys-addseg`, both
`addseg-oldtop-binned` and `-consumed`), `sg_prepend_spec` (`sys-prepend`: the extended segment with a fictitious
in-use remainder `Q` — `sg_prepend_mid` — followed by freeing `Q`, which is `fr_core` of `DlIndFree2.lean`; `SgAbs`
relates the real heap to the one containing `Q`), `sg_top_split` (common tail), `sg_trim_top`, `sg_releaseLoop`.
Non-vacuity examples for every branch and the kernel-checked reason for `TailOk` (`sg_tailOk_needed`) at the end.
-/
namespace TinyVerif.Dl

/-- the size of the mapping: a multiple of the granularity with room for the request, the foot and alignment -/
theorem sg_sysLen {nb : Nat} (hnb : NbOk nb) : sysLen nb % 65536 = 0 ∧ nb + 96 ≤ sysLen nb ∧ sysLen nb < nb + 96 + 65536 := by
  obtain ⟨_, _, h3⟩ := hnb
  unfold sysLen
  rw [top_foot_size_eq, MALLOC_ALIGNMENT_eq, DEFAULT_GRANULARITY_eq, align_up_64k _ (by omega)]
  omega

/-! ## `sys-init`: first initialisation -/

/-- a state whose `top` is null has no segment, no header, nothing free -/
theorem sg_empty_of_top0 {s : St} (w : WFS s) (ht : s.h.top = 0) :
    s.segs = [] ∧ s.h.ents = [] ∧ s.h.dv = 0 ∧ s.h.dvsize = 0 ∧ binned s.h = [] := by
  have htop := w.top
  unfold topOk at htop
  cases hs : s.segs with
  | cons g rest =>
    rw [hs] at htop
    simp only [Bool.and_eq_true, decide_eq_true_eq] at htop
    exact absurd ht htop.1.1.1.1.1.1
  | nil =>
    rw [hs] at htop
    simp only [Bool.and_eq_true, decide_eq_true_eq, List.isEmpty_iff] at htop
    have hents : s.h.ents = [] := htop.1.1.2
    have hfl := ((freeListOk_iff s.h).1 w.freeList).2.2
    rw [hents] at hfl
    have hnil : Dl.freeList s.h = [] := by
      cases hl : Dl.freeList s.h with
      | nil => rfl
      | cons a l =>
        have := hfl a (by rw [hl]; exact List.mem_cons_self)
        simp [isFreeAt, findEnt] at this
    unfold Dl.freeList at hnil
    rw [if_pos ht] at hnil
    simp only [List.nil_append, List.append_eq_nil_iff] at hnil
    have hdv : s.h.dv = 0 := by
      by_cases h0 : s.h.dv = 0
      · exact h0
      · rw [if_neg h0] at hnil; exact absurd hnil.1 (by simp)
    have hd := w.dv
    unfold dvOk at hd
    rw [if_pos hdv] at hd
    exact ⟨rfl, hents, hdv, by simpa using hd, hnil.2⟩

/-- the state after the first `init_top`: one segment, `top` filling it, the foot word -/
theorem sg_init_sinv {s s3 : St} (w : WFS s) (hbin : binned s.h = []) (hdv0 : s.h.dv = 0) {tbase tsize : Nat}
    (hf : SgFresh s tbase tsize) (hts2 : 96 ≤ tsize) {X F : Ent} (P : SgTopPair X F tbase (tsize - 80))
    (hok3 : entsOk s3.h.ents = true) (hmem : ∀ z, z ∈ s3.h.ents ↔ z = X ∨ z = F)
    (hH : HeapIs s3.h s3.h.ents s.h.sbins s.h.tbins s.h.dv s.h.dvsize tbase (tsize - 80))
    (hsegs : s3.segs = [{ base := tbase, size := tsize, recAt := 0 }]) (hla : s3.least_addr ≤ tbase) :
    SInv s3 := by
  obtain ⟨_, hpos, hend, _⟩ := hf.fresh
  have hX := (hmem X).2 (Or.inl rfl)
  have hF := (hmem F).2 (Or.inr rfl)
  refine SInv.of_segs hok3 ?_ ?_ ?_ ?_ ?_ ?_ ?_ ?_
  · have hpage := hf.page; have hgran := hf.gran
    refine sg_shapeOk_of_mem (l := []) (fun z hz => Or.inr ?_) rfl (P.shape (by omega) (by omega) (by omega))
    simpa using (hmem z).1 hz
  · intro z hz
    have := P.xa; have := P.fa
    refine ⟨_, by rw [hsegs]; exact List.mem_cons_self, ?_⟩
    rcases (hmem z).1 hz with rfl | rfl <;> (rw [inSeg_iff]; simp only; omega)
  · intro g hg
    rw [hsegs, List.mem_singleton] at hg
    subst hg
    rw [hH.top]
    exact sg_newseg P hts2 hok3 hX hF fun z hz _ => (hmem z).1 hz
  · have hfl : Dl.freeList s3.h = [tbase] := by
      unfold Dl.freeList
      rw [binned_congr hH.sbins hH.tbins, hbin, hH.top, hH.dv, hdv0, if_neg (by omega)]; rfl
    refine (freeListOk_iff_set hok3).2 ⟨by rw [hfl]; simp, fun a => ?_⟩
    rw [hfl, mem_freeSet, List.mem_singleton]
    constructor
    · rintro rfl; exact ⟨X, hX, P.xfree, P.xa⟩
    · rintro ⟨e, he, hfe, hea⟩
      rcases (hmem e).1 he with rfl | rfl
      · rw [← hea, P.xa]
      · rw [P.ffree] at hfe; cases hfe
  · refine sg_bins_frame hH.sbins hH.tbins hH.dv hH.dvsize (fun a ha => ?_) w.sbins w.tbins w.dv
    rcases ha with ha | ⟨h0, _⟩
    · rw [hbin] at ha; cases ha
    · exact absurd hdv0 h0
  · exact sg_topOk_of hsegs hok3 hX hF (by rw [hH.top, hH.topsize]; exact P) (by rw [hH.top]; omega)
      (by rw [hH.topsize]; omega) (by rw [hH.top]; exact Nat.le_refl _) (by rw [hH.top, hH.topsize]; simp only; omega) rfl
  · refine sg_segsOk_of hsegs (fun _ h => by cases h) rfl fun g hg => ?_
    rw [List.mem_singleton] at hg
    subst hg
    have := hf.page; have := hf.gran
    simp only; omega
  · intro a _ b hb h8 _
    have := P.xs; have := P.fs
    rcases (hmem b).1 hb with rfl | rfl <;> omega

/-- the state `sys_alloc_place` runs on: `s` after `popM` and the footprint update -/
def SgPlace (s s0 : St) : Prop :=
  ∃ q ev fp mf, s0 = { s with osq := q, evs := ev, footprint := fp, maxfp := mf }

theorem sg_place_init {s s0 : St} (hi : SInv s) (hp : SgPlace s s0) {tbase tsize nb : Nat} (hf : SgFresh s tbase tsize)
    (hsz : 96 ≤ tsize) (ht0 : s.h.top = 0) {r : Sum St (St × Nat)}
    (h : sys_alloc_place s0 tbase tsize nb = .ok r) : ∃ s1, r = .inl s1 ∧ SInv s1 ∧ SameUsers s s1 := by
  obtain ⟨q0, ev0, fp0, mf0, rfl⟩ := hp
  obtain ⟨hnil, hents, hdv, hdvs, hbin⟩ := sg_empty_of_top0 hi.wfs ht0
  unfold sys_alloc_place at h
  dsimp only at h
  rw [if_pos (by exact ht0)] at h
  simp only [top_foot_size_eq] at h
  msimp at h
  obtain ⟨_, _, _, _, s3, hinit, hr⟩ := h
  subst hr
  obtain ⟨hs3, hh3, hok3, hm3⟩ := sg_init_top_fresh hinit (by have := hf.page; omega) (by have := hf.fresh.2.2.1; omega)
    (by show entsOk s.h.ents = true; rw [hents]; rfl) (by omega) (by intro y hy; rw [show _ = s.h.ents from rfl, hents] at hy; cases hy)
  have hm3' : ∀ z, z ∈ s3.h.ents ↔ z = { addr := tbase, size := tsize - 80, cin := false, pin := true, pfoot := 0 } ∨
      z = { addr := tbase + (tsize - 80), size := 80, cin := false, pin := false, pfoot := 0 } := fun z => by
    rw [hm3 z, show ({ s with osq := q0 } : St).h.ents = s.h.ents from rfl, hents]; simp
  refine ⟨_, rfl, ?_, fun a z => ⟨?_, ?_⟩⟩
  · refine sg_sinv_tag (sg_init_sinv hi.wfs hbin hdv hf hsz ⟨rfl, rfl, rfl, rfl, rfl, rfl, rfl, rfl⟩ hok3 hm3' ?_ (by rw [hs3]) ?_) _
    · rw [hh3]; exact ⟨rfl, rfl, rfl, rfl, rfl, rfl, rfl⟩
    · rw [hs3]
      show (if _ then _ else _) ≤ tbase
      split
      · omega
      · rename_i hc
        simp only [Bool.or_eq_true, decide_eq_true_eq, not_or, Nat.not_lt] at hc
        exact hc.2
  · rintro ⟨e, he, hc, _⟩
    rcases (hm3' e).1 (findEnt_some he).1 with rfl | rfl <;> cases hc
  · rintro ⟨e, he, _⟩
    rw [hents] at he
    cases he

/-- what a branch of `sys_alloc_place` must deliver -/
def SgPlaceRes (s : St) (nb : Nat) : Sum St (St × Nat) → Prop
  | .inl s1 => SInv s1 ∧ SameUsers s s1
  | .inr (s', mem) => SInv s' ∧ mem ≠ 0 ∧ Alloc s s' nb mem

/-- interface of the middle of `sys_alloc` (all four branches) -/
def sg_place_Spec : Prop :=
  ∀ {s s0 : St} (_ : SInv s) (_ : SgPlace s s0) {tbase tsize nb : Nat} (_ : SgFresh s tbase tsize) (_ : NbOk nb)
    (_ : nb + 96 ≤ tsize) {r : Sum St (St × Nat)}, sys_alloc_place s0 tbase tsize nb = .ok r → SgPlaceRes s nb r

/-- `sys_alloc` from its middle part: the OS call, the footprint update, the common tail -/
theorem sg_sys_alloc_of_place (hpl : sg_place_Spec) : sys_alloc_Spec := by
  intro s s' hi nb mem hnb hos h
  unfold sys_alloc at h
  dsimp only at h
  msimp at h
  obtain ⟨⟨res, s1⟩, hp, h⟩ := h
  obtain ⟨q, hq, hs1⟩ := popM_spec hp
  dsimp only at h
  split at h
  · -- the OS refused
    msimp at h
    simp only [Prod.mk.injEq] at h
    obtain ⟨h, hm⟩ := h
    subst h; subst hs1; subst hm
    exact ⟨sg_sinv_same hi ⟨rfl, rfl, rfl, rfl, rfl, rfl, rfl⟩ rfl rfl (fun _ => rfl), fun h => absurd rfl h,
      fun _ => sg_sameUsers_of_eq rfl rfl⟩
  · rename_i tbase
    obtain ⟨hfresh, hpage⟩ := hos tbase q hq
    obtain ⟨l1, l2, _⟩ := sg_sysLen hnb
    msimp at h
    obtain ⟨r, hr, h⟩ := h
    subst hs1
    have hres : SgPlaceRes s nb r := by
      refine hpl hi ?_ ?_ hnb ?_ hr
      · exact ⟨_, _, _, _, rfl⟩
      · exact ⟨hfresh, hpage, l1⟩
      · exact l2
    cases r with
    | inr r =>
      obtain ⟨s2, m2⟩ := r
      dsimp only at h
      msimp at h
      simp only [Prod.mk.injEq] at h
      obtain ⟨e1, e2⟩ := h
      subst e1; subst e2
      obtain ⟨r1, r2, r3⟩ := hres
      exact ⟨r1, fun _ => r3, fun h0 => absurd h0 r2⟩
    | inl s2 =>
      obtain ⟨r1, r2⟩ := hres
      dsimp only at h
      split at h
      · rename_i hlt
        msimp at h
        obtain ⟨h1, e1, h2, e2, h⟩ := h
        simp only [Prod.mk.injEq] at h
        obtain ⟨e3, e4⟩ := h
        subst e3; subst e4
        obtain ⟨t1, t2⟩ := sg_top_split r1 hnb.1 hnb.2.1 hlt e1 e2
        rw [MEM_OFFSET_eq]
        exact ⟨t1, fun _ => sg_alloc_of_same r2 t2, fun h0 => by omega⟩
      · msimp at h
        simp only [Prod.mk.injEq] at h
        obtain ⟨e3, e4⟩ := h
        subst e3; subst e4
        exact ⟨sg_sinv_tag r1 _, fun h0 => absurd rfl h0, fun _ => sg_sameUsers_trans r2 (sg_sameUsers_tag _ _)⟩

theorem sg_replaceSeg_head (g new : Seg) (rest : List Seg) : replaceSeg (g :: rest) g new = new :: rest := by
  simp [replaceSeg]

/-- `sys-extend`: the fresh mapping starts where the segment holding `top` ends -/
theorem sg_extend {s : St} (hi : SInv s) {tbase tsize : Nat} (hf : SgFresh s tbase tsize)
    (hsz : 96 ≤ tsize) {sp : Seg} (hsp : sp ∈ s.segs) (hspt : sp.top = tbase) (hsph : sp.holds s.h.top = true)
    {q0 : List OsDir} {ev0 : List OsEv} {fp0 mf0 : Nat} {s3 : St}
    (hinit : init_top { s with osq := q0, evs := ev0, footprint := fp0, maxfp := mf0,
                               segs := replaceSeg s.segs sp { sp with size := sp.size + tsize } }
        s.h.top (s.h.topsize + tsize) = .ok s3) :
    SInv s3 ∧ SameUsers s s3 := by
  have w := hi.wfs
  obtain ⟨g0, rest, pre, x, f, post, T⟩ := w.sgTop (w.topsize_ne hsp)
  obtain ⟨d1, _, d3⟩ := sg_segsOk_cons w.segs T.segs
  obtain ⟨_, _, hend, hfr⟩ := hf.fresh
  have := T.holds w hsp hsph
  subst this
  unfold Seg.top at hspt
  rw [T.segs, sg_replaceSeg_head] at hinit
  have hfin := T.fin
  have hfresh := sg_fresh_ents w hfr
  have hpos := entsOk_pos w.ents
  have hlim : sp.base + sp.size ≤ 2 ^ 64 := (d3 sp List.mem_cons_self).2.2.2.2.2
  obtain ⟨X, F, P, hs3, hH, hok3, hmem3⟩ := sg_init_top_tab hinit (T.aligned w).1 (by omega) w.ents (by omega)
    (fun y hy hl => T.pair.xa ▸ entsOk_sep w.ents y hy x T.xm (T.pair.xa.symm ▸ hl))
  -- no old header starts in the fresh mapping
  have hconv : ∀ z, z ∈ s3.h.ents ↔ z = X ∨ z = F ∨ z ∈ pre ∨ z ∈ post := by
    intro z
    rw [hmem3 z, T.mem_out w]
    refine or_congr Iff.rfl (or_congr Iff.rfl (and_congr_right fun hz => or_congr Iff.rfl ⟨fun h => by omega, fun h => ?_⟩))
    have := hpos z hz
    rcases hfresh z hz with h' | h' <;> omega
  have hdisj : ∀ g ∈ rest, sp.base + (sp.size + tsize) ≤ g.base ∨ g.base + g.size ≤ sp.base := by
    intro g hg
    have := (d3 g (List.mem_cons_of_mem _ hg)).2.2.2.1
    rcases d1 g hg with h | h
    · rcases hfr g (T.restm hg) with h' | h' <;> omega
    · exact Or.inr h
  have hpost : ∀ q ∈ post, sp.base + (sp.size + tsize) ≤ q.addr := by
    intro q hq
    obtain ⟨hqm, hge⟩ := (T.mem_post w).1 hq
    have := hpos q hqm
    rcases hfresh q hqm with h' | h' <;> omega
  have hend' : s.h.top + (s.h.topsize + tsize) + 80 = sp.base + (sp.size + tsize) := by omega
  have hlim' : sp.base + (sp.size + tsize) ≤ 2 ^ 64 := by omega
  -- the alignment of the new `top` and of the new segment size
  obtain ⟨a3, a4, a5⟩ : (s.h.topsize + tsize) % 16 = 0 ∧ 16 ≤ s.h.topsize + tsize ∧ (sp.size + tsize) % 4096 = 0 := by
    have := T.aligned w; have := d3 sp List.mem_cons_self; have := hf.gran
    omega
  exact sg_retop hi T P hok3 hconv (by rw [hs3]) a3 a4 hend' a5 hlim' hdisj hpost hH (by rw [hs3])

/-! ## `trim_top`, `sys_trim` -/

/-- `trim_release` only talks to the OS; it reports `extra` or nothing -/
theorem sg_trim_release_eq {s s1 : St} {sp : Seg} {extra rel : Nat} (h : trim_release s sp extra = .ok (s1, rel)) :
    (∃ q ev, s1 = { s with osq := q, evs := ev }) ∧ (rel = extra ∨ rel = 0) := by
  unfold trim_release at h
  dsimp only at h
  split at h
  · msimp at h
    obtain ⟨⟨ok, s2⟩, hr, h⟩ := h
    obtain ⟨q, hq, hs2⟩ := popR_spec hr
    dsimp only at h
    split at h
    · msimp at h
      simp only [Prod.mk.injEq] at h
      obtain ⟨e1, e2⟩ := h
      subst e1; subst e2; subst hs2
      exact ⟨⟨_, _, rfl⟩, Or.inl rfl⟩
    · msimp at h
      obtain ⟨⟨ok2, s3⟩, hu, h⟩ := h
      obtain ⟨q2, hq2, hs3⟩ := popU_spec hu
      simp only [Prod.mk.injEq] at h
      obtain ⟨e1, e2⟩ := h
      subst e1; subst e2; subst hs3; subst hs2
      refine ⟨⟨_, _, rfl⟩, ?_⟩
      cases ok2
      · exact Or.inr rfl
      · exact Or.inl rfl
  · msimp at h
    simp only [Prod.mk.injEq] at h
    obtain ⟨e1, e2⟩ := h
    subst e1; subst e2
    exact ⟨⟨s.osq, s.evs, rfl⟩, Or.inr rfl⟩

/-- the amount `trim_top` tries to give back leaves more than `pad` bytes in `top` -/
theorem sg_trim_extra {topsize pad : Nat} (h : topsize > pad) :
    ((topsize - pad + DEFAULT_GRANULARITY - 1) / DEFAULT_GRANULARITY - 1) * DEFAULT_GRANULARITY + pad < topsize ∧
    (((topsize - pad + DEFAULT_GRANULARITY - 1) / DEFAULT_GRANULARITY - 1) * DEFAULT_GRANULARITY) % 65536 = 0 := by
  rw [DEFAULT_GRANULARITY_eq]
  omega

theorem sg_segment_holding {segs : List Seg} {a : Nat} {sp : Seg} (h : segment_holding segs a = some sp) :
    sp ∈ segs ∧ sp.holds a = true := by
  unfold segment_holding at h
  have := List.find?_some h
  exact ⟨find?_mem h, this⟩

/-- the tail of `trim_top`: the last `r` bytes of the head segment are gone; `S` is the state `init_top` runs on -/
theorem sg_shrink {s S s3 : St} (hi : SInv s) {sp : Seg} (hsp : sp ∈ s.segs) (hsph : sp.holds s.h.top = true)
    {r : Nat} (hr : r % 65536 = 0) (hlt : r < s.h.topsize)
    (hSh : S.h = dropEnts s.h (sp.top - r) sp.top) (hSs : S.segs = replaceSeg s.segs sp { sp with size := sp.size - r })
    (hSl : S.least_addr = s.least_addr) (hinit : init_top S s.h.top (s.h.topsize - r) = .ok s3) :
    SInv s3 ∧ SameUsers s s3 := by
  have w := hi.wfs
  obtain ⟨g0, rest, pre, x, f, post, T⟩ := w.sgTop (w.topsize_ne hsp)
  obtain ⟨d1, _, d3⟩ := sg_segsOk_cons w.segs T.segs
  have := T.holds w hsp hsph
  subst this
  rw [T.segs, sg_replaceSeg_head] at hSs
  have hfin := T.fin; have hbase := T.base
  have hSm : ∀ z, z ∈ S.h.ents ↔ z ∈ s.h.ents ∧ (z.addr < sp.base + sp.size - r ∨ sp.base + sp.size ≤ z.addr) := by
    intro z
    rw [hSh, sg_mem_dropEnts]
    rfl
  have hlim : sp.base + sp.size ≤ 2 ^ 64 := (d3 sp List.mem_cons_self).2.2.2.2.2
  obtain ⟨X, F, P, hs3, hH, hok3, hmem3⟩ := sg_init_top_tab hinit (T.aligned w).1 (by omega)
    (by rw [hSh]; exact sg_entsOk_filter w.ents _) (by omega)
    (fun y hy hl => T.pair.xa ▸ entsOk_sep w.ents y ((hSm y).1 hy).1 x T.xm (T.pair.xa.symm ▸ hl))
  rw [hSh] at hH
  have hconv : ∀ z, z ∈ s3.h.ents ↔ z = X ∨ z = F ∨ z ∈ pre ∨ z ∈ post := by
    intro z
    rw [hmem3 z, hSm z, T.mem_out w]
    refine or_congr Iff.rfl (or_congr Iff.rfl ⟨fun h => ⟨h.1.1, ?_⟩, fun h => ⟨⟨h.1, ?_⟩, ?_⟩⟩)
    · have := h.1.2; have := h.2; omega
    · have := h.2; omega
    · have := h.2; omega
  have hdisj : ∀ g ∈ rest, sp.base + (sp.size - r) ≤ g.base ∨ g.base + g.size ≤ sp.base := by
    intro g hg
    rcases d1 g hg with h | h
    · exact Or.inl (by omega)
    · exact Or.inr h
  have hpost : ∀ q ∈ post, sp.base + (sp.size - r) ≤ q.addr := by
    intro q hq
    have := ((T.mem_post w).1 hq).2
    omega
  have hend : s.h.top + (s.h.topsize - r) + 80 = sp.base + (sp.size - r) := by omega
  have hlim' : sp.base + (sp.size - r) ≤ 2 ^ 64 := by omega
  -- the alignment of the new `top` and of the new segment size
  obtain ⟨a3, a4, a5⟩ : (s.h.topsize - r) % 16 = 0 ∧ 16 ≤ s.h.topsize - r ∧ (sp.size - r) % 4096 = 0 := by
    have := T.aligned w; have := d3 sp List.mem_cons_self
    omega
  exact sg_retop hi T P hok3 hconv (by rw [hs3, hSs]) a3 a4 hend a5 hlim' hdisj hpost hH (by rw [hs3, hSl])

/-- **`trim_top`** keeps the invariant and the user chunks -/
theorem sg_trim_top {s s' : St} (hi : SInv s) {pad rel : Nat} (h : trim_top s pad = .ok (s', rel)) :
    SInv s' ∧ SameUsers s s' := by
  unfold trim_top at h
  dsimp only at h
  split at h
  · rename_i hgt0
    split at h
    · msimp at h
    · rename_i sp hsh
      obtain ⟨hsp, hsph⟩ := sg_segment_holding hsh
      msimp at h
      obtain ⟨⟨s1, r1⟩, ht, h⟩ := h
      obtain ⟨⟨q1, ev1, hs1⟩, hrel⟩ := sg_trim_release_eq ht
      subst hs1
      dsimp only at h
      split at h
      · rename_i hne
        obtain ⟨x1, x2⟩ := sg_trim_extra hgt0
        rw [← hrel.resolve_right hne] at x1 x2
        msimp at h
        obtain ⟨_, _, s3, hinit, h⟩ := h
        simp only [Prod.mk.injEq] at h
        obtain ⟨h, _⟩ := h
        subst h
        obtain ⟨i, u⟩ : SInv s3 ∧ SameUsers s s3 := by
          refine sg_shrink hi hsp hsph x2 (by omega) ?_ ?_ ?_ hinit <;> rfl
        exact ⟨sg_sinv_tag i _, sg_sameUsers_trans u (sg_sameUsers_tag _ _)⟩
      · msimp at h
        simp only [Prod.mk.injEq] at h
        obtain ⟨h, _⟩ := h
        subst h
        exact ⟨sg_sinv_same hi ⟨rfl, rfl, rfl, rfl, rfl, rfl, rfl⟩ rfl rfl (fun _ => rfl), sg_sameUsers_of_eq rfl rfl⟩
  · msimp at h
    simp only [Prod.mk.injEq] at h
    obtain ⟨h, _⟩ := h
    subst h
    exact ⟨hi, fun _ _ => Iff.rfl⟩

/-- **`sys_trim`**, given `release_unused_segments` -/
theorem sg_sys_trim_of_release (hrel : release_unused_segments_Spec) : sys_trim_Spec := by
  intro s s' hi pad b h
  unfold sys_trim at h
  dsimp only at h
  split at h
  · msimp at h
    obtain ⟨⟨s1, r1⟩, h1, ⟨s2, r2⟩, h2, h⟩ := h
    simp only [Prod.mk.injEq] at h
    obtain ⟨h, _⟩ := h
    subst h
    obtain ⟨i1, u1⟩ := sg_trim_top hi h1
    obtain ⟨i2, u2⟩ := hrel i1 h2
    split
    · exact ⟨sg_sinv_same i2 ⟨rfl, rfl, rfl, rfl, rfl, rfl, rfl⟩ rfl rfl (fun _ => rfl),
        sg_sameUsers_trans u1 (sg_sameUsers_trans u2 (sg_sameUsers_of_eq rfl rfl))⟩
    · exact ⟨i2, sg_sameUsers_trans u1 u2⟩
  · msimp at h
    simp only [Prod.mk.injEq] at h
    obtain ⟨h, _⟩ := h
    subst h
    exact ⟨hi, fun _ _ => Iff.rfl⟩

/-! ## `releaseLoop`, `release_unused_segments` -/

/-- only the free lists changed (same headers, same `top`, same segments): the invariant follows from the four
conjuncts that read the bins -/
theorem sg_sinv_bins {V V' : St} (hi : SInv V) (hne : V.segs ≠ []) (he : V'.h.ents = V.h.ents)
    (hsegs : V'.segs = V.segs) (htop : V'.h.top = V.h.top) (htops : V'.h.topsize = V.h.topsize)
    (hla : V'.least_addr = V.least_addr)
    (hfl : freeListOk V'.h = true) (hsb : sbinsOk V'.h = true) (htb : tbinsOk V'.h = true) (hdv : dvOk V'.h = true) :
    SInv V' := by
  refine sg_sinv_congr hi he hsegs htop hla hfl hsb htb hdv ?_
  have ht := hi.wfs.top
  unfold topOk at ht ⊢
  rw [hsegs, he, htop, htops]
  cases hs : V.segs with
  | nil => exact absurd hs hne
  | cons g rest => rw [hs] at ht; exact ht

theorem sg_freeListOk_perm {h h' : Heap} (he : h'.ents = h.ents) (hp : List.Perm (freeList h') (freeList h))
    (hf : freeListOk h = true) : freeListOk h' = true := by
  rw [freeListOk_iff] at hf ⊢
  obtain ⟨f1, f2, f3⟩ := hf
  rw [he]
  exact ⟨hp.nodup_iff.2 f1, fun e hm hfe => hp.mem_iff.2 (f2 e hm hfe), fun a ha => f3 a (hp.mem_iff.1 ha)⟩

/-- the first chunk of a segment about to be released leaves the free lists -/
theorem sg_release_unlink {V : St} (hi : SInv V) {p : Nat} {h1 : Heap}
    (hh : (if p = V.h.dv then (pure { V.h with dv := 0, dvsize := 0 } : M Heap) else unlink_large_chunk V.h p) = .ok h1)
    (hp : p ≠ 0) :
    h1.ents = V.h.ents ∧ h1.top = V.h.top ∧ h1.topsize = V.h.topsize ∧
      List.Perm (freeList V.h) (p :: freeList h1) ∧ sbinsOk h1 = true ∧ tbinsOk h1 = true ∧ dvOk h1 = true := by
  have w := hi.wfs
  split at hh
  · rename_i hpd
    msimp at hh
    subst hh
    subst hpd
    refine ⟨rfl, rfl, rfl, ?_, w.sbins, w.tbins, rfl⟩
    show List.Perm ((if V.h.top = 0 then [] else [V.h.top]) ++ ((if V.h.dv = 0 then [] else [V.h.dv]) ++ binned V.h))
      (V.h.dv :: ((if V.h.top = 0 then [] else [V.h.top]) ++ ([] ++ binned V.h)))
    rw [if_neg hp]
    simp only [List.nil_append, List.singleton_append]
    exact List.perm_middle
  · have f := unlink_large_chunk_frame hh
    refine ⟨f.1.ents, f.1.top, f.1.topsize, unlink_large_chunk_freeList hh, ?_, unlink_large_chunk_tbinsOk hh w.tbins, ?_⟩
    · rw [unlink_large_chunk_sbinsOk hh]; exact w.sbins
    · unfold dvOk; rw [f.1.dv, f.1.dvsize, f.1.ents]; exact w.dv

theorem sg_not_inuse {e : Ent} (h : (!e.inuse) = true) : isFree e = true := by
  rcases e with ⟨a, sz, c, p, pf⟩
  cases c <;> cases p <;> simp_all [Ent.inuse, isFree]

/-- **the loop of `release_unused_segments`**: `pref` = the segments already kept (head segment first), the
loop state's own `segs` field is never read, so the invariant is stated for the list `pref ++ rest` -/
theorem sg_releaseLoop (rest : List Seg) : ∀ {s s' : St} {pref : List Seg} {rel n rel' n' : Nat} {rest' : List Seg},
    pref ≠ [] → SInv { s with segs := pref ++ rest } → releaseLoop rest s rel n = .ok (rest', s', rel', n') →
    SInv { s' with segs := pref ++ rest' } ∧
      SameUsers { s with segs := pref ++ rest } { s' with segs := pref ++ rest' } := by
  induction rest with
  | nil =>
    intro s s' pref rel n rel' n' rest' _ hi h
    unfold releaseLoop at h
    msimp at h
    simp only [Prod.mk.injEq] at h
    obtain ⟨h1, h2, _, _⟩ := h
    subst h1; subst h2
    exact ⟨hi, fun _ _ => Iff.rfl⟩
  | cons g rest ih =>
    intro s s' pref rel n rel' n' rest' hpref hi h
    have w := hi.wfs
    have ih' : ∀ {s s' : St} {pref : List Seg} {rel n rel' n' : Nat} {rest' : List Seg},
        releaseLoop rest s rel n = .ok (rest', s', rel', n') → pref ≠ [] → SInv { s with segs := pref ++ rest } →
        SInv { s' with segs := pref ++ rest' } ∧
          SameUsers { s with segs := pref ++ rest } { s' with segs := pref ++ rest' } := fun h a b => ih a b h
    have happ : (pref ++ [g]) ++ rest = pref ++ g :: rest := by simp
    have hpref' : pref ++ [g] ≠ [] := by simp
    have hgm : g ∈ pref ++ g :: rest := by simp
    have hgsz := w.seg_bounds (s := { s with segs := pref ++ g :: rest }) hgm
    have hp : align_as_chunk g.base = g.base := align_as_chunk_aligned g.base (by omega) (by omega)
    unfold releaseLoop at h
    dsimp only at h
    rw [hp] at h
    msimp at h
    obtain ⟨e, he, _, _, h⟩ := h
    have hfe := getE_ok.1 he
    split at h
    · rename_i hc
      simp only [Bool.and_eq_true, decide_eq_true_eq, ge_iff_le, top_foot_size_eq] at hc
      obtain ⟨hc1, hc2⟩ := hc
      have hfree := sg_not_inuse hc1
      msimp at h
      obtain ⟨_, hholds, h1, hh1, ⟨ok, s1⟩, hu, h⟩ := h
      simp only [Bool.not_eq_false'] at hholds
      have hrec : g.recAt ≠ 0 := by
        unfold Seg.holds at hholds
        simp only [Bool.and_eq_true, decide_eq_true_eq] at hholds
        omega
      obtain ⟨q, hq, hs1⟩ := popU_spec hu
      obtain ⟨u1, u2, u3, u4, u5, u6, u7⟩ :=
        sg_release_unlink (V := { s with segs := pref ++ g :: rest }) hi (p := g.base) hh1 (by omega)
      subst hs1
      dsimp only at h
      split at h
      · -- the OS took the segment back
        msimp at h
        obtain ⟨_, _, ⟨r1, s2, rl, nn⟩, hrec2, h⟩ := h
        simp only [Prod.mk.injEq] at h
        obtain ⟨e1, e2, _, _⟩ := h
        subst e1; subst e2
        have hih := ih' (pref := pref) hrec2 hpref
        refine (fun (key : _ ∧ _) => ⟨(hih key.1).1, sg_sameUsers_trans key.2 (hih key.1).2⟩) ?_
        exact sg_release_seg (V := { s with segs := pref ++ g :: rest }) hi rfl hpref hrec hfe hfree (by omega)
          u1 u2 u4 u5 u6 u7
          (by show (dropEnts h1 g.base g.top).ents = _; unfold dropEnts; rw [u1]) rfl rfl rfl rfl u2 u3 rfl rfl
      · -- the OS refused: the chunk goes back into its tree bin
        msimp at h
        obtain ⟨h2, hins, ⟨r1, s2, rl, nn⟩, hrec2, h⟩ := h
        simp only [Prod.mk.injEq] at h
        obtain ⟨e1, e2, _, _⟩ := h
        subst e1; subst e2
        have f := insert_large_chunk_frame hins
        have hih := ih' (pref := pref ++ [g]) hrec2 hpref'
        have he2 : h2.ents = s.h.ents := by rw [f.1.ents, u1]
        have := hih (by
          refine sg_sinv_bins (V := { s with segs := pref ++ g :: rest }) hi (by simp) he2 happ ?_ ?_ rfl ?_ ?_ ?_ ?_
          · show h2.top = s.h.top; rw [f.1.top, u2]
          · show h2.topsize = s.h.topsize; rw [f.1.topsize, u3]
          · refine sg_freeListOk_perm (h := s.h) (h' := h2.tag "segment-unmap-refused") he2 ?_ w.freeList
            exact (insert_large_chunk_freeList hins).trans u4.symm
          · show sbinsOk h2 = true
            rw [insert_large_chunk_sbinsOk hins]; exact u5
          · show tbinsOk h2 = true
            refine insert_large_chunk_tbinsOk hins (by omega) (by rw [u1]; exact sg_entsLt w) ?_ u6
            rw [u1, sizeAt_iff]; exact ⟨e, hfe, rfl⟩
          · show dvOk h2 = true
            unfold dvOk at u7 ⊢
            rw [f.1.dv, f.1.dvsize, f.1.ents]; exact u7)
        simp only [List.append_assoc, List.singleton_append] at this
        refine ⟨this.1, sg_sameUsers_trans ?_ this.2⟩
        exact sg_sameUsers_of_eq he2 rfl
    · msimp at h
      obtain ⟨⟨r1, s2, rl, nn⟩, hrec2, h⟩ := h
      simp only [Prod.mk.injEq] at h
      obtain ⟨e1, e2, _, _⟩ := h
      subst e1; subst e2
      have hi1 : SInv { s with segs := (pref ++ [g]) ++ rest } := by rw [happ]; exact hi
      have := ih hpref' hi1 hrec2
      simp only [List.append_assoc, List.singleton_append] at this
      exact this

/-- **`release_unused_segments`** keeps the invariant and the user chunks -/
theorem sg_release_unused_segments_spec : release_unused_segments_Spec := by
  intro s s' hi r h
  unfold release_unused_segments at h
  split at h
  · msimp at h
    simp only [Prod.mk.injEq] at h
    obtain ⟨h, _⟩ := h
    subst h
    exact ⟨sg_sinv_same hi ⟨rfl, rfl, rfl, rfl, rfl, rfl, rfl⟩ rfl rfl (fun _ => rfl), sg_sameUsers_of_eq rfl rfl⟩
  · rename_i hd rest hsegs
    msimp at h
    obtain ⟨⟨r1, s2, rl, nn⟩, hrec, h⟩ := h
    simp only [Prod.mk.injEq] at h
    obtain ⟨h, _⟩ := h
    subst h
    have hi0 : SInv { s with segs := [hd] ++ rest } :=
      sg_sinv_same hi ⟨rfl, rfl, rfl, rfl, rfl, rfl, rfl⟩ (by simp [hsegs]) rfl (fun _ => rfl)
    obtain ⟨i2, su2⟩ := sg_releaseLoop rest (pref := [hd]) (by simp) hi0 hrec
    refine ⟨sg_sinv_same i2 ⟨rfl, rfl, rfl, rfl, rfl, rfl, rfl⟩ rfl rfl (fun h0 => by simp at h0), ?_⟩
    have a1 : SameUsers s { s with segs := [hd] ++ rest } := sg_sameUsers_of_eq rfl (by simp [hsegs])
    exact sg_sameUsers_trans a1 (sg_sameUsers_trans su2 (sg_sameUsers_of_eq rfl rfl))

/-- **`sys_trim`** keeps the invariant and the user chunks -/
theorem sg_sys_trim_spec : sys_trim_Spec := sg_sys_trim_of_release sg_release_unused_segments_spec

/-! ## `sys-addseg` -/

theorem sg_pad_seg : pad_request SIZEOF_SEGMENT = 48 := by decide

/-- where `add_segment` puts the record chunk: over the foot word of the old `top` (80 bytes before the segment
end), or over the old `top` itself when that has only 16 bytes -/
theorem sg_addseg_csp {top topsize oe : Nat} (h16 : oe % 16 = 0) (hoe : top + topsize + 80 = oe) (hlim : oe ≤ 2 ^ 64)
    (hts : topsize % 16 = 0) (hts0 : 16 ≤ topsize) :
    addseg_csp top oe = if topsize < 32 then top else top + topsize := by
  unfold addseg_csp
  simp only [sg_pad_seg, SIZEOF_USIZE_eq, MALLOC_ALIGNMENT_eq, MEM_OFFSET_eq, MIN_CHUNK_SIZE_eq]
  rw [align_offset_usize_eq _ (by omega)]
  split <;> split <;> omega

/-- `add_segment` up to and including the fencepost loop, on the table as a set: the new `top` and its foot word
in the fresh mapping, the record chunk at `csp`, the fenceposts after it -/
theorem sg_addseg_tab {s S s1 : St} (w : WFS s) (hS : S.h = s.h)
    {g0 : Seg} {rest : List Seg} {pre post : List Ent} {x f : Ent} (T : SgTop s g0 rest pre x f post)
    {tbase tsize : Nat} (hfr : ∀ g ∈ s.segs, tbase + tsize ≤ g.base ∨ g.base + g.size ≤ tbase)
    (h16 : tbase % 16 = 0) (hlim : tbase + tsize ≤ 2 ^ 64) (hts2 : 96 ≤ tsize)
    (hinit : init_top S tbase (tsize - 80) = .ok s1)
    {csp : Nat} (hcsp : (csp = s.h.top + s.h.topsize ∧ 32 ≤ s.h.topsize) ∨ (csp = s.h.top ∧ s.h.topsize = 16))
    {h1 h2 : Heap} {nf : Nat} (eR : writeHead s1.h csp 48 true true = .ok h1)
    (eF : fences 64 h1 (csp + 48) (g0.base + g0.size) 0 = .ok (h2, nf)) :
    s1 = { S with h := s1.h, trim_check := DEFAULT_TRIM_THRESHOLD } ∧
    h2 = { s.h with top := tbase, topsize := tsize - 80, ents := h2.ents } ∧ entsOk h2.ents = true ∧
    nf = (g0.base + g0.size - (csp + 48)) / 8 - 1 ∧
    ∃ pfR, ∀ z, z ∈ h2.ents ↔
      z = { addr := tbase, size := tsize - 80, cin := false, pin := true, pfoot := 0 } ∨
      z = { addr := tbase + (tsize - 80), size := 80, cin := false, pin := false, pfoot := 0 } ∨
      z = { addr := csp, size := 48, cin := true, pin := true, pfoot := pfR } ∨
      z ∈ sgFenceList ((g0.base + g0.size - (csp + 48)) / 8 - 1) (csp + 48) ∨
      (z ∈ s.h.ents ∧ (z.addr < csp ∨ g0.base + g0.size ≤ z.addr)) := by
  have hfresh := sg_fresh_ents w hfr
  have hpos0 := entsOk_pos w.ents
  obtain ⟨hs1, hh1, hok1, hm1⟩ := sg_init_top_fresh hinit h16 (by omega) (hS ▸ w.ents) (by omega) (by
    intro y hy
    rw [hS] at hy
    rcases hfresh y hy with h | h <;> omega)
  rw [hS] at hm1 hh1
  clear h16 hlim
  -- where the old headers, the new `top` and its foot word lie relative to `[csp, end)`
  have hend : csp + 64 ≤ g0.base + g0.size := by
    have := T.fin; omega
  have hloc : ∀ z ∈ s.h.ents, z.addr + z.size ≤ csp ∨ (csp ≤ z.addr ∧ z.addr < csp + 48) ∨ g0.base + g0.size ≤ z.addr := by
    intro z hz
    have := T.pair.xa; have := T.pair.xs; have := T.pair.fa
    rcases (T.mem z).1 hz with h | h | h | h
    · have := ((T.mem_pre w).1 h).2; omega
    · subst h; omega
    · subst h; omega
    · exact Or.inr (Or.inr ((T.mem_post w).1 h).2)
  have hXF : ∀ z : Ent, z = { addr := tbase, size := tsize - 80, cin := false, pin := true, pfoot := 0 } ∨
      z = { addr := tbase + (tsize - 80), size := 80, cin := false, pin := false, pfoot := 0 } →
      (z.addr + z.size ≤ csp ∨ g0.base + g0.size ≤ z.addr) ∧ 0 < z.size := by
    intro z hz
    have := hfr g0 T.g0m; have := T.base; have := T.fin
    rcases hz with rfl | rfl <;> (simp only; omega)
  obtain ⟨c1, c2, c3⟩ := sg_writeHead_tab eR hok1 (by omega) (by
    intro y hy hl
    rcases (hm1 y).1 hy with h | h | h
    · have := (hXF y (Or.inl h)).1; omega
    · have := (hXF y (Or.inr h)).1; omega
    · have := hloc y h; omega)
  generalize pfootAt s1.h.ents csp = pfR at c3
  have c3' : ∀ z, z ∈ h1.ents ↔
      z = { addr := tbase, size := tsize - 80, cin := false, pin := true, pfoot := 0 } ∨
      z = { addr := tbase + (tsize - 80), size := 80, cin := false, pin := false, pfoot := 0 } ∨
      z = { addr := csp, size := 48, cin := true, pin := true, pfoot := pfR } ∨
      (z ∈ s.h.ents ∧ (z.addr < csp ∨ g0.base + g0.size ≤ z.addr)) := by
    intro z
    rw [c3 z, hm1 z]
    constructor
    · rintro (h | ⟨h | h | h, hc⟩)
      · exact Or.inr (Or.inr (Or.inl h))
      · exact Or.inl h
      · exact Or.inr (Or.inl h)
      · have := hloc z h; have := hpos0 z h
        exact Or.inr (Or.inr (Or.inr ⟨h, by omega⟩))
    · rintro (h | h | h | ⟨h, hc⟩)
      · have := hXF z (Or.inl h); exact Or.inr ⟨Or.inl h, by omega⟩
      · have := hXF z (Or.inr h); exact Or.inr ⟨Or.inr (Or.inl h), by omega⟩
      · exact Or.inl h
      · exact Or.inr ⟨Or.inr (Or.inr h), by omega⟩
  obtain ⟨f1, f2, f3, f4⟩ := sg_fences 64 eF c2 (by
    intro y hy
    rcases (c3' y).1 hy with h | h | h | h
    · have := (hXF y (Or.inl h)).1; omega
    · have := (hXF y (Or.inr h)).1; omega
    · subst h; exact Or.inl (Nat.le_refl _)
    · have := hloc y h.1; have := h.2; omega) (by omega) (by have := T.fin; omega)
  refine ⟨hs1, by rw [f1, c1, hh1], f2, by omega, pfR, fun z => ?_⟩
  rw [f3 z, c3' z]
  constructor
  · rintro ((h | h | h | h) | h)
    · exact Or.inl h
    · exact Or.inr (Or.inl h)
    · exact Or.inr (Or.inr (Or.inl h))
    · exact Or.inr (Or.inr (Or.inr (Or.inr h)))
    · exact Or.inr (Or.inr (Or.inr (Or.inl h)))
  · rintro (h | h | h | h | h)
    · exact Or.inl (Or.inl h)
    · exact Or.inl (Or.inr (Or.inl h))
    · exact Or.inl (Or.inr (Or.inr (Or.inl h)))
    · exact Or.inr h
    · exact Or.inl (Or.inr (Or.inr (Or.inr h)))

theorem sg_segs_of_top {s : St} (w : WFS s) (htn : s.h.top ≠ 0) : ∃ g, g ∈ s.segs := by
  have ht := w.top
  unfold topOk at ht
  cases hs : s.segs with
  | nil =>
    rw [hs] at ht
    simp only [Bool.and_eq_true, decide_eq_true_eq] at ht
    exact absurd ht.1.1.1 htn
  | cons g r => exact ⟨g, List.mem_cons_self⟩

/-- `sys-addseg`, the old `top` has 16 bytes: the record chunk takes its place -/
theorem sg_addseg_small {s S s1 s' : St} (hi : SInv s) {g0 : Seg} {rest : List Seg} {pre post : List Ent} {x f : Ent}
    (T : SgTop s g0 rest pre x f post) {tbase tsize : Nat} (hf : SgFresh s tbase tsize) (hsz : 96 ≤ tsize)
    (hinit : init_top S tbase (tsize - 80) = .ok s1) (hS : S.h = s.h) (h16 : s.h.topsize = 16)
    {h1 h2 : Heap} {nf : Nat} (eR : writeHead s1.h s.h.top 48 true true = .ok h1)
    (eF : fences 64 h1 (s.h.top + 48) (g0.base + g0.size) 0 = .ok (h2, nf)) {t : String} (hh' : s'.h = h2.tag t)
    (hs' : s'.segs = { base := tbase, size := tsize, recAt := 0 } :: { g0 with recAt := s.h.top + 16 } :: rest) :
    s'.least_addr ≤ tbase ∧ s'.least_addr ≤ s.least_addr → SInv s' ∧ SameUsers s s' := by
  have w := hi.wfs
  obtain ⟨_, p2, p3, _, pfR, p5⟩ := sg_addseg_tab w hS T hf.fresh.2.2.2 (by have := hf.page; omega) hf.fresh.2.2.1 hsz hinit
    (Or.inr ⟨rfl, h16⟩) eR eF
  have hH : HeapIs h2 h2.ents s.h.sbins s.h.tbins s.h.dv s.h.dvsize tbase (tsize - 80) := by
    rw [p2]; exact ⟨rfl, rfl, rfl, rfl, rfl, rfl, rfl⟩
  have hfin := T.fin
  rw [show (g0.base + g0.size - (s.h.top + 48)) / 8 - 1 = 5 by omega] at p5
  have hents : s'.h.ents = h2.ents := by rw [hh']; rfl
  have hbin : binned s'.h = binned s.h := by rw [hh']; exact binned_congr hH.sbins hH.tbins
  have hfind : ∀ a ∈ binned s.h, findEnt s'.h.ents a = findEnt s.h.ents a := fun a ha => by
    refine w.find_keep T.top0 (hents ▸ p3) (fun e he hfe hne => ?_) a (Or.inl ha)
    rw [hents, p5 e]
    refine Or.inr (Or.inr (Or.inr (Or.inr ⟨he, ?_⟩)))
    rcases (T.mem e).1 he with h | h | h | h
    · have := ((T.mem_pre w).1 h).2; have := entsOk_pos w.ents e he; omega
    · exact absurd (h ▸ T.pair.xa) hne
    · rw [h, T.pair.ffree] at hfe; cases hfe
    · exact Or.inr ((T.mem_post w).1 h).2
  refine sg_addseg_core hi T hf hsz (X := { addr := tbase, size := tsize - 80, cin := false, pin := true, pfoot := 0 })
    (F := { addr := tbase + (tsize - 80), size := 80, cin := false, pin := false, pfoot := 0 })
    ⟨rfl, rfl, rfl, rfl, rfl, rfl, rfl, rfl⟩ (csp := s.h.top)
    (m' := { addr := s.h.top, size := 48, cin := true, pin := true, pfoot := pfR }) (ms' := sgFenceList 5 (s.h.top + 48))
    ⟨?_, ?_, ?_, ?_, ?_, ?_, ⟨_, List.mem_cons_self, rfl, rfl⟩, ⟨Nat.le_refl _, by omega⟩, by simp⟩
    ⟨by simp [T.pair.xp], fun h => by rw [T.pair.xp] at h; cases h⟩ (by simp [tagsFrom, linkOk, isFree, sgFenceList])
    (hents ▸ p3) (fun z => ?_) hs' (by rw [hh']; exact ⟨rfl, rfl, rfl, hH.dv, hH.dvsize, hH.top, hH.topsize⟩) (B := []) (Or.inl rfl) (by rw [hbin]; rfl) (fun a => ?_)
    (sbinsOk_frame w.sbins (by rw [hh']; exact hH.sbins) fun a ha => hfind a (List.mem_append.2 (Or.inl ha)))
    (tbinsOk_frame w.tbins (by rw [hh']; exact hH.tbins) fun a ha => hfind a (List.mem_append.2 (Or.inr ha)))
  · simp [contig, sgFenceList, Nat.add_assoc]
  · simp only [endE, lastE, sgFenceList]; omega
  · simp [lastE, sgFenceList]
  · simp only [shapeOk, sgFenceList, List.all_cons, List.all_nil, Bool.and_true, Bool.and_eq_true, Bool.or_eq_true,
      decide_eq_true_eq]
    refine ⟨Or.inr ⟨⟨(T.aligned w).1, trivial⟩, by omega⟩, ?_⟩
    simp
  · intro e he
    simp only [sgFenceList, List.mem_cons, List.not_mem_nil, or_false] at he
    rcases he with rfl | rfl | rfl | rfl | rfl | rfl <;> simp
  · intro a ha b _ _ _
    simp only [sgFenceList, List.mem_cons, List.not_mem_nil, or_false] at ha
    rcases ha with rfl | rfl | rfl | rfl | rfl | rfl <;> simp
  · rw [hents, p5 z, ← T.mem_out w]
    simp only [List.mem_cons, or_assoc]
  · simp only [List.not_mem_nil, false_iff, not_exists, not_and, sgFenceList, List.mem_cons, or_false]
    rintro e (rfl | rfl | rfl | rfl | rfl | rfl) <;> simp [isFree]

/-- the table after the old `top` was made an ordinary free chunk (`clearPin` at the record chunk, `writeHead` at
the old `top`, `setFoot` at the record chunk), from the table after the fencepost loop: a shuffle of cases -/
theorem sg_addseg_memB {z X F R R' R'' x x'' : Ent} {top n : Nat} {A2 Ac Aw At Ppre Ppost PFL : Prop}
    (p5 : A2 ↔ z = X ∨ z = F ∨ z = R ∨ PFL ∨ (Ppre ∨ z = x ∨ Ppost))
    (c3 : Ac ↔ z = R' ∨ (A2 ∧ z.addr ≠ top + n))
    (w3 : Aw ↔ z = x'' ∨ (Ac ∧ (z.addr < top ∨ top + n ≤ z.addr)))
    (t3 : At ↔ z = R'' ∨ (Aw ∧ z.addr ≠ top + n))
    (hR : R.addr = top + n) (hR' : R'.addr = top + n) (hx : x.addr = top) (hx'' : x''.addr = top) (hn : 0 < n)
    (hXF : z = X ∨ z = F → z.addr < top ∨ top + n + 48 ≤ z.addr) (hpre : Ppre → z.addr < top)
    (hpost : Ppost → top + n + 48 ≤ z.addr) (hFL : PFL → top + n + 48 ≤ z.addr) :
    At ↔ z = X ∨ z = F ∨ (z = x'' ∨ z = R'' ∨ PFL) ∨ Ppre ∨ Ppost := by
  grind

/-- `sys-addseg`, the old `top` has at least 32 bytes: the record chunk replaces its foot word, what is left of the
old `top` is binned -/
theorem sg_addseg_binned {s S s1 s' : St} (hi : SInv s) {g0 : Seg} {rest : List Seg} {pre post : List Ent} {x f : Ent}
    (T : SgTop s g0 rest pre x f post) {tbase tsize : Nat} (hf : SgFresh s tbase tsize) (hsz : 96 ≤ tsize)
    (hinit : init_top S tbase (tsize - 80) = .ok s1) (hS : S.h = s.h) (h32 : 32 ≤ s.h.topsize)
    {h1 h2 : Heap} {nf : Nat} (eR : writeHead s1.h (s.h.top + s.h.topsize) 48 true true = .ok h1)
    (eF : fences 64 h1 (s.h.top + s.h.topsize + 48) (g0.base + g0.size) 0 = .ok (h2, nf))
    (eO : add_segment_oldtop h2 (s.h.top + s.h.topsize) s.h.top = .ok s'.h)
    (hs' : s'.segs = { base := tbase, size := tsize, recAt := 0 } :: { g0 with recAt := s.h.top + s.h.topsize + 16 } :: rest) :
    s'.least_addr ≤ tbase ∧ s'.least_addr ≤ s.least_addr → SInv s' ∧ SameUsers s s' := by
  have w := hi.wfs
  obtain ⟨_, p2, p3, _, pfR, p5⟩ := sg_addseg_tab w hS T hf.fresh.2.2.2 (by have := hf.page; omega) hf.fresh.2.2.1 hsz hinit
    (Or.inl ⟨rfl, h32⟩) eR eF
  have hH : HeapIs h2 h2.ents s.h.sbins s.h.tbins s.h.dv s.h.dvsize tbase (tsize - 80) := by
    rw [p2]; exact ⟨rfl, rfl, rfl, rfl, rfl, rfl, rfl⟩
  have hfin := T.fin
  rw [show (g0.base + g0.size - (s.h.top + s.h.topsize + 48)) / 8 - 1 = 3 by omega] at p5
  have hbase := T.base
  unfold add_segment_oldtop at eO
  dsimp only at eO
  rw [if_pos (by omega), Nat.add_sub_cancel_left] at eO
  msimp at eO
  obtain ⟨h3a, eSF, eIns⟩ := eO
  unfold set_free_with_pinuse set_size_and_pinuse_of_free_chunk at eSF
  msimp at eSF
  obtain ⟨hc, eC, hw, eW, eS⟩ := eSF
  -- clear PINUSE of the record chunk
  obtain ⟨c1, c2, c3⟩ := sg_clearPin_tab eC p3
    (x := { addr := s.h.top + s.h.topsize, size := 48, cin := true, pin := true, pfoot := pfR })
    ((p5 _).2 (Or.inr (Or.inr (Or.inl rfl)))) rfl
  -- the header of the old `top`, now an ordinary free chunk
  obtain ⟨w1, w2, w3⟩ := sg_writeHead_tab eW c2 (by omega) (by
    intro y hy hlt
    rcases (c3 y).1 hy with h | ⟨h, _⟩
    · subst h; simp only at hlt; omega
    · have hside := hf.fresh.2.2.2 g0 T.g0m
      rcases (p5 y).1 h with h | h | h | h | h
      · subst h; simp only at hlt ⊢; omega
      · subst h; simp only at hlt ⊢; omega
      · subst h; simp only at hlt; omega
      · obtain ⟨i, _, hi⟩ := sg_mem_fenceList.1 h
        subst hi; simp only at hlt; omega
      · have := entsOk_sep w.ents y h.1 x T.xm (by rw [T.pair.xa]; exact hlt)
        rw [T.pair.xa] at this; exact this)
  generalize pfootAt hc.ents s.h.top = pfX at w3
  -- its size in the `prev_foot` of the record chunk
  obtain ⟨t1, t2, t3⟩ := sg_setFoot_tab eS w2
    (x := { addr := s.h.top + s.h.topsize, size := 48, cin := true, pin := false, pfoot := pfR })
    ((w3 _).2 (Or.inr ⟨(c3 _).2 (Or.inl rfl), by simp only; omega⟩)) rfl
  have hE : ∀ z, z ∈ h3a.ents ↔ z = { addr := tbase, size := tsize - 80, cin := false, pin := true, pfoot := 0 } ∨
      z = { addr := tbase + (tsize - 80), size := 80, cin := false, pin := false, pfoot := 0 } ∨
      z ∈ ({ addr := s.h.top, size := s.h.topsize, cin := false, pin := true, pfoot := pfX } : Ent) ::
        { addr := s.h.top + s.h.topsize, size := 48, cin := true, pin := false, pfoot := s.h.topsize } ::
        sgFenceList 3 (s.h.top + s.h.topsize + 48) ∨ z ∈ pre ∨ z ∈ post := by
    intro z
    simp only [List.mem_cons]
    refine sg_addseg_memB (x := x) (R := { addr := s.h.top + s.h.topsize, size := 48, cin := true, pin := true, pfoot := pfR })
      ((p5 z).trans ?_) (c3 z) (w3 z) (t3 z) rfl rfl T.pair.xa rfl (by omega) ?_
      (fun h => by have := ((T.mem_pre w).1 h).2; have := entsOk_pos w.ents z ((T.mem_pre w).1 h).1; omega)
      (fun h => by have := ((T.mem_post w).1 h).2; omega)
      (fun h => by obtain ⟨i, _, hi⟩ := sg_mem_fenceList.1 h; subst hi; simp only; omega)
    · -- the old headers below the record chunk or above the segment: `pre`, `x`, `post`
      refine or_congr Iff.rfl (or_congr Iff.rfl (or_congr Iff.rfl (or_congr Iff.rfl ?_)))
      have := T.pair.xa; have := T.pair.xs; have := T.pair.fa
      rw [T.mem z]
      constructor
      · rintro ⟨h | h | h | h, hc⟩
        · exact Or.inl h
        · exact Or.inr (Or.inl h)
        · subst h; omega
        · exact Or.inr (Or.inr h)
      · rintro (h | h | h)
        · have := ((T.mem_pre w).1 h).2; have := entsOk_pos w.ents z ((T.mem_pre w).1 h).1
          exact ⟨Or.inl h, by omega⟩
        · subst h; exact ⟨Or.inr (Or.inl rfl), by omega⟩
        · exact ⟨Or.inr (Or.inr (Or.inr h)), Or.inr ((T.mem_post w).1 h).2⟩
    · have hside := hf.fresh.2.2.2 g0 T.g0m
      rintro (rfl | rfl) <;> (simp only; omega)
  have hfr3 := insert_chunk_frame eIns
  have hsb3a : h3a.sbins = s.h.sbins := by rw [t1, w1, c1]; exact hH.sbins
  have htb3a : h3a.tbins = s.h.tbins := by rw [t1, w1, c1]; exact hH.tbins
  have hents3 : s'.h.ents = h3a.ents := hfr3.ents
  have hfind : ∀ a ∈ binned s.h, findEnt h3a.ents a = findEnt s.h.ents a := fun a ha => by
    refine w.find_keep T.top0 t2 (fun e he hfe hne => ?_) a (Or.inl ha)
    rcases (T.mem e).1 he with h | h | h | h
    · exact (hE e).2 (Or.inr (Or.inr (Or.inr (Or.inl h))))
    · exact absurd (h ▸ T.pair.xa) hne
    · rw [h, T.pair.ffree] at hfe; cases hfe
    · exact (hE e).2 (Or.inr (Or.inr (Or.inr (Or.inr h))))
  have hbins3 := insert_chunk_binsOk eIns (by have := T.aligned w; omega) (by
      intro a e he
      obtain ⟨hm, _⟩ := findEnt_some he
      change e ∈ h3a.ents at hm
      have hl := hf.fresh.2.2.1
      have := (sg_segsOk_cons w.segs T.segs).2.2 g0 List.mem_cons_self
      rcases (hE e).1 hm with h | h | h | h
      · subst h; simp only [U64]; omega
      · subst h; simp only [U64]; omega
      · simp only [sgFenceList, List.mem_cons, List.not_mem_nil, or_false] at h
        rcases h with rfl | rfl | rfl | rfl | rfl <;> simp only [U64] <;> omega
      · exact sg_entsLt w e.addr e (entsOk_find e ((T.mem e).2 (h.elim Or.inl fun h => Or.inr (Or.inr (Or.inr h)))) w.ents))
    (by rw [sizeAt_iff]; exact ⟨_, (sg_find_iff t2).2 ⟨(hE _).2 (Or.inr (Or.inr (Or.inl List.mem_cons_self))), rfl⟩, rfl⟩)
    (sbinsOk_frame w.sbins hsb3a fun a ha => hfind a (List.mem_append.2 (Or.inl ha)))
    (tbinsOk_frame w.tbins htb3a fun a ha => hfind a (List.mem_append.2 (Or.inr ha)))
  have hH3 : HeapIs h3a h3a.ents s.h.sbins s.h.tbins s.h.dv s.h.dvsize tbase (tsize - 80) := by
    rw [t1, w1, c1]; exact ⟨rfl, hH.sbins, hH.tbins, hH.dv, hH.dvsize, hH.top, hH.topsize⟩
  refine sg_addseg_core hi T hf hsz (X := { addr := tbase, size := tsize - 80, cin := false, pin := true, pfoot := 0 })
    (F := { addr := tbase + (tsize - 80), size := 80, cin := false, pin := false, pfoot := 0 })
    ⟨rfl, rfl, rfl, rfl, rfl, rfl, rfl, rfl⟩ (csp := s.h.top + s.h.topsize)
    (m' := { addr := s.h.top, size := s.h.topsize, cin := false, pin := true, pfoot := pfX })
    (ms' := { addr := s.h.top + s.h.topsize, size := 48, cin := true, pin := false, pfoot := s.h.topsize } ::
      sgFenceList 3 (s.h.top + s.h.topsize + 48))
    ⟨?_, ?_, ?_, ?_, ?_, ?_, ⟨_, List.mem_cons_of_mem _ List.mem_cons_self, rfl, rfl⟩, ⟨by omega, by omega⟩, by simp only; omega⟩
    ⟨by simp [T.pair.xp], fun h => by rw [T.pair.xp] at h; cases h⟩ ?_
    (hents3 ▸ t2) (fun z => by rw [hents3]; exact hE z) hs'
    ⟨rfl, rfl, rfl, hfr3.dv.trans hH3.dv, hfr3.dvsize.trans hH3.dvsize, hfr3.top.trans hH3.top, hfr3.topsize.trans hH3.topsize⟩
    (B := [s.h.top]) (Or.inr rfl) ?_ (fun a => ?_) hbins3.1 hbins3.2
  · simp [contig, sgFenceList, Nat.add_assoc]
  · simp only [endE, lastE, sgFenceList]; omega
  · simp [lastE, sgFenceList]
  · simp only [shapeOk, sgFenceList, List.all_cons, List.all_nil, Bool.and_true, Bool.and_eq_true, Bool.or_eq_true,
      decide_eq_true_eq]
    have := T.aligned w
    refine ⟨Or.inr ⟨⟨by omega, by omega⟩, by omega⟩, Or.inr ⟨⟨by omega, trivial⟩, by omega⟩, ?_⟩
    simp
  · intro e he
    simp only [sgFenceList, List.mem_cons, List.not_mem_nil, or_false] at he
    rcases he with rfl | rfl | rfl | rfl | rfl <;> simp
    omega
  · intro a ha b hb h8 hadj
    simp only [sgFenceList, List.mem_cons, List.not_mem_nil, or_false] at ha hb
    rcases ha with rfl | rfl | rfl | rfl | rfl <;> rcases hb with rfl | rfl | rfl | rfl | rfl <;>
      simp only at h8 hadj ⊢ <;> first | omega | trivial | exact Or.inl trivial
  · have htne : s.h.top ≠ tbase := by
      have := hf.ents w x T.xm; have := T.pair.xa; have := T.pair.xs; omega
    simp [tagsFrom, linkOk, isFree, sgFenceList, htne]
  · have hb0 : binned (h3a.tag "addseg-oldtop-binned") = binned s.h := binned_congr hsb3a htb3a
    rw [← hb0]; exact insert_chunk_binned eIns
  · simp only [sgFenceList, List.mem_cons, List.not_mem_nil, or_false]
    constructor
    · rintro rfl; exact ⟨_, Or.inl rfl, by simp [isFree], rfl⟩
    · rintro ⟨e, rfl | rfl | rfl | rfl | rfl, hfe, hea⟩
      · exact hea.symm
      all_goals simp [isFree] at hfe

theorem sg_add_segment {s : St} (hi : SInv s) (htn : s.h.top ≠ 0) {tbase tsize : Nat} (hf : SgFresh s tbase tsize)
    (hsz : 96 ≤ tsize) {q0 : List OsDir} {ev0 : List OsEv} {fp0 mf0 la0 : Nat}
    (hla0 : la0 ≤ tbase ∧ la0 ≤ s.least_addr) {s' : St}
    (h : add_segment { s with osq := q0, evs := ev0, footprint := fp0, maxfp := mf0, least_addr := la0 } tbase tsize = .ok s') :
    SInv s' ∧ SameUsers s s' := by
  have w := hi.wfs
  obtain ⟨gg, hgg⟩ := sg_segs_of_top w htn
  obtain ⟨g0, rest, pre, x, f, post, T⟩ := w.sgTop (w.topsize_ne hgg)
  have hcsp : addseg_csp s.h.top (g0.base + g0.size) = if s.h.topsize < 32 then s.h.top else s.h.top + s.h.topsize := by
    have := T.aligned w
    have := (sg_segsOk_cons w.segs T.segs).2.2 g0 List.mem_cons_self
    exact sg_addseg_csp (by omega) T.fin (by omega) (by omega) (by omega)
  unfold add_segment at h
  dsimp only at h
  split at h
  · msimp at h
  · rename_i oldsp hsh
    obtain ⟨hsp, hsph⟩ := sg_segment_holding hsh
    have := T.holds w hsp hsph
    subst this
    unfold Seg.top at h
    rw [hcsp] at h
    simp only [sg_pad_seg, SIZEOF_USIZE_eq, MALLOC_ALIGNMENT_eq, MEM_OFFSET_eq, top_foot_size_eq] at h
    msimp at h
    obtain ⟨_, _, _, _, s1, hinit, _, _, h1, eR, ⟨h2, nf⟩, eF, _, _, h3, eO, hs'⟩ := h
    obtain ⟨_, _, _, _, hs1⟩ := sg_init_top_ok hinit (by have := hf.page; omega) (by have := hf.fresh.2.2.1; omega)
    have hs1s : s1.segs = oldsp :: rest := by rw [hs1]; exact T.segs
    have hs1l : s1.least_addr = la0 := by rw [hs1]
    rw [hs1s] at hs'
    subst hs'
    unfold set_size_and_pinuse_of_inuse_chunk at eR
    by_cases hsm : s.h.topsize < 32
    · simp only [if_pos hsm] at eR eF eO ⊢
      unfold add_segment_oldtop at eO
      rw [if_neg (by simp)] at eO
      msimp at eO
      have h16 : s.h.topsize = 16 := by
        have := T.aligned w; omega
      exact sg_addseg_small hi T hf hsz hinit rfl h16 eR eF eO.symm rfl (hs1l ▸ hla0)
    · simp only [if_neg hsm] at eR eF eO ⊢
      exact sg_addseg_binned hi T hf hsz hinit rfl (by omega) eR eF eO rfl (hs1l ▸ hla0)

/-! ## the middle of `sys_alloc`: all branches -/

/-- interface of the `sys-prepend` branch -/
def sg_prepend_Spec : Prop :=
  ∀ {s : St} (_ : SInv s) (_ : s.h.top ≠ 0) {tbase tsize nb : Nat} (_ : SgFresh s tbase tsize) (_ : NbOk nb)
    (_ : nb + 96 ≤ tsize) {sq : Seg} (_ : sq ∈ s.segs) (_ : sq.base = tbase + tsize)
    {q0 : List OsDir} {ev0 : List OsEv} {fp0 mf0 la0 : Nat} (_ : la0 ≤ tbase ∧ la0 ≤ s.least_addr) {s' : St} {mem : Nat},
    prepend_alloc (St.tag { s with osq := q0, evs := ev0, footprint := fp0, maxfp := mf0, least_addr := la0, segs := replaceSeg s.segs sq { sq with base := tbase, size := sq.size + tsize } }
        "sys-prepend") tbase sq.base nb = .ok (s', mem) →
    SInv s' ∧ mem ≠ 0 ∧ Alloc s s' nb mem

theorem sg_place_of_prepend (hpre : sg_prepend_Spec) : sg_place_Spec := by
  intro s s0 hi hp tbase tsize nb hf hnb hsz r h
  by_cases ht0 : s.h.top = 0
  · obtain ⟨s1, hr, h1, h2⟩ := sg_place_init hi hp hf (by omega) ht0 h
    subst hr
    exact ⟨h1, h2⟩
  · obtain ⟨q0, ev0, fp0, mf0, rfl⟩ := hp
    unfold sys_alloc_place at h
    dsimp only at h
    rw [if_neg ht0] at h
    split at h
    · -- sys-extend
      rename_i sp hext
      have hsp : sp ∈ s.segs ∧ sp.top = tbase ∧ sp.holds s.h.top = true := by
        split at hext
        · rename_i sp' hfnd
          split at hext
          · rename_i hh
            injection hext with hext; subst hext
            have := List.find?_some hfnd
            simp only [decide_eq_true_eq] at this
            exact ⟨find?_mem hfnd, this, hh⟩
          · cases hext
        · cases hext
      msimp at h
      obtain ⟨s3, hinit, h⟩ := h
      subst h
      obtain ⟨i1, u1⟩ := sg_extend hi hf (by omega) hsp.1 hsp.2.1 hsp.2.2 hinit
      exact ⟨sg_sinv_tag i1 _, sg_sameUsers_trans u1 (sg_sameUsers_tag _ _)⟩
    · split at h
      · -- sys-prepend
        rename_i sq hfnd
        have hsq : sq ∈ s.segs := find?_mem hfnd
        have hsqb : sq.base = tbase + tsize := by
          have := List.find?_some hfnd
          simpa using this
        msimp at h
        obtain ⟨⟨s2, m⟩, hpa, h⟩ := h
        subst h
        exact hpre hi ht0 hf hnb hsz hsq hsqb (la0 := min tbase s.least_addr) ⟨Nat.min_le_left _ _, Nat.min_le_right _ _⟩ hpa
      · -- sys-addseg
        msimp at h
        obtain ⟨s2, ha, h⟩ := h
        subst h
        obtain ⟨i1, u1⟩ := sg_add_segment hi ht0 hf (by omega) (la0 := min tbase s.least_addr)
          ⟨Nat.min_le_left _ _, Nat.min_le_right _ _⟩ ha
        exact ⟨sg_sinv_tag i1 _, sg_sameUsers_trans u1 (sg_sameUsers_tag _ _)⟩

/-- **`sys_alloc`**, given the `sys-prepend` branch -/
theorem sg_sys_alloc_of_prepend (hpre : sg_prepend_Spec) : sys_alloc_Spec :=
  sg_sys_alloc_of_place (sg_place_of_prepend hpre)

/-! ## `sys-prepend` = the extended segment with an in-use remainder `Q`, followed by freeing `Q`

The code never writes the in-use header `Q`; `SgAbs Q h hI` relates the real heap `h` to the fictitious heap
`hI` that has `Q` in the (header-free) region it covers. -/

def SgAbs (Q : Ent) (h hI : Heap) : Prop :=
  hI = { h with ents := putEnt h.ents Q } ∧ entsOk h.ents = true ∧ 0 < Q.size ∧
    ∀ y ∈ h.ents, y.addr + y.size ≤ Q.addr ∨ Q.addr + Q.size ≤ y.addr

theorem SgAbs.tab {Q : Ent} {h hI : Heap} (a : SgAbs Q h hI) :
    entsOk hI.ents = true ∧ ∀ z, z ∈ hI.ents ↔ z = Q ∨ z ∈ h.ents := by
  obtain ⟨a1, a2, a3, a4⟩ := a
  have hp := entsOk_pos a2
  obtain ⟨t1, t2⟩ := sg_putEnt_tab (e := Q) a2 a3 (fun y hy hlt => by rcases a4 y hy with h | h <;> omega)
  subst a1
  refine ⟨t1, fun z => ?_⟩
  show z ∈ putEnt h.ents Q ↔ _
  rw [t2 z]
  constructor
  · rintro (h | ⟨h, _⟩)
    · exact Or.inl h
    · exact Or.inr h
  · rintro (h | h)
    · exact Or.inl h
    · refine Or.inr ⟨h, ?_⟩
      have := hp z h
      rcases a4 z h with h' | h' <;> omega

/-- a header write that covers `Q` gives the same heap with or without `Q` -/
theorem sg_abs_writeHead {Q : Ent} {h hI : Heap} (a : SgAbs Q h hI) (hpf : Q.pfoot = 0) {n : Nat} {c p : Bool}
    (hn : Q.size ≤ n) (hn8 : n % 8 = 0) :
    writeHead hI Q.addr n c p = writeHead h Q.addr n c p := by
  obtain ⟨t1, t2⟩ := a.tab
  obtain ⟨a1, a2, a3, a4⟩ := a
  have hp := entsOk_pos a2
  rw [writeHead_eq hn8, writeHead_eq hn8]
  have hQm : Q ∈ hI.ents := (t2 Q).2 (Or.inl rfl)
  have hpf1 : pfootAt hI.ents Q.addr = 0 := by rw [pfootAt_some (entsOk_find Q hQm t1)]; exact hpf
  have hpf2 : pfootAt h.ents Q.addr = 0 := by
    apply pfootAt_none
    apply findEnt_none
    intro y hy hya
    have := hp y hy
    rcases a4 y hy with h | h <;> omega
  rw [hpf1, hpf2]
  have hlow1 : ∀ y ∈ hI.ents, y.addr < Q.addr → y.addr + y.size ≤ Q.addr := by
    intro y hy hlt
    rcases (t2 y).1 hy with h | h
    · subst h; omega
    · rcases a4 y h with h' | h' <;> omega
  have hlow2 : ∀ y ∈ h.ents, y.addr < Q.addr → y.addr + y.size ≤ Q.addr := by
    intro y hy hlt
    rcases a4 y hy with h' | h' <;> omega
  obtain ⟨u1, u2⟩ := sg_putEnt_tab (e := { addr := Q.addr, size := n, cin := c, pin := p, pfoot := 0 }) t1 (by simp only; omega) hlow1
  obtain ⟨v1, v2⟩ := sg_putEnt_tab (e := { addr := Q.addr, size := n, cin := c, pin := p, pfoot := 0 }) a2 (by simp only; omega) hlow2
  have heq : putEnt hI.ents { addr := Q.addr, size := n, cin := c, pin := p, pfoot := 0 } =
      putEnt h.ents { addr := Q.addr, size := n, cin := c, pin := p, pfoot := 0 } := by
    refine sg_entsOk_ext u1 v1 ?_
    intro z
    rw [u2 z, v2 z, t2 z]
    simp only
    constructor
    · rintro (h | ⟨h | h, hc⟩)
      · exact Or.inl h
      · subst h; omega
      · exact Or.inr ⟨h, hc⟩
    · rintro (h | ⟨h, hc⟩)
      · exact Or.inl h
      · exact Or.inr ⟨Or.inr h, hc⟩
  rw [heq, a1]

/-- clearing PINUSE of a header outside `Q` commutes with the presence of `Q` -/
theorem sg_abs_clearPin {Q : Ent} {h hI h' : Heap} (a : SgAbs Q h hI) {x : Ent} (hx : x ∈ h.ents) {ad : Nat}
    (hxa : x.addr = ad) (e : clearPin h ad = .ok h') :
    ∃ hI', clearPin hI ad = .ok hI' ∧ SgAbs Q h' hI' := by
  obtain ⟨t1, t2⟩ := a.tab
  obtain ⟨a1, a2, a3, a4⟩ := a
  have hp := entsOk_pos a2
  obtain ⟨c1, c2, c3⟩ := sg_clearPin_tab e a2 hx hxa
  have hxI : x ∈ hI.ents := (t2 x).2 (Or.inr hx)
  subst hxa
  obtain ⟨es2, m1, m2, m3⟩ := sg_modEnt_tab (f := fun e => { e with pin := false }) t1 hxI rfl rfl
  refine ⟨{ hI with ents := es2 }, ?_, ?_, c2, a3, ?_⟩
  · unfold clearPin; rw [m1]; rfl
  · have hreg : ∀ y ∈ h'.ents, y.addr + y.size ≤ Q.addr ∨ Q.addr + Q.size ≤ y.addr := by
      intro y hy
      rcases (c3 y).1 hy with h | ⟨h, _⟩
      · subst h; exact a4 x hx
      · exact a4 y h
    have hp' := entsOk_pos c2
    obtain ⟨w1, w2⟩ := sg_putEnt_tab (e := Q) c2 a3 (fun y hy hlt => by rcases hreg y hy with h | h <;> omega)
    have : es2 = putEnt h'.ents Q := by
      refine sg_entsOk_ext m2 w1 ?_
      intro z
      rw [m3 z, w2 z, t2 z, c3 z]
      have hxq := a4 x hx
      have hxp := hp x hx
      constructor
      · rintro (h | ⟨h | h, hne⟩)
        · refine Or.inr ⟨Or.inl h, ?_⟩
          subst h; simp only; omega
        · exact Or.inl h
        · refine Or.inr ⟨Or.inr ⟨h, hne⟩, ?_⟩
          have := hp z h
          rcases a4 z h with h' | h' <;> omega
      · rintro (h | ⟨h | ⟨h, hne⟩, _⟩)
        · refine Or.inr ⟨Or.inl h, ?_⟩
          subst h; omega
        · exact Or.inl h
        · exact Or.inr ⟨Or.inr h, hne⟩
    rw [this, a1, c1]
  · intro y hy
    rcases (c3 y).1 hy with h | ⟨h, _⟩
    · subst h; exact a4 x hx
    · exact a4 y h

theorem sg_abs_find {Q : Ent} {h hI : Heap} (a : SgAbs Q h hI) {x : Ent} (hx : x ∈ h.ents) :
    findEnt hI.ents x.addr = findEnt h.ents x.addr := by
  obtain ⟨t1, t2⟩ := a.tab
  rw [entsOk_find x ((t2 x).2 (Or.inr hx)) t1, entsOk_find x hx a.2.1]

/-- unlinking a chunk other than `Q` from its bin commutes with the presence of `Q` -/
theorem sg_abs_unlink {Q : Ent} {h hI h' : Heap} (a : SgAbs Q h hI) {x : Ent} (hx : x ∈ h.ents) {sz : Nat}
    (e : unlink_chunk h x.addr sz = .ok h') :
    ∃ hI', unlink_chunk hI x.addr sz = .ok hI' ∧ SgAbs Q h' hI' := by
  have hf := sg_abs_find a hx
  obtain ⟨a1, a2, a3, a4⟩ := a
  have hfr := unlink_chunk_frame e
  have hge : getE hI x.addr = getE h x.addr := by unfold getE; rw [hf]
  have hsb : hI.sbins = h.sbins := by rw [a1]
  have htb : hI.tbins = h.tbins := by rw [a1]
  refine ⟨{ h' with ents := putEnt h'.ents Q }, ?_, rfl, by rw [hfr.ents]; exact a2, a3, by rw [hfr.ents]; exact a4⟩
  unfold unlink_chunk at e ⊢
  split at e
  · rename_i hsm
    rw [if_pos hsm]
    unfold unlink_small_chunk at e ⊢
    dsimp only at e ⊢
    have hgb : getBin hI (small_index sz) = getBin h (small_index sz) := by unfold getBin; rw [hsb]
    rw [hgb, hge]
    msimp at e
    obtain ⟨l, e1, ee, e2, _, e3, e4⟩ := e
    rw [e1, e2]
    simp only [bind, Except.bind]
    rw [(failIf_ok (u := ())).2 e3]
    simp only
    split at e4
    · rename_i hc
      rw [if_pos hc]
      msimp at e4
      subst e4
      rw [a1]
      rfl
    · msimp at e4
  · rename_i hsm
    rw [if_neg hsm]
    unfold unlink_large_chunk at e ⊢
    dsimp only at e ⊢
    rw [hge]
    msimp at e
    obtain ⟨ee, e1, t, e2, e3⟩ := e
    have hgt : getTree hI (compute_tree_index ee.size) = getTree h (compute_tree_index ee.size) := by
      unfold getTree; rw [htb]
    rw [e1]
    simp only [bind, Except.bind]
    rw [hgt, e2]
    simp only
    split at e3
    · rename_i t' ht'
      msimp at e3
      subst e3
      rw [a1]
      rfl
    · msimp at e3

theorem sg_abs_ssf {Q : Ent} {h hI : Heap} (a : SgAbs Q h hI) (hpf : Q.pfoot = 0) {n : Nat}
    (hn : Q.size ≤ n) (hn8 : n % 8 = 0) :
    set_size_and_pinuse_of_free_chunk hI Q.addr n = set_size_and_pinuse_of_free_chunk h Q.addr n := by
  unfold set_size_and_pinuse_of_free_chunk
  rw [sg_abs_writeHead a hpf hn hn8]

theorem sg_abs_fields {Q : Ent} {h hI : Heap} (a : SgAbs Q h hI) (f : Heap → Heap)
    (hf : ∀ x, (f x).ents = x.ents) (hc : f hI = { f h with ents := putEnt h.ents Q }) : SgAbs Q (f h) (f hI) := by
  obtain ⟨a1, a2, a3, a4⟩ := a
  exact ⟨by rw [hc, hf], by rw [hf]; exact a2, a3, by rw [hf]; exact a4⟩

/-- clearing a PINUSE bit that is already clear changes nothing -/
theorem sg_clearPin_noop {h : Heap} {x : Ent} (hok : entsOk h.ents = true) (hx : x ∈ h.ents) (hp : x.pin = false) :
    clearPin h x.addr = .ok h := by
  obtain ⟨pre, post, hes⟩ := List.append_of_mem hx
  rw [hes] at hok
  unfold clearPin
  rw [hes, modEnt_mid hok]
  have : ({ x with pin := false } : Ent) = x := by
    cases x; simp_all
  rw [this, ← hes]
  rfl

/-- what `prepend_alloc` does after writing the request chunk is the forward step of `dispose_chunk` on the
fictitious in-use chunk `Q = [q, q + qs)` in front of the old first header `eo` of the segment, run on the heap
without `Q` -/
theorem sg_prepend_fwd {s : St} (w : WFS s) {sq : Seg} (hsq : sq ∈ s.segs) {hP H : Heap} {q qs : Nat} {eo : Ent}
    (habs : SgAbs { addr := q, size := qs, cin := true, pin := true, pfoot := 0 } hP
      { hP with ents := putEnt hP.ents { addr := q, size := qs, cin := true, pin := true, pfoot := 0 } })
    (hPH : HeapIs hP hP.ents s.h.sbins s.h.tbins s.h.dv s.h.dvsize s.h.top s.h.topsize)
    (hsub : ∀ z ∈ s.h.ents, z ∈ hP.ents) (heoE : eo ∈ s.h.ents) (heoa : eo.addr = sq.base) (hqe : q + qs = sq.base)
    (heop : eo.pin = true) (hq8 : qs % 8 = 0) (hdvq : s.h.dv ≠ q)
    (ebr : (if sq.base = hP.top then do
        let h ← writeHead { hP with topsize := hP.topsize + qs, top := q } q (hP.topsize + qs) false true
        pure (h.tag "prepend-top")
      else if sq.base = hP.dv then do
        let h ← set_size_and_pinuse_of_free_chunk { hP with dvsize := hP.dvsize + qs, dv := q } q (hP.dvsize + qs)
        pure (h.tag "prepend-dv")
      else if (!eo.inuse) = true then do
        let h ← unlink_chunk hP sq.base eo.size
        let h ← set_free_with_pinuse h q (qs + eo.size) (sq.base + eo.size)
        insert_chunk (h.tag "prepend-free") q (qs + eo.size)
      else do
        let h ← set_free_with_pinuse hP q qs sq.base
        insert_chunk (h.tag "prepend-inuse") q qs : M Heap) = .ok H) :
    fr_Fwd { hP with ents := putEnt hP.ents { addr := q, size := qs, cin := true, pin := true, pfoot := 0 } }
      q qs (q + qs) eo H := by
  rw [hqe]
  have heom : eo ∈ hP.ents := hsub eo heoE
  have hfree16 : ∀ e ∈ s.h.ents, isFree e = true → e.size % 16 = 0 :=
    fun e he hfe => (shapeOk_free w.shape he (isFree_iff.1 hfe).1).2.1
  split at ebr
  · -- prepend-top: the old first chunk is `top`
    rename_i htp
    msimp at ebr
    obtain ⟨h3, eW, hH⟩ := ebr
    subst hH
    obtain ⟨g0, rest, pre, xt, ft, post, T⟩ := w.sgTop (w.topsize_ne hsq)
    have : eo = xt := entsOk_addr_inj w.ents heoE T.xm (by rw [T.pair.xa, heoa, htp, hPH.top])
    subst this
    have hts16 := (T.aligned w).2.1
    right; left
    refine ⟨T.pair.xc, htp, h3, "prepend-top", ?_, ?_⟩
    · refine (sg_abs_writeHead (h := { hP with topsize := hP.topsize + qs, top := q }) (n := hP.topsize + qs)
        ⟨rfl, habs.2.1, habs.2.2.1, habs.2.2.2⟩ rfl (Nat.le_add_left _ _) ?_).trans eW
      rw [hPH.topsize]; omega
    · rw [if_neg]
      rw [(writeHead_keeps eW).2.2.1]
      show q ≠ hP.dv
      rw [hPH.dv]; exact fun h => hdvq h.symm
  · rename_i hntp
    split at ebr
    · -- prepend-dv: the old first chunk is `dv`
      rename_i hdvp
      msimp at ebr
      obtain ⟨h3, eS, hH⟩ := ebr
      subst hH
      have hd := w.dv
      unfold dvOk at hd
      rw [if_neg (by have := w.addr_pos heoE; rw [← hPH.dv, ← hdvp, ← heoa]; omega)] at hd
      have hef : isFree eo = true ∧ eo.size = s.h.dvsize := by
        split at hd
        · rename_i e he
          simp only [Bool.and_eq_true, decide_eq_true_eq] at hd
          have : eo = e := entsOk_addr_inj w.ents heoE (findEnt_some he).1
            (by rw [(findEnt_some he).2, heoa, hdvp, hPH.dv])
          subst this
          exact ⟨hd.1.1, hd.1.2⟩
        · cases hd
      have hts16 := hfree16 eo heoE hef.1
      right; right; left
      refine ⟨(isFree_iff.1 hef.1).1, hntp, hdvp, h3, "prepend-dv", ?_, rfl⟩
      refine (sg_abs_ssf (h := { hP with dvsize := hP.dvsize + qs, dv := q }) (n := hP.dvsize + qs)
        ⟨rfl, habs.2.1, habs.2.2.1, habs.2.2.2⟩ rfl (Nat.le_add_left _ _) ?_).trans eS
      rw [hPH.dvsize, ← hef.2]; omega
    · rename_i hndvp
      split at ebr
      · -- prepend-free: the old first chunk is a binned free chunk
        rename_i hninuse
        have hef := sg_not_inuse hninuse
        msimp at ebr
        obtain ⟨hU, eU, hS, eSF, eIns⟩ := ebr
        have hts16 := hfree16 eo heoE hef
        rw [← heoa] at eU
        obtain ⟨hI2, eU2, hab2⟩ := sg_abs_unlink habs heom eU
        have hUf := unlink_chunk_frame eU
        -- the header after the free chunk already has PINUSE clear
        obtain ⟨pre0, y, post0, _, hes0, _, _, _, hya, _, hyp, _⟩ := w.free_parts heoE hef
          (by rw [heoa, ← hPH.top]; exact hntp)
        have hym : y ∈ hP.ents := hsub y (by rw [hes0]; simp)
        unfold set_free_with_pinuse at eSF
        msimp at eSF
        obtain ⟨hC, eC, eSS⟩ := eSF
        have hCU : hC = hU := by
          have := sg_clearPin_noop (h := hU) (x := y) (by rw [hUf.ents]; exact habs.2.1) (by rw [hUf.ents]; exact hym) hyp
          rw [hya, heoa, eC] at this
          injection this
        subst hCU
        rw [heoa] at eU2
        have hk1 : hS.dv = hC.dv := by
          unfold set_size_and_pinuse_of_free_chunk at eSS
          msimp at eSS
          obtain ⟨hw, ew, ef⟩ := eSS
          have k1 := writeHead_keeps ew
          unfold setFoot at ef
          split at ef
          · msimp at ef; subst ef; exact k1.2.2.1
          · msimp at ef
        right; right; right
        refine ⟨(isFree_iff.1 hef).1, hntp, hndvp, hI2, hS, eU2, ?_, Or.inr ⟨?_, "prepend-free", eIns⟩⟩
        · exact (sg_abs_ssf (n := qs + eo.size) hab2 rfl (Nat.le_add_right _ _) (by omega)).trans eSS
        · rw [hk1, hUf.dv, hPH.dv]; exact fun h => hdvq h.symm
      · -- prepend-inuse: the old first chunk is in use
        rename_i hinuse
        have hec : eo.cin = true := by
          unfold Ent.inuse at hinuse
          rw [heop] at hinuse
          cases hc : eo.cin with
          | true => rfl
          | false => rw [hc] at hinuse; simp at hinuse
        msimp at ebr
        obtain ⟨hS, eSF, eIns⟩ := ebr
        unfold set_free_with_pinuse at eSF
        msimp at eSF
        obtain ⟨hC, eC, eSS⟩ := eSF
        obtain ⟨hIC, eIC, habC⟩ := sg_abs_clearPin habs heom heoa eC
        left
        refine ⟨hec, hS, "prepend-inuse", ?_, eIns⟩
        unfold set_free_with_pinuse
        rw [eIC]
        exact (sg_abs_ssf (n := qs) habC rfl (Nat.le_refl _) hq8).trans eSS

theorem sg_prepend_spec : sg_prepend_Spec := by
  intro s hi htn tbase tsize nb hf hnb hsz sq hsq hsqb q0 ev0 fp0 mf0 la0 hla0 s' mem h
  have w := hi.wfs
  have hp1 : align_as_chunk tbase = tbase :=
    align_as_chunk_aligned tbase (by have := hf.page; omega) (by have := hf.fresh.2.2.1; omega)
  have hp2 : align_as_chunk sq.base = sq.base := by
    have := w.seg_bounds hsq
    exact align_as_chunk_aligned sq.base (by omega) (by omega)
  unfold prepend_alloc at h
  dsimp only at h
  rw [hp1, hp2, MEM_OFFSET_eq, MIN_CHUNK_SIZE_eq, show sq.base - tbase - nb = tsize - nb by omega] at h
  clear hp1 hp2
  msimp at h
  obtain ⟨_, _, hP, eP, eo, heo, _, _, _, heop, _, _, H, ebr, hres⟩ := h
  simp only [Prod.mk.injEq] at hres
  obtain ⟨hres1, hres2⟩ := hres
  subst hres1; subst hres2
  simp only [Bool.not_eq_false'] at heop
  have hpos0 := entsOk_pos w.ents
  have hfresh := hf.ents w
  have hnoP : ∀ z ∈ s.h.ents, z.addr ≠ tbase ∧ z.addr ≠ tbase + nb := by
    intro z hz
    have := hpos0 z hz
    rcases hfresh z hz with h | h <;> omega
  -- the request chunk `P`
  unfold set_size_and_pinuse_of_inuse_chunk at eP
  obtain ⟨p1, p2, p3⟩ := sg_writeHead_fresh eP (by exact w.ents) (by have := hnb.2.1; omega) (by
    intro y hy
    rcases hfresh y hy with h | h
    · exact Or.inl h
    · exact Or.inr (by omega))
  replace p3 : ∀ z, z ∈ hP.ents ↔ z = { addr := tbase, size := nb, cin := true, pin := true, pfoot := 0 } ∨ z ∈ s.h.ents := p3
  have hPH : HeapIs hP hP.ents s.h.sbins s.h.tbins s.h.dv s.h.dvsize s.h.top s.h.topsize := by
    rw [p1]; exact ⟨rfl, rfl, rfl, rfl, rfl, rfl, rfl⟩
  -- the fictitious in-use remainder `Q`
  have habs : SgAbs { addr := tbase + nb, size := tsize - nb, cin := true, pin := true, pfoot := 0 } hP
      { hP with ents := putEnt hP.ents { addr := tbase + nb, size := tsize - nb, cin := true, pin := true, pfoot := 0 } } := by
    refine ⟨rfl, p2, by simp only; omega, fun y hy => ?_⟩
    simp only
    rcases (p3 y).1 hy with rfl | h
    · exact Or.inl (Nat.le_refl _)
    · rcases hfresh y h with h' | h' <;> omega
  obtain ⟨i1, i2⟩ := habs.tab
  obtain ⟨l1, l2, hsplit, hnot⟩ := sg_split_first hsq
  have hPQ : shapeOk [({ addr := tbase, size := nb, cin := true, pin := true, pfoot := 0 } : Ent),
      { addr := tbase + nb, size := tsize - nb, cin := true, pin := true, pfoot := 0 }] = true := by
    have := hf.page; have := hf.gran; have := hnb.1; have := hnb.2.1
    simp only [shapeOk, List.all_cons, List.all_nil, Bool.and_true, Bool.and_eq_true, Bool.or_eq_true, decide_eq_true_eq]
    exact ⟨Or.inr ⟨⟨by omega, by omega⟩, by omega⟩, Or.inr ⟨⟨by omega, by omega⟩, by omega⟩⟩
  obtain ⟨iI, iU, eoI, heoI, heoIm, heoIp⟩ := sg_prepend_mid (I := { (St.tag { s with osq := q0, evs := ev0, footprint := fp0, maxfp := mf0, least_addr := la0, segs := replaceSeg s.segs sq { sq with base := tbase, size := sq.size + tsize } } "sys-prepend") with h := { hP with ents := putEnt hP.ents { addr := tbase + nb, size := tsize - nb, cin := true, pin := true, pfoot := 0 } } })
    hi hsplit hf hsqb hPQ rfl hnb.2.1 rfl rfl rfl (by simp only; omega) rfl rfl (by simp only; omega) i1
    (fun z => by rw [i2 z, p3 z]; exact or_left_comm)
    (by show replaceSeg s.segs sq _ = _; rw [hsplit]; exact sg_replaceSeg_split hnot)
    ⟨rfl, hPH.sbins, hPH.tbins, hPH.dv, hPH.dvsize, hPH.top, hPH.topsize⟩ hla0
  replace iU : ∀ a z, User _ a z ↔ (User s a z ∨ (a = tbase ∧ z = nb) ∨ (a = tbase + nb ∧ z = tsize - nb)) := iU
  clear hla0
  -- the old first header of the segment
  have heq : eo = eoI := by
    have := entsOk_find eoI ((p3 eoI).2 (Or.inr heoIm)) p2
    rw [(findEnt_some heoI).2, getE_ok.1 heo] at this
    injection this
  subst heq
  have hdvq : s.h.dv ≠ tbase + nb := by
    intro hd
    obtain ⟨x, hxm, hxa, _⟩ := w.dv_parts (by
      intro h0
      have hd' := w.dv
      unfold dvOk at hd'
      rw [if_neg (by have := hf.fresh.2.1; omega)] at hd'
      split at hd'
      · simp only [Bool.and_eq_true, decide_eq_true_eq] at hd'; omega
      · cases hd')
    exact (hnoP x hxm).2 (hxa.trans hd)
  have hqs : tbase + nb + (tsize - nb) = sq.base := by omega
  have hfwd := sg_prepend_fwd w hsq habs hPH (fun z hz => (p3 z).2 (Or.inr hz)) heoIm (findEnt_some heoI).2 hqs heop
    (by have := hf.gran; have := hnb.1; omega) hdvq ebr
  have hu := (iU (tbase + nb) (tsize - nb)).2 (Or.inr (Or.inr ⟨rfl, rfl⟩))
  have hcore := fr_core iI hu ((sg_find_iff i1).2 ⟨(i2 _).2 (Or.inl rfl), rfl⟩) (by rw [hqs]; exact heoI)
    (Or.inl ⟨rfl, rfl, rfl, rfl, rfl⟩) (Or.inr ⟨rfl, hfwd⟩)
  obtain ⟨iF, hFr⟩ := gl_sinv_freeAtTab iI hcore.1 hu hcore.2
  refine ⟨iF, by omega, by omega, by have := hf.page; omega, ?_, nb, Nat.le_refl _, fun a z => ?_⟩
  · rintro z ⟨e, he, _⟩
    rw [show tbase + 16 - 16 = tbase by omega] at he
    exact (hnoP e (findEnt_some he).1).1 (findEnt_some he).2
  · rw [show tbase + 16 - 16 = tbase by omega]
    have h1 := hFr a z
    rw [show tbase + nb + 16 - 16 = tbase + nb by omega] at h1
    rw [h1, iU a z]
    constructor
    · rintro ⟨h | h | h, hne⟩
      · exact Or.inl h
      · exact Or.inr h
      · exact absurd h.1 hne
    · rintro (h | h)
      · refine ⟨Or.inl h, fun ha => ?_⟩
        obtain ⟨e, he, _⟩ := h
        exact (hnoP e (findEnt_some he).1).2 (by rw [(findEnt_some he).2]; exact ha)
      · exact ⟨Or.inr (Or.inl h), by have := h.1; have := hnb.2.1; omega⟩

/-- **`sys_alloc`** keeps the invariant; it hands out one new user chunk, or nothing -/
theorem sg_sys_alloc_spec : sys_alloc_Spec := sg_sys_alloc_of_prepend sg_prepend_spec

/-! ## non-vacuity: every branch of `sys_alloc`, `sys_trim`, `release_unused_segments` on reachable states -/

/-- the state reached by `ops`, ready for an OS-level call with the answers `os` -/
def sgStart (ops : List (Op × List OsDir)) (os : List OsDir) : St :=
  { (fr_state ops).st with osq := os, evs := [], h := { (fr_state ops).st.h with tr := [] } }

theorem sg_start_sinv {ops : List (Op × List OsDir)} (h : fr_invB (fr_state ops) = true) (os : List OsDir) :
    SInv (sgStart ops os) :=
  sg_sinv_same (fr_inv_of_check h).1 ⟨rfl, rfl, rfl, rfl, rfl, rfl, rfl⟩ rfl rfl (fun _ => rfl)

def sgOsOkB (s : St) (tb len : Nat) : Bool :=
  decide (tb % 16 = 0) && decide (0 < tb) && decide (tb + len ≤ 2 ^ 64) &&
    (s.segs.all fun g => decide (tb + len ≤ g.base) || decide (g.base + g.size ≤ tb)) && decide (tb % 4096 = 0)

theorem sg_osOk_of_check {s : St} {tb len : Nat} (hq : s.osq = [.m (some tb)]) (h : sgOsOkB s tb len = true) :
    OsOk s len := by
  intro tbase q hq'
  rw [hq] at hq'
  injection hq' with h1 _
  injection h1 with h1
  injection h1 with h1
  subst h1
  unfold sgOsOkB at h
  simp only [Bool.and_eq_true, decide_eq_true_eq, List.all_eq_true, Bool.or_eq_true] at h
  exact ⟨⟨h.1.1.1.1, h.1.1.1.2, h.1.1.2, h.1.2⟩, h.2⟩

/-- on the state reached by `ops` the hypotheses of `sys_alloc_Spec` hold for the mapping `tb` and the padded
request `nb`, and `sys_alloc` serves the request through the branches tagged `tags` -/
def sgCaseAlloc (ops : List (Op × List OsDir)) (tb nb : Nat) (tags : List String) : Bool :=
  fr_invB (fr_state ops) && decide (nb % 16 = 0) && decide (32 ≤ nb) && decide (nb < 2 ^ 63) &&
  sgOsOkB (sgStart ops [.m (some tb)]) tb (sysLen nb) &&
  match sys_alloc (sgStart ops [.m (some tb)]) nb with
  | .ok (s', mem) => decide (mem ≠ 0) && tags.all fun t => s'.h.tr.contains t
  | .error _ => false

theorem sgCaseAlloc_sound {ops : List (Op × List OsDir)} {tb nb : Nat} {tags : List String}
    (h : sgCaseAlloc ops tb nb tags = true) :
    ∃ s s' mem, SInv s ∧ NbOk nb ∧ OsOk s (sysLen nb) ∧ sys_alloc s nb = .ok (s', mem) ∧ mem ≠ 0 ∧
      ∀ t ∈ tags, t ∈ s'.h.tr := by
  unfold sgCaseAlloc at h
  simp only [Bool.and_eq_true, decide_eq_true_eq] at h
  obtain ⟨⟨⟨⟨⟨h1, h2⟩, h3⟩, h4⟩, h5⟩, h6⟩ := h
  split at h6
  · rename_i s' mem heq
    simp only [Bool.and_eq_true, decide_eq_true_eq, List.all_eq_true, List.contains_iff_mem] at h6
    exact ⟨_, s', mem, sg_start_sinv h1 _, ⟨h2, h3, h4⟩, sg_osOk_of_check rfl h5, heq, h6.1, h6.2⟩
  · cases h6

def sgCaseTrim (ops : List (Op × List OsDir)) (os : List OsDir) (tag : String) : Bool :=
  fr_invB (fr_state ops) &&
  match sys_trim (sgStart ops os) 0 with
  | .ok (s', _) => s'.h.tr.contains tag
  | .error _ => false

theorem sgCaseTrim_sound {ops : List (Op × List OsDir)} {os : List OsDir} {tag : String}
    (h : sgCaseTrim ops os tag = true) :
    ∃ s s' b, SInv s ∧ sys_trim s 0 = .ok (s', b) ∧ tag ∈ s'.h.tr := by
  unfold sgCaseTrim at h
  simp only [Bool.and_eq_true] at h
  obtain ⟨h1, h2⟩ := h
  split at h2
  · rename_i s' b heq
    exact ⟨_, s', b, sg_start_sinv h1 _, heq, List.contains_iff_mem.1 h2⟩
  · cases h2

def sgCaseRel (ops : List (Op × List OsDir)) (os : List OsDir) (tag : String) (nsegs : Nat) : Bool :=
  fr_invB (fr_state ops) &&
  match release_unused_segments (sgStart ops os) with
  | .ok (s', _) => s'.h.tr.contains tag && decide (s'.segs.length = nsegs)
  | .error _ => false

theorem sgCaseRel_sound {ops : List (Op × List OsDir)} {os : List OsDir} {tag : String} {n : Nat}
    (h : sgCaseRel ops os tag n = true) :
    ∃ s s' r, SInv s ∧ release_unused_segments s = .ok (s', r) ∧ tag ∈ s'.h.tr ∧ s'.segs.length = n := by
  unfold sgCaseRel at h
  simp only [Bool.and_eq_true] at h
  obtain ⟨h1, h2⟩ := h
  split at h2
  · rename_i s' r heq
    simp only [Bool.and_eq_true, decide_eq_true_eq] at h2
    exact ⟨_, s', r, sg_start_sinv h1 _, heq, List.contains_iff_mem.1 h2.1, h2.2⟩
  · cases h2

/-- blocks 1, 5 freed into a `dv` that starts the segment -/
def sgOpsDv : List (Op × List OsDir) :=
  [(.malloc 1 100 8, [.m (some 2097152)]), (.malloc 2 100 8, []), (.malloc 3 100 8, []), (.free 2, []),
   (.malloc 5 8 8, []), (.free 5, []), (.free 1, [])]

/-- two segments; the old one holds only a free chunk, its record chunk and fenceposts -/
def sgOpsTwo : List (Op × List OsDir) :=
  [(.malloc 1 100 8, [.m (some 1048576)]), (.malloc 2 100000 8, [.m (some 4194304)]), (.free 1, [])]

set_option maxRecDepth 100000 in
/-- the hypotheses of `sg_sys_alloc_spec` are satisfiable on every branch of `sys_alloc_place` -/
example :
    sgCaseAlloc [] 1048576 112 ["sys-init"] = true ∧
    sgCaseAlloc [(.malloc 1 100 8, [.m (some 1048576)])] 1114112 70000 ["sys-extend"] = true ∧
    sgCaseAlloc [(.malloc 1 100 8, [.m (some 1048576)])] 4194304 112 ["sys-addseg", "addseg-oldtop-binned"] = true ∧
    sgCaseAlloc [(.malloc 1 65432 8, [.m (some 1048576)])] 4194304 112 ["sys-addseg", "addseg-oldtop-consumed"] = true ∧
    sgCaseAlloc [(.malloc 1 100 8, [.m (some 2097152)])] 2031616 112 ["sys-prepend", "prepend-inuse"] = true ∧
    sgCaseAlloc [(.malloc 1 100 8, [.m (some 2097152)]), (.malloc 2 100 8, []), (.free 1, [])] 2031616 112
      ["sys-prepend", "prepend-free"] = true ∧
    sgCaseAlloc sgOpsDv 2031616 112 ["sys-prepend", "prepend-dv"] = true ∧
    sgCaseAlloc [(.malloc 1 100 8, [.m (some 2097152)]), (.free 1, [])] 2031616 112 ["sys-prepend", "prepend-top"] = true :=
  ⟨by decide, by decide, by decide, by decide, by decide, by decide, by decide, by decide⟩

set_option maxRecDepth 100000 in
/-- … of `sg_sys_trim_spec` (the head segment shrinks) and `sg_release_unused_segments_spec` (a segment is
unmapped; the OS refuses and the chunk goes back into its tree bin) -/
example :
    sgCaseTrim [(.malloc 1 100000 8, [.m (some 1048576)]), (.free 1, [])] [.r true] "trimmed" = true ∧
    sgCaseRel sgOpsTwo [.u true] "segment-released" 1 = true ∧
    sgCaseRel sgOpsTwo [.u false] "segment-unmap-refused" 2 = true :=
  ⟨by decide, by decide, by decide⟩

/-! ## why `TailOk` had to be added: a kernel-checked counterexample

A state satisfying `WF`, `RecsOk`, `FenceOk`, `HeadOk`, `RecIn` (everything of `SInv` but `TailOk`) in which a
live 32-byte chunk hides in the last 80 bytes of a non-head segment, behind the segment's only other chunk,
a free one (`dv`).  `free` of the block next to `top` triggers `sys_trim`, whose `release_unused_segments`
looks at the first chunk only, unmaps the segment — and the live chunk with it: `liveOk` fails. -/

def sgCexSt : St :=
  { h := {
      ents := [
        { addr := 1048576, size := 65472, cin := false, pin := true, pfoot := 0 },
        { addr := 1114048, size := 32, cin := true, pin := false, pfoot := 65472 },
        { addr := 1114080, size := 16, cin := true, pin := true, pfoot := 0 },
        { addr := 1114096, size := 8, cin := true, pin := true, pfoot := 0 },
        { addr := 4194304, size := 112, cin := true, pin := true, pfoot := 0 },
        { addr := 4194416, size := 65344, cin := false, pin := true, pfoot := 0 },
        { addr := 4259760, size := 80, cin := false, pin := false, pfoot := 0 }],
      sbins := emptyBins, tbins := emptyTrees, dv := 1048576, dvsize := 65472,
      top := 4194416, topsize := 65344, tr := [] },
    segs := [{ base := 4194304, size := 65536, recAt := 0 }, { base := 1048576, size := 65536, recAt := 1114096 }],
    footprint := 131072, maxfp := 131072, trim_check := 0, release_checks := 4095, least_addr := 1048576,
    osq := [], evs := [] }

def sgCex : Hist :=
  { st := sgCexSt,
    live := [{ id := 1, ptr := 1114064, size := 16, align := 8 }, { id := 2, ptr := 4194320, size := 100, align := 8 }] }

set_option maxRecDepth 40000 in
theorem sg_tailOk_needed :
    WF sgCex ∧ RecsOk sgCex.st ∧ FenceOk sgCex.st ∧ HeadOk sgCex.st ∧ RecIn sgCex.st ∧ ¬ TailOk sgCex.st ∧
    ∃ hs' out, sgCex.step (.free 2) [.r true, .u true] = .ok (hs', out) ∧ ¬ WF hs' := by
  refine ⟨by unfold WF; decide, gl_recsOk_of_check (by decide), gl_fenceOk_of_check (by decide),
    gl_headOk_of_check (by decide), gl_recIn_of_check (by decide), ?_, ?_⟩
  · intro h
    have := h { base := 1048576, size := 65536, recAt := 1114096 } (by decide) (by decide)
      { addr := 1114048, size := 32, cin := true, pin := false, pfoot := 65472 } (by decide) (by decide)
    revert this
    decide
  · obtain ⟨v, hv, hp⟩ := matchB_ok (x := sgCex.step (.free 2) [.r true, .u true])
      (p := fun v => !wfb v.1) (by decide)
    simp only [Bool.not_eq_true'] at hp
    exact ⟨v.1, v.2, hv, by unfold WF; rw [hp]; decide⟩

end TinyVerif.Dl
