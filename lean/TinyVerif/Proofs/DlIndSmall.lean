import TinyVerif.Proofs.DlIndMalloc
/-!
# `small-bin` branch of `malloc_nosys` preserves `WFS`

`take_first_small` (unlink the newest chunk of a small bin) followed by `set_inuse_and_pinuse`
(the *exhaust* table change): the generic exhaust of `Proofs/DlIndMalloc.lean` on a small bin.
-/
namespace TinyVerif.Dl

theorem small_bin_wfs {s : St} (w : WFS s) {idx p : Nat} {h1 h2 : Heap}
    (e1 : take_first_small s.h idx = .ok (h1, p))
    (e2 : set_inuse_and_pinuse h1 p (small_index2size idx) = .ok h2) (t : String) :
    WFS { s with h := h2.tag t } ∧ AllocAt s.h.ents (h2.tag t).ents (small_index2size idx) p :=
  mn_small_next_exhaust_wfs w e1 (Nat.le_refl _) e2 t

/-- the `small-bin` branch of `malloc_nosys` (a small request whose exact bin, or the next one, is
non-empty) preserves `WFS`; `idx` is the bin the chunk was taken from -/
theorem malloc_nosys_small_bin_wfs {s : St} (w : WFS s) {size : Nat} (hs : size ≤ MAX_SMALL_REQUEST)
    (hbits : (smallmap s.h >>> small_index (request2size size)) &&& 3 ≠ 0) {h' : Heap} {mem : Nat}
    (hh : malloc_nosys s.h size = .ok (.done h' mem)) :
    WFS { s with h := h' } ∧ ∃ idx, AllocFacts s.h.ents h'.ents (small_index2size idx) mem := by
  unfold malloc_nosys at hh
  dsimp only at hh
  rw [if_pos hs, if_pos hbits] at hh
  msimp at hh
  obtain ⟨⟨h1, p⟩, e1, h2, e2, hh⟩ := hh
  injection hh with hh1 hh2
  subst hh1; subst hh2
  obtain ⟨r1, r2⟩ := small_bin_wfs w e1 e2 "small-bin"
  exact ⟨r1, _, p, by rw [MEM_OFFSET_eq], r2⟩

/-! ### non-vacuity -/

/-- `pilotState` one step earlier: the freed 112-byte chunk sits in small bin 14 -/
def smallState : Hist := match Hist.init.run (pilotOps.take 4) with
  | .ok (hs, _) => hs
  | .error _ => Hist.init

set_option maxRecDepth 40000 in
/-- the hypotheses of `malloc_nosys_small_bin_wfs` hold on `smallState` for a 100-byte request -/
example : WFS smallState.st ∧ (100 : Nat) ≤ MAX_SMALL_REQUEST ∧
    (smallmap smallState.st.h >>> small_index (request2size 100)) &&& 3 ≠ 0 ∧
    (match malloc_nosys smallState.st.h 100 with
      | .ok (.done h' _) => h'.tr.getLast? == some "small-bin"
      | _ => false) = true :=
  ⟨((wf_iff_wfs smallState).1 (by unfold WF; decide +kernel)).1, by decide +kernel⟩

end TinyVerif.Dl
