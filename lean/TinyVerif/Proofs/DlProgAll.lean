import TinyVerif.Proofs.DlProgStep
import TinyVerif.Proofs.DlProgMalloc
import TinyVerif.Proofs.DlProgFree
import TinyVerif.Proofs.DlProgRealloc
import TinyVerif.Proofs.DlProgSys
/-!
# The progress proof, assembled

Every leaf progress theorem of `Proofs/DlProgSpec.lean` discharged by the file that proves it, the entry-point
progress theorems of `Proofs/DlProgStep.lean` instantiated with them, and the closed step / run theorems.

    Inv3 hs := Inv2 hs ∧ RcOk hs.st ∧ FpOk hs.st

* `step_progress` — from `Inv3`, an operation the caller is entitled to make (`OpOk`, `ValidOp`) has no error outcome
  other than the `os-desync:*` ones (the list of OS answers handed to `step` does not match the system calls made):
  no `debug_assert!` of the port fails, no subtraction underflows, no header is read before it is written, no dead
  direct-mmap branch is taken, every chunk is found in the bin it should be in.
* `inv3_step` — `Inv3` is preserved by every successful step.
* `run_progress` — from `Hist.init`, a history whose operations are `OpOk` / `ValidOp` when they are applied either
  ends `.ok` in a state satisfying `Inv3` or stops with a desync error.
-/
namespace TinyVerif.Dl

/-! ## the leaf progress theorems -/

theorem all_malloc_nosys_prog : malloc_nosys_Prog := mp_malloc_nosys_prog
theorem all_dispose_chunk_prog : dispose_chunk_Prog := fp_dispose_chunk_prog
theorem all_free_heap_prog : free_heap_Prog := fp_free_heap_prog
theorem all_split_inuse_prog : split_inuse_Prog := rp_split_inuse_prog
theorem all_try_realloc_chunk_prog : try_realloc_chunk_Prog := rp_try_realloc_chunk_prog all_dispose_chunk_prog
theorem all_memalign_fix_prog : memalign_fix_Prog := rp_memalign_fix_prog all_dispose_chunk_prog
theorem all_sys_alloc_prog : sys_alloc_Prog := sp_sys_alloc_prog
theorem all_release_unused_segments_prog : release_unused_segments_Prog := sp_release_unused_segments_prog
theorem all_sys_trim_prog : sys_trim_Prog := sp_sys_trim_prog

/-! ## the entry points -/

theorem all_inner_malloc_prog : inner_malloc_Prog := ap_inner_malloc_prog all_malloc_nosys_prog all_sys_alloc_prog
theorem all_free_prog : free_Prog :=
  ap_free_prog all_free_heap_prog all_sys_trim_prog all_release_unused_segments_prog
theorem all_malloc_prog : malloc_Prog := ap_malloc_prog all_inner_malloc_prog all_memalign_fix_prog
theorem all_realloc_prog : realloc_Prog :=
  ap_realloc_prog all_try_realloc_chunk_prog all_inner_malloc_prog all_free_prog all_malloc_prog

theorem all_calloc_prog {s : St} (hi : SInv s) {size k : Nat} (hk : k ≤ 32)
    (hbig : nbOf (reqOf size (2 ^ k)) < 2 ^ 63) (hos : OsOk s (mapSize (reqOf size (2 ^ k)))) :
    Prog (calloc s size (2 ^ k)) :=
  ap_calloc_prog all_malloc_prog hi hk hbig hos

/-! ## the closed theorems -/

/-- **progress of one step** -/
theorem step_progress {hs : Hist} {op : Op} {os : List OsDir} (hi : Inv2 hs) (hrc : RcOk hs.st) (hfp : FpOk hs.st)
    (hop : OpOk hs op os) (hv : ValidOp hs op) : ∀ e, hs.step op os = .error e → StepErr e :=
  step_progress_of_entry_progs all_malloc_prog all_free_prog all_realloc_prog hi hrc hfp hop hv

/-- the same as a dichotomy: the step runs, or it stops with a desync error -/
theorem step_ok_or_desync {hs : Hist} {op : Op} {os : List OsDir} (hi : Inv3 hs) (hop : OpOk hs op os)
    (hv : ValidOp hs op) : (∃ hs' out, hs.step op os = .ok (hs', out)) ∨ (∃ e, hs.step op os = .error e ∧ StepErr e) := by
  cases h : hs.step op os with
  | ok v => exact Or.inl ⟨v.1, v.2, rfl⟩
  | error e => exact Or.inr ⟨e, rfl, step_progress hi.1 hi.2.1 hi.2.2 hop hv e h⟩

/-- **the invariant of the progress theorem is preserved by every successful step** -/
theorem inv3_step {hs hs' : Hist} {op : Op} {os : List OsDir} {out : Out}
    (hi : Inv2 hs ∧ RcOk hs.st ∧ FpOk hs.st) (hop : OpOk hs op os) (h : hs.step op os = .ok (hs', out)) :
    Inv2 hs' ∧ RcOk hs'.st ∧ FpOk hs'.st :=
  ap_inv3_step hi hop h

/-- **progress of a history** from the initial state -/
theorem run_progress {ops : List (Op × List OsDir)} (hok : RunOk2 Hist.init ops) :
    (∃ hs' evs, Hist.init.run ops = .ok (hs', evs) ∧ Inv2 hs' ∧ RcOk hs'.st ∧ FpOk hs'.st) ∨
    (∃ e, Hist.init.run ops = .error e ∧ StepErr e) := by
  cases h : Hist.init.run ops with
  | ok v => exact Or.inl ⟨v.1, v.2, rfl, ap_run_inv ops inv3_init hok h⟩
  | error e =>
    exact Or.inr ⟨e, rfl, run_progress_from all_malloc_prog all_free_prog all_realloc_prog ops inv3_init hok e h⟩

/-- … and of every prefix of it -/
theorem run_progress_prefix {a b : List (Op × List OsDir)} (hok : RunOk2 Hist.init (a ++ b)) :
    (∃ hs' evs, Hist.init.run a = .ok (hs', evs) ∧ Inv2 hs' ∧ RcOk hs'.st ∧ FpOk hs'.st) ∨
    (∃ e, Hist.init.run a = .error e ∧ StepErr e) :=
  run_progress hok.prefix

/-! ## non-vacuity (kernel-evaluated) -/

set_option maxRecDepth 40000 in
/-- `Inv3` on the demo state of `Proofs/DlIndStep.lean` (two segments, a segment record, fenceposts, a binned chunk,
three live blocks, the countdown running, footprint = sum of the segment sizes) -/
theorem all_demo_inv3 : Inv3 as_demo ∧ as_demo.st.footprint = 196608 :=
  ⟨⟨as_demo_inv2.1, ap_demo_rcOk.1, by unfold FpOk; decide⟩, by decide⟩

set_option maxRecDepth 40000 in
/-- the hypotheses of `step_progress` hold for a moving `realloc` that is handed no OS answer; the theorem then says
how the step can stop, and evaluation confirms it -/
example : ∃ e, as_demo.step (.realloc 4 200000) [] = .error e ∧ StepErr e ∧ e = "os-desync:mmap" := by
  have hop : OpOk as_demo (.realloc 4 200000) [] := by
    intro b hb
    have hfb : findBlock as_demo.live 4 = some { id := 4, ptr := 4194320, size := 70000, align := 8 } := by decide
    rw [hfb] at hb
    injection hb with hb
    subst hb
    exact ⟨by unfold as_BigOk; decide, fun tbase q hq => by cases hq⟩
  have hv : ValidOp as_demo (.realloc 4 200000) := by unfold ValidOp; decide
  obtain ⟨e, he, hp⟩ := ap_err_of_matchB (x := as_demo.step (.realloc 4 200000) [])
    (p := fun e => decide (e = "os-desync:mmap")) (by decide)
  simp only [decide_eq_true_eq] at hp
  exact ⟨e, he, step_progress all_demo_inv3.1.1 all_demo_inv3.1.2.1 all_demo_inv3.1.2.2 hop hv e he, hp⟩

set_option maxRecDepth 40000 in
/-- the hypotheses of `inv3_step` for a `free` that merges into `top` (`sys_trim` is considered) -/
example : ∃ hs' out, OpOk as_demo (.free 4) [] ∧ ValidOp as_demo (.free 4) ∧
    as_demo.step (.free 4) [] = .ok (hs', out) ∧ Inv3 hs' := by
  obtain ⟨v, hv, _⟩ := as_ok_of_matchB (x := as_demo.step (.free 4) []) (p := fun _ => true) (by decide)
  exact ⟨v.1, v.2, trivial, by unfold ValidOp; decide, hv, inv3_step all_demo_inv3.1 (op := .free 4) trivial hv⟩

set_option maxRecDepth 40000 in
/-- the hypothesis of `run_progress` on a short history, which runs to the end -/
example : RunOk2 Hist.init [(.malloc 1 100 8, [.m (some 1048576)]), (.free 1, [])] ∧
    ∃ hs' evs, Hist.init.run [(.malloc 1 100 8, [.m (some 1048576)]), (.free 1, [])] = .ok (hs', evs) ∧ Inv3 hs' := by
  have hok := ap_runOk2_malloc_free
  refine ⟨hok, ?_⟩
  rcases run_progress hok with ⟨hs', evs, h, hi⟩ | ⟨e, he, _⟩
  · exact ⟨hs', evs, h, hi⟩
  · exfalso
    obtain ⟨v, hv, _⟩ := as_ok_of_matchB
      (x := Hist.init.run [(.malloc 1 100 8, [.m (some 1048576)]), (.free 1, [])]) (p := fun _ => true) (by decide)
    rw [hv] at he
    cases he

end TinyVerif.Dl
