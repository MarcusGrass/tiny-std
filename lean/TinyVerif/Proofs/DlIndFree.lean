import TinyVerif.Proofs.DlIndGlue
/-!
# `free_heap` / `dispose_chunk`: foundations (tag `fr_`)

The coalescing code shared by `free_heap` and `dispose_chunk` merges the user chunk `x` being freed with a
free predecessor `wv` (if `x.pin = false`) and a free successor `n` (if `n.cin = false`; `n` may be `top`,
`dv` or a binned chunk).  This file provides, generically in the run `a :: as` of headers that is merged
(`[x]`, `[wv, x]`, `[x, n]`, `[wv, x, n]`) and the header `y` after it (the in-use successor, or the foot
word after `top`):

1. neighbours (`fr_ff_end`, a header with both flag bits clear is the last header of the head segment, is in
   `Proofs/DlIndGlue.lean`): `fr_prev_free` (`x.pin = false` ⇒ the header before `x` is a free chunk other than `top`, of size
   `x.pfoot`), `fr_next` (the header after a user chunk: not a fencepost, `PINUSE` set);
2. `fr_merge_table`: the table change `pre ++ (a :: as ++ [y]) ++ post ↦ pre ++ [m, y'] ++ post`
   (`StructOk`, the in-use headers: `FreeAtTab`, the free headers of the new window);
3. the heap primitives on such a run as equations: `fr_set_free_at` (`set_free_with_pinuse`),
   `fr_set_size_free_at` (`set_size_and_pinuse_of_free_chunk`), `fr_writeHead_run`;
4. bookkeeping: `fr_Unl` ("the chunks `rem` have been unlinked from their bins"), `fr_freeListOk`,
   `fr_bins_frame`;
5. the window of a `free` (`fr_Win`; built by `fr_win0`, `fr_win1`, `fr_win_snoc`) and the three ways it ends:
   the merged chunk goes to a bin (`fr_insert_wfs`), becomes `dv` (`fr_dv_wfs`) or becomes `top` (`fr_top_wfs`).

The two halves of the coalescing code as relations, the core theorem and the two interface theorems are in
`Proofs/DlIndFree2.lean`.
-/
namespace TinyVerif.Dl

open List

/-! ## 1. neighbours -/

/-- the first header of a segment has `PINUSE` set -/
theorem fr_first_pin {s : St} (w : WFS s) {x : Ent} (hx : x ∈ s.h.ents) {g : Seg} (hg : g ∈ s.segs)
    (hgx : inSeg g x = true) (hb : x.addr = g.base) : x.pin = true := by
  have htg := w.struct.tags_of hg
  have htl := w.struct.tiles_of hg
  have hxs : x ∈ segEnts s.h.ents g := mem_segEnts.2 ⟨hx, hgx⟩
  cases hl : segEnts s.h.ents g with
  | nil => rw [hl] at hxs; cases hxs
  | cons a r =>
    rw [hl] at htg htl
    have ham : a ∈ s.h.ents := (mem_segEnts.1 (by rw [hl]; exact List.mem_cons_self)).1
    have haa := tiles_head_addr htl
    have := entsOk_addr_inj w.ents hx ham (by omega)
    subst this
    exact ((tagsOk_cons_iff _ true x r).1 htg).1

/-- **backward neighbour**: an in-use header with `PINUSE` clear comes right after a free chunk other than
`top`, in the same segment, whose size is its `prev_foot` -/
theorem fr_prev_free {s : St} (w : WFS s) {x : Ent} (hx : x ∈ s.h.ents) (hxc : x.cin = true) (hxp : x.pin = false) :
    ∃ pre wv post g, s.h.ents = pre ++ wv :: x :: post ∧ g ∈ s.segs ∧ inSeg g wv = true ∧ inSeg g x = true ∧
      isFree wv = true ∧ wv.addr ≠ s.h.top ∧ x.addr = wv.addr + wv.size ∧ x.pfoot = wv.size := by
  obtain ⟨g, hg, hgx⟩ := w.struct.seg_of hx
  have hnb : x.addr ≠ g.base := by
    intro hb
    rw [fr_first_pin w hx hg hgx hb] at hxp; cases hxp
  obtain ⟨wv, hwm, hgw, hxa, hl⟩ := gl_prev_entry w.struct hx hg hgx hnb
  have hl' := hl
  unfold linkOk at hl
  simp only [Bool.and_eq_true, beq_iff_eq] at hl
  have hwc : wv.cin = false := by rw [← hl.1, hxp]
  have hwp : wv.pin = true := by
    cases hp : wv.pin with
    | true => rfl
    | false =>
      exfalso
      obtain ⟨g', rest', hsg', hgw', hend⟩ := fr_ff_end w hwm hwc hp
      have hg' : g' ∈ s.segs := hsg' ▸ List.mem_cons_self
      have : g' = g := gl_seg_unique w.segsDisjoint hg' hg hgw' hgw rfl
      subst this
      have := inSeg_iff.1 hgx
      omega
  have hwf : isFree wv = true := isFree_iff.2 ⟨hwc, hwp⟩
  have hwt : wv.addr ≠ s.h.top := by
    intro ht
    have := linkOk_top hl' hwf ht
    rw [hxc] at this; cases this.1
  obtain ⟨_, _, hpf⟩ := linkOk_free hl' hwf hwt
  obtain ⟨pre, post, hes⟩ := gl_adjacent_of_mem w.ents hwm hx hxa
  exact ⟨pre, wv, post, g, hes, hg, hgw, hgx, hwf, hwt, hxa, hpf⟩

/-- a user chunk is 16-aligned and its header is no trailer -/
theorem fr_user_shape {s : St} (w : WFS s) {x : Ent} (hx : x ∈ s.h.ents) (h8 : x.size ≠ 8) :
    x.addr % 16 = 0 ∧ x.size % 16 = 0 ∧ 16 ≤ x.size := by
  rcases shapeOk_mem w.shape hx with h | h
  · exact absurd h.1 h8
  · exact h

/-- **forward neighbour** of an in-use header `x` that is neither a fencepost nor a record: the next
header of the table sits at the end of `x`, in the same segment, has `PINUSE` set and is no fencepost -/
theorem fr_next {s : St} (hi : SInv s) {pre post : List Ent} {x : Ent} (hes : s.h.ents = pre ++ x :: post)
    (hxc : x.cin = true) (h8 : x.size ≠ 8) (hr : isRecord s.segs x = false) {g : Seg} (hg : g ∈ s.segs)
    (hgx : inSeg g x = true) :
    ∃ n post', post = n :: post' ∧ n.addr = x.addr + x.size ∧ inSeg g n = true ∧ n.pin = true ∧ n.size ≠ 8 := by
  have w := hi.wfs
  have hnt : isTrailerEnd x = false := by
    simp only [isTrailerEnd, hxc, Bool.not_true, Bool.false_and, Bool.false_or, decide_eq_false_iff_not]
    exact h8
  obtain ⟨n, post', hp, hna, hgn, hl⟩ := next_entry w.struct hes hg hgx hnt
  subst hp
  refine ⟨n, post', rfl, hna, hgn, ?_, ?_⟩
  · unfold linkOk at hl
    simp only [Bool.and_eq_true, beq_iff_eq] at hl
    rw [hl.1, hxc]
  · intro hn8
    rcases hi.fence pre x n post' hes hn8 hna with h | h
    · exact h8 h
    · rw [hr] at h; cases h

/-! ## 2. the table change -/

theorem fr_mem_run {a y e : Ent} {as : List Ent} : e ∈ a :: (as ++ [y]) ↔ e ∈ a :: as ∨ e = y := by
  simp only [List.mem_cons, List.mem_append, List.not_mem_nil, or_false, or_assoc]

/-- what sortedness says around the window `a :: (as ++ [y])` -/
def fr_Bounds (pre : List Ent) (a : Ent) (as : List Ent) (y : Ent) (post : List Ent) : Prop :=
  (∀ q ∈ pre, q.addr + q.size ≤ a.addr ∧ 0 < q.size) ∧
  (∀ e ∈ a :: as, a.addr ≤ e.addr ∧ e.addr + e.size ≤ y.addr ∧ 0 < e.size) ∧ 0 < y.size ∧
  (∀ q ∈ post, y.addr + y.size ≤ q.addr)

theorem fr_bounds {pre post : List Ent} {a y : Ent} {as : List Ent}
    (hok : entsOk (pre ++ (a :: (as ++ [y])) ++ post) = true) : fr_Bounds pre a as y post := by
  obtain ⟨b1, b2⟩ := entsOk_window_bounds hok
  rw [show endE a (as ++ [y]) = y.addr + y.size by simp only [endE, lastE_append, lastE]] at b2
  have hwok : entsOk ((a :: as) ++ [y]) = true := by
    have := hok
    rw [List.append_assoc] at this
    exact (entsOk_append.1 (entsOk_append.1 this).2.1).1
  obtain ⟨hrok, hyok, hry⟩ := entsOk_append.1 hwok
  refine ⟨fun q hq => ⟨b1 q hq, entsOk_pos hok q (by simp [hq])⟩, ?_, entsOk_pos hyok y (by simp), b2⟩
  intro e he
  refine ⟨?_, hry e he y (by simp), entsOk_pos hrok e he⟩
  rcases List.mem_cons.1 he with rfl | he'
  · exact Nat.le_refl _
  · exact Nat.le_trans (Nat.le_add_right _ _) (entsOk_head_le hrok e he')

/-- **the table change of every branch of `free_heap` / `dispose_chunk`**: the run `a :: as` (the chunk
being freed at `p` with its free neighbours; its first header has `PINUSE` set) becomes one free chunk `m`;
the header `y` after the run (in use, or the foot word after `top`) becomes `y'` with `PINUSE` clear.
`top'` is the `top` the new table is checked against (`a.addr` when the run ends in the old `top`). -/
theorem fr_merge_table {s : St} (w : WFS s) {pre post : List Ent} {a : Ent} {as : List Ent} {y m y' : Ent}
    {g : Seg} {top' p : Nat}
    (hes : s.h.ents = pre ++ (a :: (as ++ [y])) ++ post) (hg : g ∈ s.segs)
    (hgm : ∀ e ∈ a :: (as ++ [y]), inSeg g e = true)
    (hap : a.pin = true) (ha8 : a.size ≠ 8)
    (hys : y.addr % 16 = 0 ∧ y.size % 16 = 0 ∧ 16 ≤ y.size)
    (m1 : m.addr = a.addr) (m2 : m.addr + m.size = y.addr) (m3 : m.cin = false) (m4 : m.pin = true)
    (y1 : y'.addr = y.addr) (y2 : y'.size = y.size) (y3 : y'.cin = y.cin) (y4 : y'.pin = false)
    (hlink : linkOk top' m y' = true)
    (htop : top' = s.h.top ∨ (a.addr ≤ s.h.top ∧ s.h.top < y.addr ∧ a.addr ≤ top' ∧ top' < y.addr))
    (hcin : ∀ e ∈ a :: as, e.cin = true → e.addr = p) (hpm : ∃ e ∈ a :: as, e.addr = p) :
    StructOk (pre ++ [m, y'] ++ post) s.segs top' ∧
      FreeAtTab s.h.ents (pre ++ [m, y'] ++ post) p ∧
      freeSet [m, y'] = [a.addr] ∧ findEnt (pre ++ [m, y'] ++ post) a.addr = some m := by
  have hst0 : StructOk (pre ++ (a :: (as ++ [y])) ++ post) s.segs s.h.top := hes ▸ w.struct
  obtain ⟨ha16, _, _⟩ := fr_user_shape w (by rw [hes]; simp : a ∈ s.h.ents) ha8
  obtain ⟨b1, b2, b3, b4⟩ := fr_bounds hst0.ents
  obtain ⟨_, hay, hapos⟩ := b2 a List.mem_cons_self
  have hm16 : m.size % 16 = 0 := mod16_of_add m2 (m1 ▸ ha16) hys.1
  have hmpos : 0 < m.size := Nat.pos_of_ne_zero fun h0 => by
    rw [h0, Nat.add_zero, m1] at m2
    exact absurd m2 (Nat.ne_of_lt (Nat.lt_of_lt_of_le (Nat.lt_add_of_pos_right hapos) hay))
  have hst : StructOk (pre ++ [m, y'] ++ post) s.segs top' :=
    struct_window_run (cs := []) hst0 w.segsDisjoint hg hgm
      (by
        simp only [List.nil_append, contig, Bool.and_eq_true, decide_eq_true_eq, Bool.and_true]
        exact ⟨m1, by rw [y1, ← m2, m1]⟩)
      (shapeOk_cons_chunk (m1 ▸ ha16) hm16 (le16_of_mod hm16 hmpos) (shapeOk_cons_chunk (y1 ▸ hys.1) (y2 ▸ hys.2.1) (y2 ▸ hys.2.2) rfl))
      y1 y2 y3 (by simp [isFree, y4]) htop ⟨by rw [m4, hap], fun h => by rw [hap] at h; cases h⟩
      (by simp only [List.nil_append, tagsFrom, hlink, Bool.and_true])
  obtain ⟨xx, hxxm, hxxa⟩ := hpm
  obtain ⟨hp1, hxy, hxpos⟩ := b2 xx hxxm
  rw [hxxa] at hp1 hxy
  have hp2 : p < y.addr := Nat.lt_of_lt_of_le (Nat.lt_add_of_pos_right hxpos) hxy
  refine ⟨hst, ⟨?_, ?_⟩, ?_, ?_⟩
  · intro v hv
    rw [hes]
    simp only [cinSet_append, List.mem_append] at hv ⊢
    rcases hv with (hv | hv) | hv
    · refine ⟨Or.inl (Or.inl hv), ?_⟩
      obtain ⟨e, he, _, hea⟩ := mem_cinSet.1 hv
      exact hea ▸ Nat.ne_of_lt (Nat.lt_of_lt_of_le (Nat.lt_of_lt_of_le (Nat.lt_add_of_pos_right (b1 e he).2) (b1 e he).1) hp1)
    · obtain ⟨e, he, hce, hea⟩ := mem_cinSet.1 hv
      simp only [List.mem_cons, List.not_mem_nil, or_false] at he
      rcases he with rfl | rfl
      · rw [m3] at hce; cases hce
      · exact ⟨Or.inl (Or.inr (mem_cinSet.2 ⟨y, by simp, by rw [← y3]; exact hce, y1.symm.trans hea⟩)),
          hea ▸ y1 ▸ Nat.ne_of_gt hp2⟩
    · refine ⟨Or.inr hv, ?_⟩
      obtain ⟨e, he, _, hea⟩ := mem_cinSet.1 hv
      exact hea ▸ Nat.ne_of_gt (Nat.lt_of_lt_of_le hp2 (Nat.le_trans (Nat.le_add_right _ _) (b4 e he)))
  · intro e he hce hne
    rw [hes] at he
    simp only [List.mem_append] at he
    rcases he with (h | h) | h
    · exact ⟨e, entsOk_find e (by simp [h]) hst.ents, rfl, hce⟩
    · rcases fr_mem_run.1 h with h | h
      · exact absurd (hcin e h hce) hne
      · subst h
        refine ⟨y', ?_, y2, by rw [y3]; exact hce⟩
        rw [← y1]
        exact entsOk_find y' (by simp) hst.ents
    · exact ⟨e, entsOk_find e (by simp [h]) hst.ents, rfl, hce⟩
  · simp [freeSet, List.filter, isFree, m3, m4, y4, m1]
  · rw [← m1]
    exact entsOk_find m (by simp) hst.ents

/-! ## 3. the heap primitives on a run, as equations -/

/-- `writeHead` of a free header over the run `a :: as` -/
theorem fr_writeHead_run {h h' : Heap} {pre post : List Ent} {a y : Ent} {as : List Ent} {P sz : Nat} {c p : Bool}
    (e : writeHead h P sz c p = .ok h') (hes : h.ents = pre ++ (a :: (as ++ [y])) ++ post)
    (hb : fr_Bounds pre a as y post) (hP : a.addr = P) (hend : y.addr = P + sz) :
    h' = { h with ents := pre ++ [{ addr := P, size := sz, cin := c, pin := p, pfoot := a.pfoot }, y] ++ post } := by
  obtain ⟨b1, b2, b3, b4⟩ := hb
  have r := writeHead_window_ok e (pre := pre) (ms := a :: as) (post := y :: post)
    (by rw [hes]; simp)
    (by intro q hq; have := b1 q hq; omega)
    (by
      intro m hm
      have := b2 m hm
      refine ⟨by omega, Or.inr (by omega)⟩)
    (by
      intro q hq
      rcases List.mem_cons.1 hq with rfl | hq
      · have := b2 a List.mem_cons_self; omega
      · have := b4 q hq; omega)
  have hpf : pfootAt h.ents P = a.pfoot := by
    apply pfootAt_some
    rw [hes, List.append_assoc, findEnt_skip (fun q hq => by have := b1 q hq; omega), ← hP]
    exact findEnt_head
  rw [hpf] at r
  rw [r]
  simp

/-- `set_size_and_pinuse_of_free_chunk` over the run `a :: as` followed by `y` -/
theorem fr_set_size_free_at {h h' : Heap} {pre post : List Ent} {a y : Ent} {as : List Ent} {P sz : Nat}
    (e : set_size_and_pinuse_of_free_chunk h P sz = .ok h') (hes : h.ents = pre ++ (a :: (as ++ [y])) ++ post)
    (hb : fr_Bounds pre a as y post) (hP : a.addr = P) (hend : y.addr = P + sz) :
    h' = { h with ents := pre ++ [{ addr := P, size := sz, cin := false, pin := true, pfoot := a.pfoot },
      { y with pfoot := sz }] ++ post } := by
  unfold set_size_and_pinuse_of_free_chunk at e
  msimp at e
  obtain ⟨h1, e1, e2⟩ := e
  have r1 := fr_writeHead_run e1 hes hb hP hend
  subst r1
  obtain ⟨b1, b2, b3, b4⟩ := hb
  have r2 := setFoot_at_ok e2
    (pre := pre ++ [{ addr := P, size := sz, cin := false, pin := true, pfoot := a.pfoot }]) (x := y) (post := post)
    (by simp) hend
    (by
      intro q hq
      rcases List.mem_append.1 hq with hq | hq
      · have := b1 q hq; have := b2 a List.mem_cons_self; omega
      · simp only [List.mem_singleton] at hq; subst hq
        have := b2 a List.mem_cons_self
        simp only; omega)
  rw [r2]
  simp

/-- `set_free_with_pinuse` over the run `a :: as` followed by `y` -/
theorem fr_set_free_at {h h' : Heap} {pre post : List Ent} {a y : Ent} {as : List Ent} {P sz nx : Nat}
    (e : set_free_with_pinuse h P sz nx = .ok h') (hes : h.ents = pre ++ (a :: (as ++ [y])) ++ post)
    (hb : fr_Bounds pre a as y post) (hP : a.addr = P) (hend : y.addr = P + sz) (hnx : nx = y.addr) :
    h' = { h with ents := pre ++ [{ addr := P, size := sz, cin := false, pin := true, pfoot := a.pfoot },
      { y with pin := false, pfoot := sz }] ++ post } := by
  unfold set_free_with_pinuse at e
  msimp at e
  obtain ⟨h1, e1, e2⟩ := e
  have r1 := clearPin_at_ok e1 (pre := pre ++ a :: as) (x := y) (post := post)
    (by rw [hes]; simp) hnx.symm
    (by
      intro q hq
      obtain ⟨b1, b2, b3, b4⟩ := hb
      rcases List.mem_append.1 hq with hq | hq
      · have := b1 q hq; have := b2 a List.mem_cons_self; omega
      · have := b2 q hq; omega)
  subst r1
  have r2 := fr_set_size_free_at e2 (pre := pre) (post := post) (a := a) (as := as) (y := { y with pin := false })
    (by simp) hb hP hend
  rw [r2]

/-! ## 4. bookkeeping -/

/-- "the chunks `rem` have been unlinked from their bins": `h` differs from `s.h` in the bins only, the bins
are still well-formed, and the free list lost exactly `rem` -/
structure fr_Unl (s : St) (h : Heap) (rem : List Nat) : Prop where
  frame : BinFrame s.h h
  sb : sbinsOk h = true
  tb : tbinsOk h = true
  fl : freeList s.h ~ rem ++ freeList h

theorem fr_unl_refl {s : St} (w : WFS s) : fr_Unl s s.h [] :=
  ⟨BinFrame.refl _, w.sbins, w.tbins, List.Perm.refl _⟩

theorem fr_unl_step {s : St} {h h' : Heap} {rem : List Nat} {c sz : Nat} (u : fr_Unl s h rem)
    (e : unlink_chunk h c sz = .ok h') : fr_Unl s h' (rem ++ [c]) := by
  obtain ⟨b1, b2⟩ := unlink_chunk_binsOk e u.sb u.tb
  refine ⟨u.frame.trans (unlink_chunk_frame e), b1, b2, u.fl.trans ?_⟩
  have := List.Perm.append_left rem (unlink_chunk_freeList e)
  simpa using this

theorem fr_unl_nodup {s : St} (w : WFS s) {h : Heap} {rem : List Nat} (u : fr_Unl s h rem) :
    (rem ++ freeList h).Nodup :=
  u.fl.nodup_iff.1 ((freeListOk_iff s.h).1 w.freeList).1

/-- what is still binned was binned before and is none of the unlinked chunks -/
theorem fr_unl_binned {s : St} (w : WFS s) {h : Heap} {rem : List Nat} (u : fr_Unl s h rem) {a : Nat}
    (ha : a ∈ binned h) : a ∈ binned s.h ∧ a ∉ rem := by
  have nd := fr_unl_nodup w u
  obtain ⟨_, ndh, hdis⟩ := List.nodup_append.1 nd
  have hah : a ∈ freeList h := mem_freeList_of_binned ha
  have hnr : a ∉ rem := fun hr => hdis a hr a hah rfl
  refine ⟨?_, hnr⟩
  have has : a ∈ freeList s.h := u.fl.mem_iff.2 (List.mem_append.2 (Or.inr hah))
  rcases mem_freeList.1 has with ⟨h0, heq⟩ | ⟨h0, heq⟩ | hb
  · exfalso
    unfold freeList at ndh
    rw [u.frame.top, if_neg h0] at ndh
    exact (List.nodup_append.1 ndh).2.2 a (by simp [heq]) a (List.mem_append.2 (Or.inr ha)) rfl
  · exfalso
    unfold freeList at ndh
    have ndh' := (List.nodup_append.1 ndh).2.1
    rw [u.frame.dv, if_neg h0] at ndh'
    exact (List.nodup_append.1 ndh').2.2 a (by simp [heq]) a ha rfl
  · exact hb

/-- **the free-list conjunct**: the free headers `rem` of the old window left the free list, the one free
header `P` of the new window joined it -/
theorem fr_freeListOk {s : St} (w : WFS s) {H : Heap} {pre mid mid' post : List Ent}
    (hes : s.h.ents = pre ++ mid ++ post) (hH : H.ents = pre ++ mid' ++ post) (hok' : entsOk H.ents = true)
    {rem R : List Nat} {P : Nat} (hfs : ∀ v, v ∈ freeSet mid ↔ v ∈ rem) (hfs' : freeSet mid' = [P])
    (hfl : freeList s.h ~ rem ++ R) (hfl' : freeList H ~ P :: R) (hP : P ∈ rem ∨ P ∉ freeList s.h) :
    freeListOk H = true := by
  have nd0 := ((freeListOk_iff s.h).1 w.freeList).1
  have nd1 := hfl.nodup_iff.1 nd0
  obtain ⟨_, ndR, hdis⟩ := List.nodup_append.1 nd1
  have hPR : P ∉ R := by
    intro hr
    rcases hP with h | h
    · exact hdis P h P hr rfl
    · exact h (hfl.mem_iff.2 (List.mem_append.2 (Or.inr hr)))
  refine freeListOk_window hes hH w.ents hok' w.freeList (hfl'.nodup_iff.2 (List.nodup_cons.2 ⟨hPR, ndR⟩)) ?_
  intro a
  rw [hfl'.mem_iff, hfl.mem_iff, hfs, hfs']
  simp only [List.mem_cons, List.mem_append, List.not_mem_nil, or_false]
  constructor
  · rintro (h | h)
    · exact Or.inr h
    · exact Or.inl ⟨Or.inr h, fun hr => hdis a hr a h rfl⟩
  · rintro (⟨h | h, hn⟩ | h)
    · exact absurd h hn
    · exact Or.inr h
    · exact Or.inl h

/-- **the bin conjuncts across the table change** (before the merged chunk is inserted anywhere): the free
headers of the old window are unlinked chunks, `top` or `dv` -/
theorem fr_bins_frame {s : St} (w : WFS s) {h : Heap} {rem : List Nat} (u : fr_Unl s h rem) {H : Heap}
    {pre mid mid' post : List Ent} (hes : s.h.ents = pre ++ mid ++ post) (hH : H.ents = pre ++ mid' ++ post)
    (hok' : entsOk H.ents = true) (hsb : H.sbins = h.sbins) (htb : H.tbins = h.tbins)
    (hmid : ∀ e ∈ mid, isFree e = true → e.addr ∈ rem ∨ e.addr = s.h.top ∨ e.addr = s.h.dv) :
    sbinsOk H = true ∧ tbinsOk H = true := by
  have hfr : ∀ a ∈ binned h, findEnt H.ents a = findEnt h.ents a := by
    intro a ha
    obtain ⟨hab, hnr⟩ := fr_unl_binned w u ha
    obtain ⟨⟨e, he, hef⟩, hat, had⟩ := w.binned_free hab
    rw [u.frame.ents, hH, hes]
    rw [hes] at he
    rw [hH] at hok'
    refine findEnt_outer_eq hok' he ?_
    intro hm
    have hea := (findEnt_some he).2
    rcases hmid e hm hef with h | h | h
    · exact hnr (hea ▸ h)
    · exact hat (hea.symm.trans h)
    · exact had (hea.symm.trans h)
  obtain ⟨f1, f2⟩ := bins_frame hfr
  have s1 := u.sb
  have t1 := u.tb
  unfold sbinsOk at s1 ⊢
  unfold tbinsOk at t1 ⊢
  rw [hsb, f1, htb, f2]
  exact ⟨s1, t1⟩

/-! ### the free list by its parts -/

/-- `freeList` as a function of `top`, `dv` and the binned chunks -/
def fr_fl (top dv : Nat) (b : List Nat) : List Nat :=
  (if top = 0 then [] else [top]) ++ ((if dv = 0 then [] else [dv]) ++ b)

theorem fr_fl_eq (h : Heap) : freeList h = fr_fl h.top h.dv (binned h) := rfl

theorem fr_fl_top {top dv : Nat} {b : List Nat} (h : top ≠ 0) : fr_fl top dv b = top :: fr_fl 0 dv b := by
  simp [fr_fl, h]

theorem fr_fl_dv {top dv : Nat} {b : List Nat} (h : dv ≠ 0) : fr_fl top dv b ~ dv :: fr_fl top 0 b := by
  simp only [fr_fl, if_neg h, if_true, List.nil_append]
  split
  · simp
  · simp only [List.cons_append, List.nil_append]
    exact List.Perm.swap _ _ _

theorem fr_fl_perm {top dv : Nat} {b b' : List Nat} (h : b ~ b') : fr_fl top dv b ~ fr_fl top dv b' :=
  List.Perm.append_left _ (List.Perm.append_left _ h)

theorem fr_fl_cons {top dv c : Nat} {b : List Nat} : fr_fl top dv (c :: b) ~ c :: fr_fl top dv b := by
  unfold fr_fl
  rw [List.perm_iff_count]; intro v
  simp only [List.count_cons, List.count_append]; omega

theorem fr_unl_top {s : St} (w : WFS s) {h : Heap} {rem : List Nat} (u : fr_Unl s h rem) (h0 : s.h.top ≠ 0) :
    s.h.top ∉ rem := by
  obtain ⟨_, _, hdis⟩ := List.nodup_append.1 (fr_unl_nodup w u)
  intro hr
  exact hdis _ hr _ (mem_freeList.2 (Or.inl ⟨by rw [u.frame.top]; exact h0, u.frame.top.symm⟩)) rfl

theorem fr_unl_dv {s : St} (w : WFS s) {h : Heap} {rem : List Nat} (u : fr_Unl s h rem) (h0 : s.h.dv ≠ 0) :
    s.h.dv ∉ rem := by
  obtain ⟨_, _, hdis⟩ := List.nodup_append.1 (fr_unl_nodup w u)
  intro hr
  exact hdis _ hr _ (mem_freeList.2 (Or.inr (Or.inl ⟨by rw [u.frame.dv]; exact h0, u.frame.dv.symm⟩))) rfl

/-! ## 5. the window of a `free` and the three ways it ends -/

/-- the window of the table a `free` works on: the run `a :: as` that becomes one free chunk (the user
chunk at `p` with its free neighbours) and the header `y` after it -/
structure fr_Win (s : St) (pre post : List Ent) (a : Ent) (as : List Ent) (y : Ent) (g : Seg) (p : Nat) : Prop where
  hes : s.h.ents = pre ++ (a :: (as ++ [y])) ++ post
  hg : g ∈ s.segs
  hgm : ∀ e ∈ a :: (as ++ [y]), inSeg g e = true
  hc : contig (a :: (as ++ [y])) a.addr = true
  pin : a.pin = true
  a8 : a.size ≠ 8
  cin : ∀ e ∈ a :: as, e.cin = true → e.addr = p
  pm : ∃ e ∈ a :: as, e.addr = p

theorem fr_Win.mem {s : St} {pre post : List Ent} {a y : Ent} {as : List Ent} {g : Seg} {p : Nat}
    (W : fr_Win s pre post a as y g p) : ∀ e ∈ a :: (as ++ [y]), e ∈ s.h.ents := by
  intro e he
  rw [W.hes]
  exact List.mem_append.2 (Or.inl (List.mem_append.2 (Or.inr he)))

theorem fr_Win.mem_run {s : St} {pre post : List Ent} {a y : Ent} {as : List Ent} {g : Seg} {p : Nat}
    (W : fr_Win s pre post a as y g p) : ∀ e ∈ a :: as, e ∈ s.h.ents :=
  fun e he => W.mem e (fr_mem_run.2 (Or.inl he))

theorem fr_Win.bounds {s : St} (w : WFS s) {pre post : List Ent} {a y : Ent} {as : List Ent} {g : Seg} {p : Nat}
    (W : fr_Win s pre post a as y g p) : fr_Bounds pre a as y post := by
  have := w.ents; rw [W.hes] at this; exact fr_bounds this

/-- no header of the run has both flag bits clear -/
theorem fr_Win.nff {s : St} (w : WFS s) {pre post : List Ent} {a y : Ent} {as : List Ent} {g : Seg} {p : Nat}
    (W : fr_Win s pre post a as y g p) : ∀ e ∈ a :: as, e.cin = true ∨ e.pin = true := by
  intro e he
  cases hc : e.cin with
  | true => exact Or.inl rfl
  | false =>
    cases hp : e.pin with
    | true => exact Or.inr rfl
    | false =>
      exfalso
      obtain ⟨g', rest', hsg', hge', hend⟩ := fr_ff_end w (W.mem_run e he) hc hp
      have hg' : g' ∈ s.segs := hsg' ▸ List.mem_cons_self
      have : g' = g := gl_seg_unique w.segsDisjoint hg' W.hg hge' (W.hgm e (fr_mem_run.2 (Or.inl he))) rfl
      subst this
      have := inSeg_iff.1 (W.hgm y (fr_mem_run.2 (Or.inr rfl)))
      have := ((W.bounds w).2.1 e he).2.1
      omega

/-- an in-use header is not on the free list -/
theorem fr_cin_not_listed {s : St} (w : WFS s) {e : Ent} (he : e ∈ s.h.ents) (hc : e.cin = true) :
    e.addr ∉ freeList s.h := by
  intro hm
  have := ((freeListOk_iff s.h).1 w.freeList).2.2 _ hm
  obtain ⟨e', he', hf⟩ := isFreeAt_iff.1 this
  rw [entsOk_find e he w.ents] at he'
  injection he' with he'
  subst he'
  rw [(isFree_iff.1 hf).1] at hc; cases hc

theorem fr_cin_ne_top {s : St} (w : WFS s) {e : Ent} (he : e ∈ s.h.ents) (hc : e.cin = true) : e.addr ≠ s.h.top :=
  fun h => fr_cin_not_listed w he hc
    (mem_freeList.2 (Or.inl ⟨fun h0 => Nat.ne_of_gt (w.addr_pos he) (h.trans h0), h⟩))

theorem fr_free_run {a y : Ent} {as : List Ent} (hyf : isFree y = false) :
    ∀ e ∈ a :: (as ++ [y]), isFree e = true → e ∈ a :: as := by
  intro e he hf
  rcases fr_mem_run.1 he with h | h
  · exact h
  · subst h; rw [hyf] at hf; cases hf

theorem fr_Win.top_mid {s : St} (w : WFS s) {pre post : List Ent} {a y : Ent} {as : List Ent} {g : Seg} {p : Nat}
    (W : fr_Win s pre post a as y g p) (hyc : y.cin = true)
    (hft : ∀ e ∈ a :: as, isFree e = true → e.addr ≠ s.h.top) :
    ∀ e ∈ a :: (as ++ [y]), (isFree e = true → e.addr ≠ s.h.top) ∧ (e.cin = true ∨ e.pin = true) := by
  intro e he
  rcases fr_mem_run.1 he with h | h
  · exact ⟨hft e h, W.nff w e h⟩
  · subst h; exact ⟨fun hf => by simp [isFree, hyc] at hf, Or.inl hyc⟩

/-- **the run ends in an in-use header and the merged chunk goes to a bin** (`free-plain`, `free-fwd`,
`dispose-bin`, `dispose-fwd-bin`, with or without a binned predecessor) -/
theorem fr_insert_wfs {s : St} (w : WFS s) {pre post : List Ent} {a y : Ent} {as : List Ent} {g : Seg} {p : Nat}
    (W : fr_Win s pre post a as y g p) {h2 : Heap} {rem : List Nat} (u : fr_Unl s h2 rem)
    (hfree : ∀ e ∈ a :: as, isFree e = true → e.addr ∈ rem)
    (hrem : ∀ v ∈ rem, ∃ e ∈ a :: as, isFree e = true ∧ e.addr = v)
    (hP : a.addr ∈ rem ∨ a.cin = true)
    (hyc : y.cin = true) (hy8 : y.size ≠ 8) {S : Nat} (hS : y.addr = a.addr + S)
    {h3 H : Heap}
    (hh3 : h3 = { h2 with ents := pre ++ [{ addr := a.addr, size := S, cin := false, pin := true, pfoot := a.pfoot },
      { y with pin := false, pfoot := S }] ++ post })
    {t : String} (hins : insert_chunk (h3.tag t) a.addr S = .ok H) :
    WFS { s with h := H } ∧ FreeAtTab s.h.ents H.ents p := by
  subst hh3
  have ham : a ∈ s.h.ents := W.mem_run a List.mem_cons_self
  have hys := fr_user_shape w (W.mem y (fr_mem_run.2 (Or.inr rfl))) hy8
  have hne : s.segs ≠ [] := List.ne_nil_of_mem W.hg
  obtain ⟨_, _, _, _, _, _, _, _, _, _, _, _, _, _, _, _, _, htop0, _, _⟩ := w.top_parts (w.topsize_ne W.hg)
  have hrt := fr_unl_top w u htop0
  have hfree_top : ∀ e ∈ a :: as, isFree e = true → e.addr ≠ s.h.top := fun e he hf heq => hrt (heq ▸ hfree e he hf)
  have hfree_dv : ∀ e ∈ a :: as, isFree e = true → e.addr ≠ s.h.dv := by
    intro e he hf heq
    by_cases h0 : s.h.dv = 0
    · exact Nat.ne_of_gt (w.addr_pos (W.mem_run e he)) (heq.trans h0)
    · exact fr_unl_dv w u h0 (heq ▸ hfree e he hf)
  have hatop : a.addr ≠ s.h.top := fun heq => hP.elim (fun h => hrt (heq ▸ h)) (fun h => fr_cin_ne_top w ham h heq)
  have hyf : isFree y = false := by simp [isFree, hyc]
  obtain ⟨hst, fat, fs', hfm⟩ := fr_merge_table w W.hes W.hg W.hgm W.pin W.a8 hys
    (m := { addr := a.addr, size := S, cin := false, pin := true, pfoot := a.pfoot })
    (y' := { y with pin := false, pfoot := S }) (top' := s.h.top)
    rfl hS.symm rfl rfl rfl rfl rfl rfl
    (by simp [linkOk, isFree, hatop, hyc]) (Or.inl rfl) W.cin W.pm
  have f := insert_chunk_frame hins
  have hHents : H.ents = pre ++ [{ addr := a.addr, size := S, cin := false, pin := true, pfoot := a.pfoot },
      { y with pin := false, pfoot := S }] ++ post := f.ents
  have hok' : entsOk H.ents = true := by rw [hHents]; exact hst.ents
  have hHtop : H.top = s.h.top := f.top.trans u.frame.top
  have hfreeW := fr_free_run (a := a) (as := as) hyf
  have hbf := fr_bins_frame w u
    (H := Heap.tag { h2 with ents := pre ++ [{ addr := a.addr, size := S, cin := false, pin := true, pfoot := a.pfoot },
      { y with pin := false, pfoot := S }] ++ post } t) W.hes rfl hst.ents rfl rfl
    (fun e he hf => Or.inl (hfree e (hfreeW e he hf) hf))
  have hbins := insert_chunk_binsOk hins
    (mod16_mod8 (mod16_of_add hS.symm (fr_user_shape w ham W.a8).1 hys.1))
    (mn_entsLt w hst) (sizeAt_iff.2 ⟨_, hfm, rfl⟩) hbf.1 hbf.2
  refine ⟨wfs_of_parts w (by rw [hHents, hHtop]; exact hst) ?_ hbins.1 hbins.2 ?_ ?_, by rw [hHents]; exact fat⟩
  · refine fr_freeListOk w W.hes hHents hok' (rem := rem) (R := freeList h2) ?_ fs' u.fl
      (by have := insert_chunk_freeList hins; exact this) (hP.imp id (fr_cin_not_listed w ham))
    intro v
    rw [mem_freeSet]
    constructor
    · rintro ⟨e, he, hf, hea⟩
      exact hea ▸ hfree e (hfreeW e he hf) hf
    · intro hv
      obtain ⟨e, he, hf, hea⟩ := hrem v hv
      exact ⟨e, fr_mem_run.2 (Or.inl he), hf, hea⟩
  · exact dvOk_window w W.hes hHents hok' (f.dv.trans u.frame.dv) (f.dvsize.trans u.frame.dvsize)
      (fun e he hf => hfree_dv e (hfreeW e he hf) hf)
  · exact topOk_window w W.hes hHents hok' hne hHtop (f.topsize.trans u.frame.topsize) (W.top_mid w hyc hfree_top)

/-- **the run ends in an in-use header and the merged chunk is the new `dv`** (`free-into-dv`,
`free-fwd-dv`, `free-back-dv` and the `dispose-*` twins): the old `dv` is one of the headers of the run -/
theorem fr_dv_wfs {s : St} (w : WFS s) {pre post : List Ent} {a y : Ent} {as : List Ent} {g : Seg} {p : Nat}
    (W : fr_Win s pre post a as y g p) {h2 : Heap} {rem : List Nat} (u : fr_Unl s h2 rem)
    (hdvs : s.h.dvsize ≠ 0)
    (hfree : ∀ e ∈ a :: as, isFree e = true → e.addr ∈ rem ∨ e.addr = s.h.dv)
    (hrem : ∀ v ∈ rem, ∃ e ∈ a :: as, isFree e = true ∧ e.addr = v)
    (hdvin : ∃ e ∈ a :: as, e.addr = s.h.dv)
    (hP : a.addr ∈ rem ∨ a.addr = s.h.dv ∨ a.cin = true)
    (hyc : y.cin = true) (hy8 : y.size ≠ 8) {S : Nat} (hS : y.addr = a.addr + S)
    {H : Heap}
    (hi : HeapIs H (pre ++ [{ addr := a.addr, size := S, cin := false, pin := true, pfoot := a.pfoot },
      { y with pin := false, pfoot := S }] ++ post) h2.sbins h2.tbins a.addr S s.h.top s.h.topsize) :
    WFS { s with h := H } ∧ FreeAtTab s.h.ents H.ents p := by
  have hb := W.bounds w
  have ham : a ∈ s.h.ents := W.mem_run a List.mem_cons_self
  have hys := fr_user_shape w (W.mem y (fr_mem_run.2 (Or.inr rfl))) hy8
  have hne : s.segs ≠ [] := List.ne_nil_of_mem W.hg
  obtain ⟨_, _, _, _, _, _, _, _, _, _, _, _, _, _, _, _, _, htop0, _, _⟩ := w.top_parts (w.topsize_ne W.hg)
  obtain ⟨xd, hxdm, hxda, hxdf, hxds, hd32, hdv0, hdvtop⟩ := w.dv_parts hdvs
  obtain ⟨ed, hedm, heda⟩ := hdvin
  have : ed = xd := entsOk_addr_inj w.ents (W.mem_run ed hedm) hxdm (heda.trans hxda.symm)
  subst this
  -- the run contains `dv`, so the merged chunk is at least as large
  have hS32 : 32 ≤ S := by
    obtain ⟨h1, h2, _⟩ := hb.2.1 ed hedm
    rw [hS, hxds] at h2
    exact Nat.le_trans hd32 (Nat.le_of_add_le_add_left (Nat.le_trans (Nat.add_le_add_right h1 _) h2))
  have hrt := fr_unl_top w u htop0
  have hfree_top : ∀ e ∈ a :: as, isFree e = true → e.addr ≠ s.h.top := fun e he hf heq =>
    (hfree e he hf).elim (fun h => hrt (heq ▸ h)) (fun h => hdvtop (h.symm.trans heq))
  have hatop : a.addr ≠ s.h.top := fun heq =>
    hP.elim (fun h => hrt (heq ▸ h)) (fun h => h.elim (fun h => hdvtop (h.symm.trans heq)) (fun h => fr_cin_ne_top w ham h heq))
  have hyf : isFree y = false := by simp [isFree, hyc]
  obtain ⟨hst, fat, fs', hfm⟩ := fr_merge_table w W.hes W.hg W.hgm W.pin W.a8 hys
    (m := { addr := a.addr, size := S, cin := false, pin := true, pfoot := a.pfoot })
    (y' := { y with pin := false, pfoot := S }) (top' := s.h.top)
    rfl hS.symm rfl rfl rfl rfl rfl rfl
    (by simp [linkOk, isFree, hatop, hyc]) (Or.inl rfl) W.cin W.pm
  have hok' : entsOk H.ents = true := by rw [hi.ents]; exact hst.ents
  have hfreeW := fr_free_run (a := a) (as := as) hyf
  have ha0 : a.addr ≠ 0 := Nat.ne_of_gt (w.addr_pos ham)
  have hbf := fr_bins_frame w u (H := H) W.hes hi.ents hok' hi.sbins hi.tbins
    (fun e he hf => (hfree e (hfreeW e he hf) hf).imp id Or.inr)
  refine ⟨wfs_of_parts w (by rw [hi.ents, hi.top]; exact hst) ?_ hbf.1 hbf.2 ?_ ?_, by rw [hi.ents]; exact fat⟩
  · refine fr_freeListOk w W.hes hi.ents hok' (rem := rem ++ [s.h.dv]) (R := fr_fl s.h.top 0 (binned h2)) ?_ fs' ?_ ?_ ?_
    · intro v
      rw [mem_freeSet]
      constructor
      · rintro ⟨e, he, hf, hea⟩
        rcases hfree e (hfreeW e he hf) hf with h | h
        · exact List.mem_append.2 (Or.inl (hea ▸ h))
        · exact List.mem_append.2 (Or.inr (by simp [← hea, h]))
      · intro hv
        rcases List.mem_append.1 hv with hv | hv
        · obtain ⟨e, he, hf, hea⟩ := hrem v hv
          exact ⟨e, fr_mem_run.2 (Or.inl he), hf, hea⟩
        · exact ⟨ed, fr_mem_run.2 (Or.inl hedm), hxdf, heda.trans (List.mem_singleton.1 hv).symm⟩
    · refine u.fl.trans ?_
      rw [fr_fl_eq h2, u.frame.top, u.frame.dv]
      have := List.Perm.append_left rem (fr_fl_dv (top := s.h.top) (b := binned h2) hdv0)
      simpa using this
    · rw [fr_fl_eq H, hi.top, hi.dv, binned_congr hi.sbins hi.tbins]
      exact fr_fl_dv ha0
    · rcases hP with h | h | h
      · exact Or.inl (List.mem_append.2 (Or.inl h))
      · exact Or.inl (List.mem_append.2 (Or.inr (by simp [h])))
      · exact Or.inr (fr_cin_not_listed w ham h)
  · unfold dvOk
    rw [hi.dv, hi.dvsize, if_neg ha0, hi.ents, hfm]
    simp [isFree, hS32]
  · exact topOk_window w W.hes hi.ents hok' hne hi.top hi.topsize (W.top_mid w hyc hfree_top)

/-- **the run ends in the old `top`, the merged chunk is the new `top`** (`free-into-top`,
`dispose-into-top`); `dv` is reset when it was the merged predecessor -/
theorem fr_top_wfs {s : St} (w : WFS s) {pre post : List Ent} {a y : Ent} {as : List Ent} {g : Seg} {p : Nat}
    (W : fr_Win s pre post a as y g p) {h2 : Heap} {rem : List Nat} (u : fr_Unl s h2 rem)
    (hfree : ∀ e ∈ a :: as, isFree e = true → e.addr ∈ rem ∨ e.addr = s.h.top ∨ e.addr = s.h.dv)
    (hrem : ∀ v ∈ rem, ∃ e ∈ a :: as, isFree e = true ∧ e.addr = v)
    (htopin : ∃ e ∈ a :: as, e.addr = s.h.top)
    (hP : a.addr ∈ rem ∨ a.addr = s.h.dv ∨ a.cin = true)
    (hyc : y.cin = false) (hyp : y.pin = false) {S : Nat} (hS : y.addr = a.addr + S)
    {H : Heap} {dv' dvs' : Nat}
    (hi : HeapIs H (pre ++ [{ addr := a.addr, size := S, cin := false, pin := true, pfoot := a.pfoot }, y] ++ post)
      h2.sbins h2.tbins dv' dvs' a.addr S)
    (hdv : ((∃ e ∈ a :: as, e.addr = s.h.dv) ∧ s.h.dv ≠ 0 ∧ dv' = 0 ∧ dvs' = 0) ∨
      ((∀ e ∈ a :: as, e.addr ≠ s.h.dv) ∧ dv' = s.h.dv ∧ dvs' = s.h.dvsize)) :
    WFS { s with h := H } ∧ FreeAtTab s.h.ents H.ents p := by
  have hb := W.bounds w
  have ham : a ∈ s.h.ents := W.mem_run a List.mem_cons_self
  have hym : y ∈ s.h.ents := W.mem y (fr_mem_run.2 (Or.inr rfl))
  have hys := shapeOk_free w.shape hym hyc
  obtain ⟨g0, rest, hsegs⟩ : ∃ g0 rest, s.segs = g0 :: rest := by
    cases hsg : s.segs with
    | nil => have := W.hg; rw [hsg] at this; cases this
    | cons g0 rest => exact ⟨g0, rest, rfl⟩
  obtain ⟨htop0, htsz, hgb, hgend, hrec, ⟨xt, hfxt, hxtf, hxts⟩, f, hff, hfc, hfp, hfs80⟩ := (topOk_cons_iff hsegs).1 w.top
  obtain ⟨hxtm, hxta⟩ := findEnt_some hfxt
  obtain ⟨hfm0, hfa⟩ := findEnt_some hff
  obtain ⟨et, hetm, heta⟩ := htopin
  have : et = xt := entsOk_addr_inj w.ents (W.mem_run et hetm) hxtm (heta.trans hxta.symm)
  subst this
  obtain ⟨hbt1, hbt2, hbt3⟩ := hb.2.1 et hetm
  have hgg : g = g0 :=
    gl_seg_unique w.segsDisjoint W.hg (hsegs ▸ List.mem_cons_self) (W.hgm et (fr_mem_run.2 (Or.inl hetm))) (e' := et)
      (inSeg_iff.2 ⟨heta ▸ hgb, by rw [heta, ← hgend]; exact Nat.lt_add_of_pos_right (Nat.lt_add_right 80 htsz)⟩) rfl
  subst hgg
  -- `y` is the foot word: a header with both flag bits clear ends the head segment, and so does `f`
  have hyf0 : y = f := by
    obtain ⟨g', _, hsg', _, hyend⟩ := fr_ff_end w hym hyc hyp
    obtain ⟨g'', _, hsg'', _, hfend⟩ := fr_ff_end w hfm0 hfc hfp
    obtain rfl : g' = g'' := (List.cons.inj (hsg'.symm.trans hsg'')).1
    exact gl_overlap_eq w.ents hym hfm0 (hfend ▸ hyend ▸ Nat.lt_add_of_pos_right (entsOk_pos w.ents y hym))
      (hyend ▸ hfend ▸ Nat.lt_add_of_pos_right (entsOk_pos w.ents f hfm0))
  have hdvtop := w.dv_ne_top htop0
  have hrt := fr_unl_top w u htop0
  have hyf : isFree y = false := by simp [isFree, hyp]
  have hay : a.addr < y.addr := Nat.lt_of_lt_of_le (Nat.lt_add_of_pos_right (hb.2.1 a List.mem_cons_self).2.2)
    (hb.2.1 a List.mem_cons_self).2.1
  obtain ⟨hst, fat, fs', hfm⟩ := fr_merge_table w W.hes W.hg W.hgm W.pin W.a8 hys
    (m := { addr := a.addr, size := S, cin := false, pin := true, pfoot := a.pfoot })
    (y' := y) (top' := a.addr)
    rfl hS.symm rfl rfl rfl rfl rfl hyp
    (by simp [linkOk, isFree, hyc, hyp])
    (Or.inr ⟨heta ▸ hbt1, heta ▸ Nat.lt_of_lt_of_le (Nat.lt_add_of_pos_right hbt3) hbt2, Nat.le_refl _, hay⟩)
    W.cin W.pm
  have hok' : entsOk H.ents = true := by rw [hi.ents]; exact hst.ents
  have hfreeW := fr_free_run (a := a) (as := as) hyf
  have ha0 : a.addr ≠ 0 := Nat.ne_of_gt (w.addr_pos ham)
  have hfy : findEnt H.ents y.addr = some y := by
    rw [hi.ents]; exact entsOk_find y (by simp) hst.ents
  have hbf := fr_bins_frame w u (H := H) W.hes hi.ents hok' hi.sbins hi.tbins
    (fun e he hf => hfree e (hfreeW e he hf) hf)
  refine ⟨wfs_of_parts w (by rw [hi.ents, hi.top]; exact hst) ?_ hbf.1 hbf.2 ?_ ?_, by rw [hi.ents]; exact fat⟩
  · -- the free headers of the run: the unlinked ones, `top`, and `dv` (the list `D`) if it is in the run
    obtain ⟨D, hD1, hD2, hD3⟩ : ∃ D : List Nat,
        fr_fl s.h.top s.h.dv (binned h2) ~ s.h.top :: (D ++ fr_fl 0 dv' (binned h2)) ∧
        (∀ v ∈ D, ∃ e ∈ a :: as, isFree e = true ∧ e.addr = v) ∧
        (∀ e ∈ a :: as, e.addr = s.h.dv → s.h.dv ∈ D) := by
      rcases hdv with ⟨⟨ed, hedm, heda⟩, hdv0, hd1, _⟩ | ⟨hnd, hd1, _⟩
      · have hedf : isFree ed = true := by
          have := ((freeListOk_iff s.h).1 w.freeList).2.2 _ (mem_freeList.2 (Or.inr (Or.inl ⟨hdv0, rfl⟩)))
          obtain ⟨e', he', hf⟩ := isFreeAt_iff.1 this
          rw [← heda, entsOk_find ed (W.mem_run ed hedm) w.ents] at he'
          injection he' with he'
          exact he' ▸ hf
        refine ⟨[s.h.dv], ?_, ?_, fun _ _ _ => List.mem_singleton.2 rfl⟩
        · rw [hd1, fr_fl_top htop0]
          exact List.Perm.cons _ (fr_fl_dv hdv0)
        · intro v hv
          exact ⟨ed, hedm, hedf, heda.trans (List.mem_singleton.1 hv).symm⟩
      · exact ⟨[], (by rw [hd1, fr_fl_top htop0]; rfl), fun v hv => (by cases hv), fun e he h => absurd h (hnd e he)⟩
    refine fr_freeListOk w W.hes hi.ents hok' (rem := rem ++ s.h.top :: D) (R := fr_fl 0 dv' (binned h2)) ?_ fs' ?_ ?_ ?_
    · intro v
      rw [mem_freeSet]
      constructor
      · rintro ⟨e, he, hf, hea⟩
        have her := hfreeW e he hf
        rcases hfree e her hf with h | h | h
        · exact List.mem_append.2 (Or.inl (hea ▸ h))
        · exact List.mem_append.2 (Or.inr (List.mem_cons.2 (Or.inl (hea.symm.trans h))))
        · exact List.mem_append.2 (Or.inr (List.mem_cons_of_mem _ (hea ▸ h ▸ hD3 e her h)))
      · intro hv
        rcases List.mem_append.1 hv with hv | hv
        · obtain ⟨e, he, hf, hea⟩ := hrem v hv
          exact ⟨e, fr_mem_run.2 (Or.inl he), hf, hea⟩
        · rcases List.mem_cons.1 hv with hv | hv
          · exact ⟨et, fr_mem_run.2 (Or.inl hetm), hxtf, heta.trans hv.symm⟩
          · obtain ⟨e, he, hf, hea⟩ := hD2 v hv
            exact ⟨e, fr_mem_run.2 (Or.inl he), hf, hea⟩
    · refine u.fl.trans ?_
      rw [fr_fl_eq h2, u.frame.top, u.frame.dv]
      have := List.Perm.append_left rem hD1
      simpa using this
    · rw [fr_fl_eq H, hi.top, hi.dv, binned_congr hi.sbins hi.tbins, fr_fl_top ha0]
    · rcases hP with h | h | h
      · exact Or.inl (List.mem_append.2 (Or.inl h))
      · exact Or.inl (List.mem_append.2 (Or.inr (List.mem_cons_of_mem _ (h ▸ hD3 a List.mem_cons_self h))))
      · exact Or.inr (fr_cin_not_listed w ham h)
  · rcases hdv with ⟨_, _, hd1, hd2⟩ | ⟨hnd, hd1, hd2⟩
    · unfold dvOk
      rw [hi.dv, hi.dvsize, hd1, hd2]
      rfl
    · exact dvOk_window w W.hes hi.ents hok' (hi.dv.trans hd1) (hi.dvsize.trans hd2)
        (fun e he hf => hnd e (hfreeW e he hf))
  · refine (topOk_cons_iff (s := { s with h := H }) hsegs).2 ?_
    show H.top ≠ 0 ∧ 0 < H.topsize ∧ g.base ≤ H.top ∧ H.top + H.topsize + 80 = g.base + g.size ∧ g.recAt = 0 ∧
      (∃ x, findEnt H.ents H.top = some x ∧ _) ∧ ∃ f, findEnt H.ents (H.top + H.topsize) = some f ∧ _
    rw [hi.top, hi.topsize, ← hS]
    subst hyf0
    have hin_a := (w.struct.in_seg W.hg ham (W.hgm a List.mem_cons_self)).1
    refine ⟨ha0, Nat.pos_of_ne_zero fun h0 => Nat.ne_of_lt hay (by rw [hS, h0]; rfl), hin_a, by rw [← hfa] at hgend; exact hgend, hrec,
      ⟨_, hi.ents ▸ hfm, rfl, rfl⟩, y, hfy, hfc, hfp, hfs80⟩

/-! ### building windows -/

theorem fr_contig_snoc {l : List Ent} {n y : Ent} : ∀ {q : Nat}, contig (l ++ [n]) q = true →
    y.addr = n.addr + n.size → contig (l ++ [n] ++ [y]) q = true := by
  induction l with
  | nil =>
    intro q h hy
    simp only [List.nil_append, contig, Bool.and_true, decide_eq_true_eq] at h
    simp only [List.nil_append, List.cons_append, contig, Bool.and_true, Bool.and_eq_true, decide_eq_true_eq]
    omega
  | cons c l ih =>
    intro q h hy
    simp only [List.cons_append, contig, Bool.and_eq_true, decide_eq_true_eq] at h ⊢
    exact ⟨h.1, ih h.2 hy⟩

/-- the window of a chunk `x` whose predecessor is in use -/
theorem fr_win0 {s : St} {pre post : List Ent} {x n : Ent} {g : Seg} (hes : s.h.ents = pre ++ x :: n :: post)
    (hg : g ∈ s.segs) (hgx : inSeg g x = true) (hgn : inSeg g n = true) (hna : n.addr = x.addr + x.size)
    (hxp : x.pin = true) (hx8 : x.size ≠ 8) : fr_Win s pre post x [] n g x.addr := by
  refine ⟨by rw [hes]; simp, hg, ?_, ?_, hxp, hx8, ?_, ⟨x, List.mem_cons_self, rfl⟩⟩
  · intro e he
    simp only [List.nil_append, List.mem_cons, List.not_mem_nil, or_false] at he
    rcases he with rfl | rfl <;> assumption
  · simp only [List.nil_append, contig, Bool.and_true, Bool.and_eq_true, decide_eq_true_eq, true_and]
    omega
  · intro e he _
    simp only [List.mem_cons, List.not_mem_nil, or_false] at he
    rw [he]

/-- the window of a chunk `x` whose predecessor `wv` is free -/
theorem fr_win1 {s : St} (w : WFS s) {pre post : List Ent} {wv x n : Ent} {g : Seg}
    (hes : s.h.ents = pre ++ wv :: x :: n :: post) (hg : g ∈ s.segs) (hgw : inSeg g wv = true)
    (hgx : inSeg g x = true) (hgn : inSeg g n = true) (hxa : x.addr = wv.addr + wv.size)
    (hna : n.addr = x.addr + x.size) (hwf : isFree wv = true) : fr_Win s pre post wv [x] n g x.addr := by
  obtain ⟨hwc, hwp⟩ := isFree_iff.1 hwf
  have hwm : wv ∈ s.h.ents := by rw [hes]; simp
  have := shapeOk_free w.shape hwm hwc
  refine ⟨by rw [hes]; simp, hg, ?_, ?_, hwp, by omega, ?_, ⟨x, by simp, rfl⟩⟩
  · intro e he
    simp only [List.cons_append, List.nil_append, List.mem_cons, List.not_mem_nil, or_false] at he
    rcases he with rfl | rfl | rfl <;> assumption
  · simp only [List.cons_append, List.nil_append, contig, Bool.and_true, Bool.and_eq_true, decide_eq_true_eq, true_and]
    omega
  · intro e he hc
    simp only [List.mem_cons, List.not_mem_nil, or_false] at he
    rcases he with rfl | rfl
    · rw [hwc] at hc; cases hc
    · rfl

/-- the free successor `n` joins the run -/
theorem fr_win_snoc {s : St} {pre post : List Ent} {a n y : Ent} {as : List Ent} {g : Seg} {p : Nat}
    (W : fr_Win s pre (y :: post) a as n g p) (hnc : n.cin = false) (hgy : inSeg g y = true)
    (hya : y.addr = n.addr + n.size) : fr_Win s pre post a (as ++ [n]) y g p := by
  refine ⟨by rw [W.hes]; simp, W.hg, ?_, ?_, W.pin, W.a8, ?_, ?_⟩
  · intro e he
    rcases fr_mem_run.1 he with h | h
    · exact W.hgm e (by simpa using h)
    · subst h; exact hgy
  · have := fr_contig_snoc (l := a :: as) (n := n) (y := y) (q := a.addr) W.hc hya
    simpa using this
  · intro e he hc
    rcases fr_mem_run.1 (by simpa using he) with h | h
    · exact W.cin e h hc
    · subst h; rw [hnc] at hc; cases hc
  · obtain ⟨e, he, hea⟩ := W.pm
    exact ⟨e, by simp only [List.mem_cons, List.mem_append] at he ⊢; rcases he with h | h <;> simp [h], hea⟩

theorem fr_pin_false_eta {y : Ent} (h : y.pin = false) (v : Nat) :
    ({ y with pfoot := v } : Ent) = { y with pin := false, pfoot := v } := by
  cases y; simp_all

end TinyVerif.Dl
