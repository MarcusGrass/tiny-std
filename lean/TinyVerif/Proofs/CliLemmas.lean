/- Helper lemmas for C20 (derived argument parsers): cause buffer arithmetic, simulation of the generated loop by
   item-level updates. -/
import TinyVerif.Model.Cli
namespace TinyVerif.Cli

/-! ## cause buffer -/

/-- the representation invariant of `ArgParseCauseBuffer`: `len` counts the bytes written and never exceeds 128 -/
def CauseBuf.Inv (b : CauseBuf) : Prop := b.len = b.data.length ∧ b.len ≤ CAP

/-- under the invariant the two `panic` branches are dead -/
theorem writeStr_spec {b : CauseBuf} (hb : b.Inv) (s : Bytes) :
    b.writeStr s = if b.len + s.length ≤ CAP then .ok ⟨b.len + s.length, b.data ++ s⟩ else .fmtErr := by
  have := hb.2
  rw [CauseBuf.writeStr, if_neg (by omega)]
  by_cases hs : b.len + s.length ≤ CAP
  · rw [if_neg (by omega), if_neg (by omega), if_pos hs]
  · rw [if_pos (by omega), if_neg hs]

theorem CauseBuf.Inv.append {b : CauseBuf} (hb : b.Inv) {s : Bytes} (hs : b.len + s.length ≤ CAP) :
    CauseBuf.Inv ⟨b.len + s.length, b.data ++ s⟩ :=
  ⟨by rw [List.length_append, ← hb.1], hs⟩

theorem writeAll_spec : ∀ (ps : List Bytes) (b : CauseBuf), b.Inv →
    b.writeAll ps =
      if b.len + ps.flatten.length ≤ CAP then .ok ⟨b.len + ps.flatten.length, b.data ++ ps.flatten⟩ else .fmtErr
  | [], b, hb => by
    rw [CauseBuf.writeAll, List.flatten_nil, List.append_nil, List.length_nil, Nat.add_zero, if_pos hb.2]
  | s :: rest, b, hb => by
    rw [CauseBuf.writeAll, writeStr_spec hb, List.flatten_cons, List.length_append]
    by_cases hs : b.len + s.length ≤ CAP
    · rw [if_pos hs]
      simp only [writeAll_spec rest _ (hb.append hs), List.append_assoc, Nat.add_assoc]
    · rw [if_neg hs, if_neg (by omega)]

theorem newCause_spec (ps : List Bytes) :
    newCause ps = .ok (if ps.flatten.length ≤ CAP then ps.flatten else M_OVERFLOW) := by
  have h := writeAll_spec ps CauseBuf.new ⟨rfl, by simp [CauseBuf.new]⟩
  simp only [CauseBuf.new, Nat.zero_add, List.nil_append] at h
  unfold newCause
  simp only [CauseBuf.new]
  rw [h]
  by_cases hc : ps.flatten.length ≤ CAP
  · rw [if_pos hc, if_pos hc]
    simp only [List.take_length]
  · rw [if_neg hc, if_neg hc]

/-! ## item-level semantics of a command line -/

/-- what one occurrence does to the locals -/
def applyItem (accs : List Acc) : Item → List Acc
  | .optv i _ a => accs.modify i (Acc.put a)
  | .flag i _ => accs.modify i Acc.setFlag
  | .posv i a => accs.modify i (Acc.put a)

def applyItems (accs : List Acc) (its : List Item) : List Acc := its.foldl applyItem accs

/-- the occurrence is consumed by the generated loop as intended when the locals are `accs` -/
def GoodItem (fs : List Field) (hasSub : Bool) (accs : List Acc) : Item → Prop
  | .optv i ul a => ∃ f l, fs[i]? = some f ∧ f.lit ul = some l ∧ findOpt fs 0 l = some (i, f) ∧ f.kind ≠ .bool ∧
      convert f.kind (printAtom a) = .ok a
  | .flag i ul => ∃ f l, fs[i]? = some f ∧ f.lit ul = some l ∧ findOpt fs 0 l = some (i, f) ∧ f.kind = .bool
  | .posv i a => hasSub = false ∧ findOpt fs 0 (printAtom a) = none ∧ isHelp (printAtom a) = false ∧
      ∃ f, firstEmptyPos fs accs 0 = some (i, f) ∧ convert f.kind (printAtom a) = .ok a

def GoodItems (fs : List Field) (hasSub : Bool) : List Acc → List Item → Prop
  | _, [] => True
  | accs, it :: r => GoodItem fs hasSub accs it ∧ GoodItems fs hasSub (applyItem accs it) r

/-- **Simulation**: a prefix of well-formed occurrences moves the generated loop from `accs` to `applyItems accs its`. -/
theorem loop_items (fs : List Field) (hs : Bool) (subp : Bytes → List Bytes → SubRes) (sv : SubVal) (tail : List Bytes) :
    ∀ (its : List Item) (accs : List Acc), GoodItems fs hs accs its →
      loop fs hs subp accs sv (renderItems fs its ++ tail) = loop fs hs subp (applyItems accs its) sv tail := by
  intro its
  induction its with
  | nil => intro accs _; simp [renderItems, applyItems]
  | cons it r ih =>
    intro accs hg
    obtain ⟨hit, hr⟩ := hg
    have ih' := ih (applyItem accs it) hr
    simp only [renderItems, List.flatMap_cons, applyItems, List.foldl_cons, List.append_assoc] at ih' ⊢
    cases it with
    | optv i ul a =>
      obtain ⟨f, l, hf, hl, hfind, hk, hc⟩ := hit
      simp only [renderItem, hf, hl, List.cons_append, List.nil_append]
      rw [loop]
      simp only [hfind, hk, if_false, hc]
      exact ih'
    | flag i ul =>
      obtain ⟨f, l, hf, hl, hfind, hk⟩ := hit
      simp only [renderItem, hf, hl, List.cons_append, List.nil_append]
      rw [loop]
      simp only [hfind, hk, if_true]
      exact ih'
    | posv i a =>
      obtain ⟨hsub, hfind, hh, f, hpos, hc⟩ := hit
      simp only [renderItem, List.cons_append, List.nil_append]
      rw [loop]
      subst hsub
      simp only [hfind, hh, hpos, hc, Bool.false_eq_true, if_false]
      exact ih'


/-! ## per-field projection of the item-level semantics -/

def Item.target : Item → Nat
  | .optv i _ _ => i
  | .flag i _ => i
  | .posv i _ => i

def Item.upd : Item → Acc → Acc
  | .optv _ _ a => Acc.put a
  | .flag _ _ => Acc.setFlag
  | .posv _ a => Acc.put a

def Item.atom? : Item → Option Atom
  | .optv _ _ a => some a
  | .flag _ _ => none
  | .posv _ a => some a

theorem applyItem_eq (accs : List Acc) (it : Item) : applyItem accs it = accs.modify it.target it.upd := by
  cases it <;> rfl

/-- the occurrences aimed at field `j`, in command-line order -/
def occs (j : Nat) (its : List Item) : List Item := its.filter (fun it => it.target == j)

/-- a field's local after the whole command line depends only on the occurrences aimed at it, in their order -/
theorem applyItems_getElem? (its : List Item) : ∀ (accs : List Acc) (j : Nat),
    (applyItems accs its)[j]? = (accs[j]?).map (fun acc => (occs j its).foldl (fun a it => it.upd a) acc) := by
  induction its with
  | nil => intro accs j; simp [applyItems, occs]
  | cons it r ih =>
    intro accs j
    have h1 : applyItems accs (it :: r) = applyItems (applyItem accs it) r := rfl
    rw [h1, ih, applyItem_eq, List.getElem?_modify]
    by_cases h : it.target = j
    · have h2 : occs j (it :: r) = it :: occs j r := by simp [occs, h]
      rw [h2]
      cases accs[j]? <;> simp [h]
    · have h2 : occs j (it :: r) = occs j r := by simp [occs, h]
      rw [h2]
      cases accs[j]? <;> simp [h]

theorem applyItems_length (its : List Item) : ∀ (accs : List Acc), (applyItems accs its).length = accs.length := by
  induction its with
  | nil => intro accs; rfl
  | cons it r ih =>
    intro accs
    have h1 : applyItems accs (it :: r) = applyItems (applyItem accs it) r := rfl
    rw [h1, ih, applyItem_eq, List.length_modify]

/-! ## from the declarative conditions to `GoodItems` -/

/-- every match literal finds its own field (no earlier arm of the generated `match` shadows it) -/
def Unshadowed (fs : List Field) : Prop :=
  ∀ (i : Nat) (f : Field) (ul : Bool) (l : Bytes), fs[i]? = some f → f.lit ul = some l → findOpt fs 0 l = some (i, f)

/-- positional fields are `T` or `Option<T>` of a value type (the derive rejects `bool` and `Vec` positionals) -/
def PosWf (fs : List Field) : Prop :=
  ∀ (i : Nat) (f : Field), fs[i]? = some f → f.isPos = true → f.kind ≠ .bool ∧ f.pkg ≠ .vec

/-- the occurrence is well-typed for the field it aims at; a positional value is not an option literal of the struct
and not a help request (value-taking options accept *any* value) -/
def ItemOk (fs : List Field) (hasSub : Bool) : Item → Prop
  | .optv i ul a => ∃ f, fs[i]? = some f ∧ (f.lit ul).isSome = true ∧ f.kind ≠ .bool ∧ convert f.kind (printAtom a) = .ok a
  | .flag i ul => ∃ f, fs[i]? = some f ∧ (f.lit ul).isSome = true ∧ f.kind = .bool
  | .posv i a => ∃ f, fs[i]? = some f ∧ f.isPos = true ∧ hasSub = false ∧ findOpt fs 0 (printAtom a) = none ∧
      isHelp (printAtom a) = false ∧ convert f.kind (printAtom a) = .ok a

/-- positional values come in declaration order: each aims at a positional field not yet filled (`seen`) all of whose
positional predecessors are filled -/
def PosOrdered (fs : List Field) : List Nat → List Item → Prop
  | _, [] => True
  | seen, .posv i _ :: r =>
    i ∉ seen ∧ (∀ (j : Nat) (g : Field), j < i → fs[j]? = some g → g.isPos = true → j ∈ seen) ∧ PosOrdered fs (i :: seen) r
  | seen, .optv _ _ _ :: r => PosOrdered fs seen r
  | seen, .flag _ _ :: r => PosOrdered fs seen r

def PosInv (fs : List Field) (seen : List Nat) (accs : List Acc) : Prop :=
  ∀ (j : Nat) (g : Field), fs[j]? = some g → g.isPos = true →
    (j ∈ seen → ∃ a, accs[j]? = some (.single (some a))) ∧ (j ∉ seen → accs[j]? = some (.single none))

theorem lit_some_not_pos (f : Field) (ul : Bool) (h : (f.lit ul).isSome = true) : f.isPos = false := by
  unfold Field.lit at h
  unfold Field.isPos
  cases ul <;> simp at h <;> cases hl : f.long <;> cases hs : f.short <;> simp_all

theorem firstEmptyPos_eq : ∀ (fs : List Field) (accs : List Acc) (k i : Nat) (f : Field),
    fs[i]? = some f → f.isPos = true → accs[i]? = some (.single none) →
    (∀ (j : Nat) (g : Field), j < i → fs[j]? = some g → g.isPos = true → accs[j]? ≠ some (.single none)) →
    firstEmptyPos fs accs k = some (k + i, f)
  | [], _, _, _, _, hf, _, _, _ => nomatch hf
  | _ :: _, [], _, _, _, _, _, ha, _ => nomatch ha
  | g :: fs, a :: accs, k, 0, f, hf, hp, ha, _ => by
    cases hf; cases ha
    rw [firstEmptyPos, hp]; rfl
  | g :: fs, a :: accs, k, i + 1, f, hf, hp, ha, hlt => by
    have h0 : ¬ (g.isPos && a == Acc.single none) = true := fun h => by
      rw [Bool.and_eq_true, beq_iff_eq] at h
      exact hlt 0 g (Nat.succ_pos i) rfl h.1 (congrArg some h.2)
    rw [firstEmptyPos, if_neg h0, firstEmptyPos_eq fs accs (k + 1) i f hf hp ha
      (fun j g' hj => hlt (j + 1) g' (Nat.succ_lt_succ hj)), Nat.add_right_comm, Nat.add_assoc]

theorem PosInv.modify_other {fs : List Field} {seen : List Nat} {accs : List Acc} (hinv : PosInv fs seen accs)
    {i : Nat} {f : Field} (hf : fs[i]? = some f) (hnp : f.isPos = false) (u : Acc → Acc) :
    PosInv fs seen (accs.modify i u) := by
  intro j g hg hgp
  have hne : i ≠ j := by
    rintro rfl; rw [hf] at hg; cases hg; rw [hnp] at hgp; cases hgp
  rw [List.getElem?_modify_ne _ _ hne]
  exact hinv j g hg hgp

theorem PosInv.put {fs : List Field} {seen : List Nat} {accs : List Acc} (hinv : PosInv fs seen accs)
    {i : Nat} (hi : accs[i]? = some (.single none)) (a : Atom) : PosInv fs (i :: seen) (accs.modify i (Acc.put a)) := by
  intro j g hg hgp
  rw [List.mem_cons]
  by_cases hij : i = j
  · subst hij
    rw [List.getElem?_modify_eq, hi]
    exact ⟨fun _ => ⟨a, rfl⟩, fun h => absurd (Or.inl rfl) h⟩
  · rw [List.getElem?_modify_ne _ _ hij]
    have hji : ¬ j = i := fun h => hij h.symm
    exact ⟨fun h => (hinv j g hg hgp).1 (h.resolve_left hji), fun h => (hinv j g hg hgp).2 (fun h' => h (Or.inr h'))⟩

theorem good_of_declarative (fs : List Field) (hs : Bool) (hU : Unshadowed fs) (hP : PosWf fs) :
    ∀ (its : List Item) (seen : List Nat) (accs : List Acc),
      (∀ it ∈ its, ItemOk fs hs it) → PosOrdered fs seen its → PosInv fs seen accs → GoodItems fs hs accs its
  | [], _, _, _, _, _ => trivial
  | it :: r, seen, accs, hok, hord, hinv => by
    have hit := hok it List.mem_cons_self
    have ih := fun seen accs => good_of_declarative fs hs hU hP r seen accs (fun it' h => hok it' (List.mem_cons_of_mem _ h))
    cases it with
    | optv i ul a =>
      obtain ⟨f, hf, hl, hk, hc⟩ := hit
      obtain ⟨l, hl'⟩ := Option.isSome_iff_exists.mp hl
      exact ⟨⟨f, l, hf, hl', hU i f ul l hf hl', hk, hc⟩,
        ih seen _ hord (hinv.modify_other hf (lit_some_not_pos f ul hl) _)⟩
    | flag i ul =>
      obtain ⟨f, hf, hl, hk⟩ := hit
      obtain ⟨l, hl'⟩ := Option.isSome_iff_exists.mp hl
      exact ⟨⟨f, l, hf, hl', hU i f ul l hf hl', hk⟩,
        ih seen _ hord (hinv.modify_other hf (lit_some_not_pos f ul hl) _)⟩
    | posv i a =>
      obtain ⟨f, hf, hp, hsub, hfind, hh, hc⟩ := hit
      obtain ⟨hns, hpred, hord'⟩ := hord
      have hi := (hinv i f hf hp).2 hns
      have hfe := firstEmptyPos_eq fs accs 0 i f hf hp hi (fun j g hj hg hgp => by
        obtain ⟨a', ha'⟩ := (hinv j g hg hgp).1 (hpred j g hj hg hgp)
        rw [ha']; exact fun h => nomatch h)
      rw [Nat.zero_add] at hfe
      exact ⟨⟨hsub, hfind, hh, f, hfe, hc⟩, ih (i :: seen) _ hord' (hinv.put hi a)⟩

/-! ## from the occurrences of a field to its value -/

/-- what the occurrences `os` aimed at field `f` must be for the field to end up as `acc`:
a flag is set iff it occurs; a `Vec` collects its occurrences in order; a required field occurs exactly once; an
`Option` field at most once -/
def FieldVal (f : Field) (acc : Acc) (os : List Item) : Prop :=
  if f.kind = .bool then acc = .flag (!os.isEmpty)
  else match f.pkg with
    | .vec => acc = .many (os.filterMap Item.atom?)
    | .req => ∃ a, os.filterMap Item.atom? = [a] ∧ acc = .single (some a)
    | .opt => (os.filterMap Item.atom? = [] ∧ acc = .single none) ∨
              (∃ a, os.filterMap Item.atom? = [a] ∧ acc = .single (some a))

theorem Item.upd_of_atom {it : Item} {a : Atom} (h : it.atom? = some a) : it.upd = Acc.put a := by
  cases it <;> cases h <;> rfl

theorem Item.upd_of_flag {it : Item} (h : it.atom? = none) : it.upd = Acc.setFlag := by
  cases it <;> cases h <;> rfl

theorem fold_flags : ∀ (os : List Item) (b : Bool), (∀ it ∈ os, it.atom? = none) →
    os.foldl (fun a it => it.upd a) (.flag b) = .flag (b || !os.isEmpty)
  | [], b, _ => by simp
  | it :: r, b, h => by
    rw [List.foldl_cons, Item.upd_of_flag (h it List.mem_cons_self)]
    rw [show Acc.setFlag (.flag b) = .flag true from rfl, fold_flags r true fun it' h' => h it' (List.mem_cons_of_mem _ h')]
    simp

theorem fold_values : ∀ (os : List Item) (acc : Acc), (∀ it ∈ os, it.atom?.isSome = true) →
    os.foldl (fun a it => it.upd a) acc = (os.filterMap Item.atom?).foldl (fun (a : Acc) (x : Atom) => a.put x) acc
  | [], _, _ => rfl
  | it :: r, acc, h => by
    obtain ⟨a, ha⟩ := Option.isSome_iff_exists.1 (h it List.mem_cons_self)
    rw [List.foldl_cons, List.filterMap_cons, ha, List.foldl_cons, Item.upd_of_atom ha,
      fold_values r _ fun it' h' => h it' (List.mem_cons_of_mem _ h')]

theorem fold_many : ∀ (as : List Atom) (l : List Atom),
    as.foldl (fun (a : Acc) (x : Atom) => a.put x) (Acc.many l) = Acc.many (l ++ as)
  | [], l => by rw [List.append_nil]; rfl
  | a :: r, l => by
    rw [List.foldl_cons, show (Acc.many l).put a = Acc.many (l ++ [a]) from rfl, fold_many r, List.append_assoc]; rfl

theorem fold_field (f : Field) (os : List Item) (acc : Acc)
    (hb : f.kind = .bool → ∀ it ∈ os, it.atom? = none)
    (hv : f.kind ≠ .bool → ∀ it ∈ os, it.atom?.isSome = true)
    (h : FieldVal f acc os) : os.foldl (fun a it => it.upd a) f.initAcc = acc := by
  unfold FieldVal at h
  unfold Field.initAcc
  by_cases hk : f.kind = .bool
  · simp only [hk, if_true] at h ⊢
    rw [fold_flags os false (hb hk), h]; simp
  · simp only [hk, if_false] at h ⊢
    rw [fold_values os _ (hv hk)]
    cases hp : f.pkg with
    | vec => simp only [hp] at h; simp only [if_true]; rw [fold_many, h]; simp
    | req =>
      simp only [hp] at h
      obtain ⟨a, h1, h2⟩ := h
      simp [h1, h2, Acc.put]
    | opt =>
      simp only [hp] at h
      rcases h with ⟨h1, h2⟩ | ⟨a, h1, h2⟩
      · simp [h1, h2]
      · simp [h1, h2, Acc.put]

theorem firstMissing_none : ∀ (fs : List Field) (vs : List Acc),
    (∀ (j : Nat) (f : Field) (acc : Acc), fs[j]? = some f → vs[j]? = some acc →
      ¬ (f.kind ≠ .bool ∧ f.pkg = .req ∧ acc = .single none)) → firstMissing fs vs = none
  | [], [], _ => rfl
  | [], _ :: _, _ => rfl
  | _ :: _, [], _ => rfl
  | f :: fs, a :: vs, h => by
    have h0 : ¬ (decide (f.kind ≠ Kind.bool) && decide (f.pkg = Pkg.req) && a == Acc.single none) = true := fun hd => by
      simp only [Bool.and_eq_true, decide_eq_true_eq, beq_iff_eq] at hd
      exact h 0 f a rfl rfl ⟨hd.1.1, hd.1.2, hd.2⟩
    rw [firstMissing, if_neg h0]
    exact firstMissing_none fs vs (fun j => h (j + 1))

theorem ItemOk.typed {fs : List Field} {hs : Bool} {it : Item} {f : Field} (hP : PosWf fs) (hok : ItemOk fs hs it)
    (hf : fs[it.target]? = some f) : (f.kind = .bool → it.atom? = none) ∧ (f.kind ≠ .bool → it.atom?.isSome = true) := by
  cases it with
  | optv i ul a =>
    obtain ⟨f', hf', _, hk, _⟩ := hok
    cases hf.symm.trans hf'
    exact ⟨fun hb => absurd hb hk, fun _ => rfl⟩
  | flag i ul =>
    obtain ⟨f', hf', _, hk⟩ := hok
    cases hf.symm.trans hf'
    exact ⟨fun _ => rfl, fun hb => absurd hk hb⟩
  | posv i a =>
    obtain ⟨f', hf', hp, _⟩ := hok
    cases hf.symm.trans hf'
    exact ⟨fun hb => absurd hb (hP _ _ hf hp).1, fun _ => rfl⟩

/-- The declarative admissibility of one struct level: `its` is an arrangement of exactly the field values `vs`. -/
structure LevelAdm (fs : List Field) (hasSub : Bool) (vs : List Acc) (its : List Item) : Prop where
  unshadowed : Unshadowed fs
  posWf : PosWf fs
  items : ∀ it ∈ its, ItemOk fs hasSub it
  ordered : PosOrdered fs [] its
  len : vs.length = fs.length
  vals : ∀ (j : Nat) (f : Field), fs[j]? = some f → ∃ acc, vs[j]? = some acc ∧ FieldVal f acc (occs j its)

theorem level_sound {fs : List Field} {hs : Bool} {vs : List Acc} {its : List Item} (h : LevelAdm fs hs vs its) :
    GoodItems fs hs (initAccs fs) its ∧ applyItems (initAccs fs) its = vs ∧ firstMissing fs vs = none := by
  refine ⟨?_, ?_, ?_⟩
  · apply good_of_declarative fs hs h.unshadowed h.posWf its [] (initAccs fs) h.items h.ordered
    intro j g hg hgp
    obtain ⟨hk, hp⟩ := h.posWf j g hg hgp
    refine ⟨(by intro hm; cases hm), fun _ => ?_⟩
    simp [initAccs, hg, Field.initAcc, hk, hp]
  · apply List.ext_getElem?
    intro j
    rw [applyItems_getElem?]
    cases hf : fs[j]? with
    | none =>
      have h1 : (initAccs fs)[j]? = none := by simp [initAccs, hf]
      have h2 : vs[j]? = none := by
        have := List.getElem?_eq_none_iff.mp hf
        exact List.getElem?_eq_none_iff.mpr (by rw [h.len]; exact this)
      rw [h1, h2]; rfl
    | some f =>
      obtain ⟨acc, ha, hv⟩ := h.vals j f hf
      have h1 : (initAccs fs)[j]? = some f.initAcc := by simp [initAccs, hf]
      rw [h1, ha]
      simp only [Option.map_some]
      congr 1
      have hty : ∀ it ∈ occs j its, (f.kind = .bool → it.atom? = none) ∧ (f.kind ≠ .bool → it.atom?.isSome = true) := by
        intro it hit
        obtain ⟨hmem, htg⟩ := List.mem_filter.1 hit
        exact (h.items it hmem).typed h.posWf (by rw [beq_iff_eq.1 htg]; exact hf)
      exact fold_field f _ acc (fun hb it hit => (hty it hit).1 hb) (fun hb it hit => (hty it hit).2 hb) hv
  · apply firstMissing_none
    intro j f acc hf ha ⟨hk, hp, hacc⟩
    obtain ⟨acc', ha', hv⟩ := h.vals j f hf
    rw [ha] at ha'; cases ha'
    unfold FieldVal at hv
    simp only [hk, if_false, hp] at hv
    obtain ⟨a, _, h2⟩ := hv
    rw [hacc] at h2; cases h2

end TinyVerif.Cli
