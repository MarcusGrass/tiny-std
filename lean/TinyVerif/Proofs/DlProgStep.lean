import TinyVerif.Proofs.DlProgSpec
import TinyVerif.Proofs.DlIndAll
/-!
# Progress, assembled: entry points, `RcOk` as an invariant, `Hist.step`, `Hist.run`

(tag `ap_`)
-/
namespace TinyVerif.Dl

/-! ## 0. `Except` plumbing for error outcomes -/

theorem ap_bind_err {α β : Type} {x : M α} {f : α → M β} {e : String} :
    (x >>= f) = .error e ↔ x = .error e ∨ ∃ a, x = .ok a ∧ f a = .error e := bind_err

theorem ap_pure_err {α : Type} {a : α} {e : String} : (pure a : M α) = .error e ↔ False := pure_err

theorem ap_throw_err {α : Type} {m e : String} : (throw m : M α) = .error e ↔ m = e := throw_err

theorem ap_failIf_err {c : Bool} {msg e : String} : failIf c msg = .error e ↔ c = true ∧ msg = e := failIf_err

/-- normalise a hypothesis `(do …) = .error e` -/
macro "ap_esimp" "at" h:ident : tactic =>
  `(tactic| try simp only [ap_bind_err, ap_pure_err, ap_throw_err, ap_failIf_err, bind_ok, pure_ok, throw_ok, failIf_ok,
    false_or, or_false, false_and, and_false, exists_false] at $h:ident)

/-! ## 1. the proved interface theorems, in the form used here -/

theorem ap_inner_malloc_spec : inner_malloc_Spec' := as_inner_malloc_spec all_malloc_nosys all_sys_alloc
theorem ap_free_spec : free_Spec := as_free_spec all_free_heap all_sys_trim all_release_unused_segments
theorem ap_malloc_spec : malloc_Spec' := as_malloc_spec ap_inner_malloc_spec all_memalign_fix
theorem ap_realloc_spec : realloc_Spec' :=
  as_realloc_spec all_try_realloc_chunk ap_inner_malloc_spec ap_free_spec ap_malloc_spec

/-- with a user chunk around, the heap is initialised -/
theorem ap_top_ne_of_user {s : St} (hi : SInv s) {a z : Nat} (hu : User s a z) : s.h.top ≠ 0 := by
  obtain ⟨e, he, _⟩ := hu
  have hm := (findEnt_some he).1
  have ht := hi.wfs.top
  unfold topOk at ht
  split at ht
  · simp only [Bool.and_eq_true, decide_eq_true_eq, List.isEmpty_iff] at ht
    rw [ht.1.1.2] at hm
    cases hm
  · simp only [Bool.and_eq_true, decide_eq_true_eq] at ht
    exact ht.1.1.1.1.1.1

/-! ## 2. entry-point progress -/

theorem ap_inner_malloc_prog (hmn : malloc_nosys_Prog) (hsa : sys_alloc_Prog) : inner_malloc_Prog := by
  intro s hi size hbig hos
  unfold inner_malloc
  refine Prog.bind (hmn hi).prog (fun r hr => ?_)
  cases r with
  | done h mem => exact prog_pure _
  | tooBig => exact prog_pure _
  | needSys n =>
    obtain ⟨hn, _, _⟩ := malloc_nosys_needSys hr
    subst hn
    exact hsa hi (as_nbOk (as_needSys_lt hr) hbig) hos

theorem ap_free_prog (hfh : free_heap_Prog) (hst : sys_trim_Prog) (hru : release_unused_segments_Prog) : free_Prog := by
  intro s hi hrc hfp mem h16 hu
  unfold free
  refine Prog.bind (hfh hi h16 hu).prog ?_
  rintro ⟨h1, t⟩ hfree
  obtain ⟨z, hu1, _⟩ := hu
  obtain ⟨hi1, _, _⟩ := all_free_heap hi h16 ⟨z, hu1⟩ hfree
  dsimp only
  cases t with
  | done => exact prog_pure _
  | intoTop tsize =>
    exact Prog.ite (fun _ => Prog.bind (hst hi1 (show FpOk { s with h := h1 } from hfp)) (fun _ _ => prog_pure _))
      (fun _ => prog_pure _)
  | large =>
    refine Prog.bind_ok (failIf_false ?_) (Prog.ite (fun _ => ?_) (fun _ => prog_pure _))
    · have := hrc (ap_top_ne_of_user hi hu1)
      simp only [decide_eq_false_iff_not]
      show ¬ s.release_checks = 0
      omega
    · have hi1' : SInv ({ { s with h := h1 } with release_checks := s.release_checks - 1 }.tag "release-check") :=
        as_sinv_same hi1 (as_Same.refl _)
      exact Prog.bind (hru hi1' (show FpOk _ from hfp)) (fun _ _ => prog_pure _)

/-! ## 3. `RcOk` is an invariant

`release_checks` is written by the first heap initialisation (`sys-init`: `MAX_RELEASE_CHECK_RATE`), by
`release_unused_segments` (at least `MAX_RELEASE_CHECK_RATE`) and by the countdown in `free`, which resets it through
`release_unused_segments` as soon as it reaches 0.  `top` becomes non-null exactly when the segment list becomes
non-empty (`topOk`), and that happens in `sys-init` only. -/

/-- `release_checks` is positive afterwards, or unchanged while no first segment appeared -/
def ap_RcRel (s s' : St) : Prop :=
  0 < s'.release_checks ∨ (s'.release_checks = s.release_checks ∧ (s'.segs ≠ [] → s.segs ≠ []))

theorem ap_rcRel_refl (s : St) : ap_RcRel s s := Or.inr ⟨rfl, fun h => h⟩

theorem ap_rcRel_of_eq {s s' : St} (h1 : s'.release_checks = s.release_checks) (h2 : s'.segs = s.segs) : ap_RcRel s s' :=
  Or.inr ⟨h1, fun h => h2 ▸ h⟩

theorem ap_rcRel_trans {a b c : St} (h1 : ap_RcRel a b) (h2 : ap_RcRel b c) : ap_RcRel a c := by
  rcases h2 with h2 | ⟨e2, i2⟩
  · exact Or.inl h2
  · rcases h1 with h1 | ⟨e1, i1⟩
    · exact Or.inl (by omega)
    · exact Or.inr ⟨by omega, fun h => i1 (i2 h)⟩

theorem ap_top_iff_segs {s : St} (w : WFS s) : s.h.top ≠ 0 ↔ s.segs ≠ [] := by
  have ht := w.top
  unfold topOk at ht
  split at ht
  · rename_i hs
    simp only [Bool.and_eq_true, decide_eq_true_eq] at ht
    rw [hs]
    simp [ht.1.1.1]
  · rename_i g gs hs
    simp only [Bool.and_eq_true, decide_eq_true_eq] at ht
    rw [hs]
    simp [ht.1.1.1.1.1.1]

theorem ap_rcOk_of_rel {s s' : St} (w : WFS s) (w' : WFS s') (h : RcOk s) (r : ap_RcRel s s') : RcOk s' := by
  intro ht
  rcases r with r | ⟨e, i⟩
  · exact r
  · rw [e]
    exact h ((ap_top_iff_segs w).2 (i ((ap_top_iff_segs w').1 ht)))

theorem ap_init_top_rc {s s' : St} {ptr size : Nat} (h : init_top s ptr size = .ok s') :
    s'.release_checks = s.release_checks := by
  unfold init_top at h
  dsimp only at h
  msimp at h
  mlast h
  subst h; rfl

theorem ap_add_segment_rc {s s' : St} {tbase tsize : Nat} (h : add_segment s tbase tsize = .ok s') :
    s'.release_checks = s.release_checks := by
  unfold add_segment at h
  dsimp only at h
  split at h
  · msimp at h
  · msimp at h
    obtain ⟨_, _, _, _, s1, hs1, h⟩ := h
    have h1 := ap_init_top_rc hs1
    mlast h
    subst h
    exact h1

theorem ap_sys_alloc_place_rc {s : St} {tbase tsize nb : Nat} {r : Sum St (St × Nat)}
    (h : sys_alloc_place s tbase tsize nb = .ok r) :
    ∃ s', (r = .inl s' ∨ ∃ m, r = .inr (s', m)) ∧
      (0 < s'.release_checks ∨ (s'.release_checks = s.release_checks ∧ s.h.top ≠ 0)) := by
  unfold sys_alloc_place at h
  dsimp only at h
  split at h
  · msimp at h
    obtain ⟨_, _, _, _, s1, hs1, h⟩ := h
    have h1 := ap_init_top_rc hs1
    subst h
    refine ⟨_, Or.inl rfl, Or.inl ?_⟩
    show 0 < s1.release_checks
    rw [h1]
    show 0 < MAX_RELEASE_CHECK_RATE
    decide
  · rename_i htop
    split at h
    · msimp at h
      obtain ⟨s1, hs1, h⟩ := h
      have h1 := ap_init_top_rc hs1
      subst h
      exact ⟨_, Or.inl rfl, Or.inr ⟨h1, htop⟩⟩
    · split at h
      · msimp at h
        obtain ⟨⟨s1, m⟩, hp, h⟩ := h
        obtain ⟨h', hh⟩ := prepend_alloc_spec hp
        subst h
        subst hh
        exact ⟨_, Or.inr ⟨m, rfl⟩, Or.inr ⟨rfl, htop⟩⟩
      · msimp at h
        obtain ⟨s1, ha, h⟩ := h
        have h1 := ap_add_segment_rc ha
        subst h
        exact ⟨_, Or.inl rfl, Or.inr ⟨h1, htop⟩⟩

theorem ap_sys_alloc_rc {s s' : St} {nb mem : Nat} (h : sys_alloc s nb = .ok (s', mem)) :
    0 < s'.release_checks ∨ (s'.release_checks = s.release_checks ∧ (s.h.top ≠ 0 ∨ s'.segs = s.segs)) := by
  unfold sys_alloc at h
  dsimp only at h
  msimp at h
  obtain ⟨⟨res, s1⟩, hp, h⟩ := h
  obtain ⟨q, hq, hs1⟩ := popM_spec hp
  dsimp only at h
  split at h
  · msimp at h
    simp only [Prod.mk.injEq] at h
    obtain ⟨h, _⟩ := h
    subst h; subst hs1
    exact Or.inr ⟨rfl, Or.inr rfl⟩
  · msimp at h
    obtain ⟨r, hr, h⟩ := h
    obtain ⟨s2, hor, hrc⟩ := ap_sys_alloc_place_rc hr
    have key : 0 < s2.release_checks ∨ (s2.release_checks = s.release_checks ∧ (s.h.top ≠ 0 ∨ s2.segs = s.segs)) := by
      subst hs1
      rcases hrc with hrc | ⟨h1, h2⟩
      · exact Or.inl hrc
      · exact Or.inr ⟨h1, Or.inl h2⟩
    rcases hor with hor | ⟨m, hor⟩
    · subst hor
      dsimp only at h
      split at h
      · msimp at h
        mlast h
        simp only [Prod.mk.injEq] at h
        obtain ⟨h, _⟩ := h
        subst h
        exact key
      · msimp at h
        simp only [Prod.mk.injEq] at h
        obtain ⟨h, _⟩ := h
        subst h
        exact key
    · subst hor
      dsimp only at h
      msimp at h
      simp only [Prod.mk.injEq] at h
      obtain ⟨h, _⟩ := h
      subst h
      exact key

theorem ap_release_rc {s s' : St} {r : Nat} (h : release_unused_segments s = .ok (s', r)) : 0 < s'.release_checks := by
  unfold release_unused_segments at h
  split at h
  · msimp at h
    simp only [Prod.mk.injEq] at h
    obtain ⟨h, _⟩ := h; subst h
    show 0 < MAX_RELEASE_CHECK_RATE
    decide
  · msimp at h
    obtain ⟨⟨r1, s2, rl, nn⟩, _, h⟩ := h
    simp only [Prod.mk.injEq] at h
    obtain ⟨h, _⟩ := h; subst h
    show 0 < (if nn > MAX_RELEASE_CHECK_RATE then nn else MAX_RELEASE_CHECK_RATE)
    rw [MAX_RELEASE_CHECK_RATE_eq]
    split <;> omega

theorem ap_sys_trim_rc {s s' : St} {pad : Nat} {b : Bool} (h : sys_trim s pad = .ok (s', b)) :
    0 < s'.release_checks ∨ s' = s := by
  unfold sys_trim at h
  dsimp only at h
  split at h
  · msimp at h
    obtain ⟨⟨s1, rel⟩, _, ⟨s2, r2⟩, h2, h⟩ := h
    have b2 := ap_release_rc h2
    simp only [Prod.mk.injEq] at h
    obtain ⟨h, _⟩ := h
    subst h
    left
    split
    · exact b2
    · exact b2
  · msimp at h
    simp only [Prod.mk.injEq] at h
    obtain ⟨h, _⟩ := h; subst h; exact Or.inr rfl

theorem ap_wfs_tag {s : St} (w : WFS s) (t : String) : WFS (s.tag t) :=
  w.of_same ⟨rfl, rfl, rfl, rfl, rfl, rfl, rfl⟩ rfl rfl rfl

theorem ap_inner_malloc_rc {s s' : St} (w : WFS s) {size mem : Nat} (h : inner_malloc s size = .ok (s', mem)) :
    ap_RcRel s s' := by
  rcases inner_malloc_cases h with ⟨h', _, rfl⟩ | ⟨_, rfl, _⟩ | ⟨nb, _, h⟩
  · exact ap_rcRel_of_eq rfl rfl
  · exact ap_rcRel_refl _
  · rcases ap_sys_alloc_rc h with h1 | ⟨h1, h2 | h2⟩
    · exact Or.inl h1
    · exact Or.inr ⟨h1, fun _ => (ap_top_iff_segs w).1 h2⟩
    · exact ap_rcRel_of_eq h1 h2

theorem ap_free_rc {s s' : St} {mem : Nat} (h : free s mem = .ok s') : ap_RcRel s s' := by
  unfold free at h
  msimp at h
  obtain ⟨⟨h1, t⟩, _, h⟩ := h
  dsimp only at h
  split at h
  · msimp at h
    subst h
    exact ap_rcRel_of_eq rfl rfl
  · split at h
    · msimp at h
      obtain ⟨⟨s2, b⟩, htrim, h⟩ := h
      dsimp only at h
      subst h
      rcases ap_sys_trim_rc htrim with h2 | h2
      · exact Or.inl h2
      · subst h2
        exact ap_rcRel_of_eq rfl rfl
    · msimp at h
      subst h
      exact ap_rcRel_of_eq rfl rfl
  · msimp at h
    obtain ⟨_, hrc, h⟩ := h
    split at h
    · msimp at h
      obtain ⟨⟨s2, b⟩, hrel, h⟩ := h
      dsimp only at h
      subst h
      exact Or.inl (ap_release_rc hrel)
    · rename_i hne
      msimp at h
      subst h
      left
      simp only at hne ⊢
      omega

theorem ap_malloc_rc {s s' : St} (w : WFS s) {size al mem : Nat} (h : malloc s size al = .ok (s', mem)) :
    ap_RcRel s s' := by
  unfold malloc at h
  split at h
  · exact ap_inner_malloc_rc w h
  · rcases memalign_body_cases h with ⟨rfl, _⟩ | ⟨s1, m1, him0, h⟩
    · exact ap_rcRel_refl _
    · have r1 : ap_RcRel s s1 := show ap_RcRel (s.tag "memalign") s1 from ap_inner_malloc_rc (ap_wfs_tag w "memalign") him0
      rcases h with ⟨_, rfl, _⟩ | ⟨_, h2, _, rfl⟩
      · exact r1
      · exact ap_rcRel_trans r1 (ap_rcRel_of_eq rfl rfl)

theorem ap_realloc_rc {s s' : St} (w : WFS s) {ptr osz al ns mem : Nat} {c : Option Copy}
    (h : realloc s ptr osz al ns = .ok (s', mem, c)) : ap_RcRel s s' := by
  rcases realloc_cases h with ⟨_, h⟩ | ⟨_, s1, p, hmal, h⟩
  · rcases inner_realloc_cases h with ⟨rfl, _⟩ | ⟨h', _, rfl, _⟩ | ⟨s1, p, him0, h⟩
    · exact ap_rcRel_refl _
    · exact ap_rcRel_of_eq rfl rfl
    · have r1 : ap_RcRel s s1 := show ap_RcRel (s.tag "realloc-move") s1 from ap_inner_malloc_rc (ap_wfs_tag w "realloc-move") him0
      rcases h with ⟨_, rfl, _⟩ | ⟨_, _, hf, _⟩
      · exact r1
      · exact ap_rcRel_trans r1 (ap_free_rc hf)
  · have r1 : ap_RcRel s s1 := show ap_RcRel (s.tag "realloc-overaligned") s1 from ap_malloc_rc (ap_wfs_tag w "realloc-overaligned") hmal
    rcases h with ⟨_, rfl, _⟩ | ⟨_, _, hf, _⟩
    · exact r1
    · exact ap_rcRel_trans r1 (ap_free_rc hf)

/-! ## 4. `malloc`, `calloc`, `realloc` -/

/-- reading the header of a user chunk: it is found, in use (so not "mmapped"), of the user chunk's size -/
theorem ap_getE_user {s : St} {a z : Nat} (hu : User s a z) :
    ∃ e, getE s.h a = .ok e ∧ e.mmapped = false ∧ e.size = z := by
  obtain ⟨e, he, hc, hz, _, _⟩ := hu
  exact ⟨e, getE_ok.2 he, not_mmapped_of_cin hc, hz⟩

theorem ap_malloc_prog (him : inner_malloc_Prog) (hmf : memalign_fix_Prog) : malloc_Prog := by
  intro s hi size k hk hbig hos
  by_cases hal : 2 ^ k ≤ 16
  · rw [as_malloc_le16 _ _ hal]
    rw [as_reqOf_le16 _ hal] at hbig hos
    exact him hi hbig hos
  · rw [as_malloc_gt16 _ _ hal]
    rw [as_reqOf_gt16 _ hal] at hbig hos
    obtain ⟨hk5, _⟩ := as_pow_gt16 hal
    have hp32 : 2 ^ k ≤ 2 ^ 32 := Nat.pow_le_pow_right (by decide) hk
    unfold memalign_body
    rw [MIN_CHUNK_SIZE_eq, CHUNK_OVERHEAD_eq]
    have hmax : ¬ MAX_REQUEST < 2 ^ k := by rw [MAX_REQUEST_eq]; omega
    refine Prog.bind_ok (failIf_false (decide_eq_false hmax)) (Prog.ite (fun _ => prog_pure _) (fun hlt => ?_))
    refine Prog.bind (him (as_sinv_tag hi "memalign") hbig (as_osOk_same hos rfl rfl)) ?_
    rintro ⟨s1, mem0⟩ him0
    dsimp only
    refine Prog.ite (fun _ => prog_pure _) (fun h0 => ?_)
    obtain ⟨hi1, ha1, z, hu, hnb, hzz⟩ := as_memalign_chunk ap_inner_malloc_spec hi hmax hlt hbig hos him0 h0
    exact Prog.bind (hmf hi1 ha1.1 hu hnb hk5 hk hzz).prog (fun ⟨_, _⟩ _ => prog_pure _)

/-- `calloc` (the interface file has no `calloc_Prog`; this is its statement) -/
theorem ap_calloc_prog (hm : malloc_Prog) {s : St} (hi : SInv s) {size k : Nat} (hk : k ≤ 32)
    (hbig : nbOf (reqOf size (2 ^ k)) < 2 ^ 63) (hos : OsOk s (mapSize (reqOf size (2 ^ k)))) :
    Prog (calloc s size (2 ^ k)) := by
  unfold calloc
  refine Prog.bind (hm hi hk hbig hos) ?_
  rintro ⟨s1, p⟩ hmal
  obtain ⟨_, ha, _⟩ := ap_malloc_spec hi hk hbig hos hmal
  dsimp only
  refine Prog.ite (fun hp => Total.prog ?_) (fun _ => prog_pure _)
  obtain ⟨_, ha⟩ := ha hp
  obtain ⟨z, _, hu⟩ := as_alloc_new ha
  obtain ⟨e0, hg, _, _⟩ := ap_getE_user hu
  rw [MEM_OFFSET_eq]
  refine Total.bind_ok (failIf_false ?_) (Total.bind_ok hg (total_pure _))
  have h16 := ha.1
  simp only [decide_eq_false_iff_not]
  omega

theorem ap_inner_realloc_prog (htr : try_realloc_chunk_Prog) (him : inner_malloc_Prog) (hfp' : free_Prog)
    {s : St} (hi : SInv s) (hrc : RcOk s) (hfp : FpOk s) {ptr ns z : Nat} (h16 : 16 ≤ ptr) (hu : User s (ptr - 16) z)
    (h32 : 32 ≤ z) (hbig : nbOf ns < 2 ^ 63) (hos : OsOk s (mapSize ns)) : Prog (inner_realloc s ptr ns) := by
  unfold inner_realloc
  refine Prog.ite (fun _ => prog_pure _) (fun hlt => ?_)
  have hlt : ns < MAX_REQUEST := by omega
  dsimp only
  rw [MEM_OFFSET_eq]
  refine Prog.bind_ok (failIf_false (by simp only [decide_eq_false_iff_not]; omega)) ?_
  have hnb : NbOk (request2size ns) := by rw [← nbOf_eq]; exact as_nbOk hlt hbig
  refine Prog.bind (htr hi hu h32 hnb).prog (fun r _ => ?_)
  cases r with
  | some h => exact prog_pure _
  | none =>
    dsimp only
    refine Prog.bind (him (as_sinv_tag hi "realloc-move") hbig (as_osOk_same hos rfl rfl)) ?_
    rintro ⟨s1, p1⟩ him0
    obtain ⟨hi1, ha1, _⟩ := ap_inner_malloc_spec (as_sinv_tag hi "realloc-move") hbig (as_osOk_same hos rfl rfl) him0
    dsimp only
    refine Prog.ite (fun hp1 => ?_) (fun _ => prog_pure _)
    have ha1 : Alloc s s1 _ p1 := ha1 hp1
    have hu1 : User s1 (ptr - 16) z := as_alloc_old ha1 hu
    obtain ⟨e0, hg, hmm, hsz⟩ := ap_getE_user hu1
    have hrc1 : RcOk s1 := ap_rcOk_of_rel hi.wfs hi1.wfs hrc
      (show ap_RcRel (s.tag "realloc-move") s1 from ap_inner_malloc_rc (ap_wfs_tag hi.wfs "realloc-move") him0)
    have hfp1 : FpOk s1 := (show FpOk (s.tag "realloc-move") from hfp).of_book (inner_malloc_book him0)
    rw [CHUNK_OVERHEAD_eq]
    refine Prog.bind_ok hg (Prog.bind_ok (failIf_false hmm) (Prog.bind_ok (failIf_false ?_) ?_))
    · simp only [decide_eq_false_iff_not]
      omega
    · exact Prog.bind (hfp' hi1 hrc1 hfp1 h16 ⟨z, hu1, h32⟩) (fun _ _ => prog_pure _)

theorem ap_realloc_prog (htr : try_realloc_chunk_Prog) (him : inner_malloc_Prog) (hfp' : free_Prog)
    (hmp : malloc_Prog) : realloc_Prog := by
  intro s hi hrc hfp ptr osz k ns z h16 hu h32 hk hmodp hbig hos
  unfold realloc
  rw [MALLOC_ALIGNMENT_eq]
  refine Prog.ite (fun hal => ?_) (fun _ => ?_)
  · rw [as_reqOf_le16 _ hal] at hbig hos
    exact ap_inner_realloc_prog htr him hfp' hi hrc hfp h16 hu h32 hbig hos
  · refine Prog.bind (hmp (as_sinv_tag hi "realloc-overaligned") hk hbig (as_osOk_same hos rfl rfl)) ?_
    rintro ⟨s1, p1⟩ hmal
    obtain ⟨hi1, ha1, _⟩ := ap_malloc_spec (as_sinv_tag hi "realloc-overaligned") hk hbig
      (as_osOk_same hos rfl rfl) hmal
    dsimp only
    refine Prog.ite (fun hp1 => ?_) (fun _ => prog_pure _)
    obtain ⟨_, ha1⟩ := ha1 hp1
    have ha1 : Alloc s s1 _ p1 := ha1
    have hu1 : User s1 (ptr - 16) z := as_alloc_old ha1 hu
    have hrc1 : RcOk s1 := ap_rcOk_of_rel hi.wfs hi1.wfs hrc
      (show ap_RcRel (s.tag "realloc-overaligned") s1 from ap_malloc_rc (ap_wfs_tag hi.wfs "realloc-overaligned") hmal)
    have hfp1 : FpOk s1 := (show FpOk (s.tag "realloc-overaligned") from hfp).of_book (malloc_book hmal)
    exact Prog.bind (hfp' hi1 hrc1 hfp1 h16 ⟨z, hu1, h32⟩) (fun _ _ => prog_pure _)

/-- the three entry-point progress theorems from the seven leaf ones -/
theorem ap_entry_progs (h1 : malloc_nosys_Prog) (h2 : sys_alloc_Prog) (h3 : free_heap_Prog) (h4 : sys_trim_Prog)
    (h5 : release_unused_segments_Prog) (h6 : try_realloc_chunk_Prog) (h7 : memalign_fix_Prog) :
    malloc_Prog ∧ free_Prog ∧ realloc_Prog := by
  have him : inner_malloc_Prog := ap_inner_malloc_prog h1 h2
  have hf : free_Prog := ap_free_prog h3 h4 h5
  have hm : malloc_Prog := ap_malloc_prog him h7
  exact ⟨hm, hf, ap_realloc_prog h6 him hf hm⟩

/-! ## 5. the step theorems -/

/-- the operation is meaningful in this history: a fresh id for an allocation, a live block for `realloc` / `free`
(otherwise `Hist.step` answers `bad-op:*`, which is an error of the caller, not of the allocator) -/
def ValidOp (hs : Hist) (op : Op) : Prop :=
  match op with
  | .malloc id _ _ => (findBlock hs.live id).isSome = false
  | .calloc id _ _ => (findBlock hs.live id).isSome = false
  | .realloc id _ => (findBlock hs.live id).isSome = true
  | .free id => (findBlock hs.live id).isSome = true

/-- the error outcomes left for a step from a good state: the list of OS answers handed to `step` does not match the
system calls the operation makes (wrong kind of answer, or answers left over) -/
def StepErr (e : String) : Prop := IsDesync e ∨ e = "os-desync:unused-answers"

theorem ap_unused_err {α : Type} (c : Bool) (x : M α) (hx : ∃ a, x = .ok a) :
    ∀ e, (failIf c "os-desync:unused-answers" >>= fun _ => x) = .error e → StepErr e := by
  refine bind_err_of (fun e he => Or.inr (failIf_err.1 he).2.symm) (fun _ _ e he => ?_)
  obtain ⟨a, ha⟩ := hx
  rw [ha] at he; cases he

/-- **progress of one step**, from the entry-point progress theorems -/
theorem step_progress_of_entry_progs (hm : malloc_Prog) (hf : free_Prog) (hr : realloc_Prog)
    {hs : Hist} {op : Op} {os : List OsDir} (hi : Inv2 hs) (hrc : RcOk hs.st) (hfp : FpOk hs.st) (hop : OpOk hs op os)
    (hv : ValidOp hs op) : ∀ e, hs.step op os = .error e → StepErr e := by
  obtain ⟨hinv, huq, hao⟩ := hi
  have hsi := as_sinv_start hinv.1 os
  unfold Hist.step
  dsimp only
  cases op with
  | malloc id size align =>
    obtain ⟨k, hk, hal, hbig, hos⟩ := hop
    subst hal
    dsimp only
    rw [show (findBlock hs.live id).isSome = false from hv]
    refine bind_err_of (fun e he => by cases he) (fun _ _ => bind_err_of (fun e he => Or.inl (hm hsi hk hbig hos e he)) ?_)
    rintro ⟨s1, p⟩ _
    exact ap_unused_err _ _ ⟨_, rfl⟩
  | calloc id size align =>
    obtain ⟨k, hk, hal, hbig, hos⟩ := hop
    subst hal
    dsimp only
    rw [show (findBlock hs.live id).isSome = false from hv]
    refine bind_err_of (fun e he => by cases he) (fun _ _ => bind_err_of
      (fun e he => Or.inl (ap_calloc_prog hm hsi hk hbig hos e he)) ?_)
    rintro ⟨s1, p, z⟩ _
    exact ap_unused_err _ _ ⟨_, rfl⟩
  | realloc id ns =>
    obtain ⟨b, hb⟩ := Option.isSome_iff_exists.1 (show (findBlock hs.live id).isSome = true from hv)
    dsimp only
    rw [hb]
    dsimp only
    obtain ⟨hb0, _⟩ := as_findBlock_some hb
    obtain ⟨k, hk, hal⟩ := hao b hb0
    obtain ⟨hbig, hos⟩ := hop b hb
    rw [hal] at hbig hos ⊢
    obtain ⟨h16, _, hmodp, z, hu, _, h32⟩ := (as_liveOn_start hinv os).blocks b hb0
    rw [hal] at hmodp
    refine bind_err_of (fun e he => Or.inl (hr hsi hrc hfp h16 hu h32 hk hmodp hbig hos e he)) ?_
    rintro ⟨s1, p, c⟩ _
    exact ap_unused_err _ _ ⟨_, rfl⟩
  | free id =>
    obtain ⟨b, hb⟩ := Option.isSome_iff_exists.1 (show (findBlock hs.live id).isSome = true from hv)
    dsimp only
    rw [hb]
    dsimp only
    obtain ⟨hb0, _⟩ := as_findBlock_some hb
    obtain ⟨h16, _, _, z, hu, _, h32⟩ := (as_liveOn_start hinv os).blocks b hb0
    refine bind_err_of (fun e he => Or.inl (hf hsi hrc hfp h16 ⟨z, hu, h32⟩ e he)) ?_
    intro s1 _
    exact ap_unused_err _ _ ⟨_, rfl⟩

/-- **progress of one step**, from the leaf progress theorems: from a state satisfying the invariant, an operation
the caller is entitled to make cannot trip a `debug_assert!`, underflow, read an unwritten header, take a dead
direct-mmap branch or miss a chunk in its bin — the only error outcomes left are the `os-desync` ones -/
theorem step_progress_of_progs (h1 : malloc_nosys_Prog) (h2 : sys_alloc_Prog) (h3 : free_heap_Prog) (h4 : sys_trim_Prog)
    (h5 : release_unused_segments_Prog) (h6 : try_realloc_chunk_Prog) (h7 : memalign_fix_Prog)
    {hs : Hist} {op : Op} {os : List OsDir} (hi : Inv2 hs) (hrc : RcOk hs.st) (hfp : FpOk hs.st) (hop : OpOk hs op os)
    (hv : ValidOp hs op) : ∀ e, hs.step op os = .error e → IsDesync e ∨ e = "os-desync:unused-answers" := by
  obtain ⟨hm, hf, hr⟩ := ap_entry_progs h1 h2 h3 h4 h5 h6 h7
  exact step_progress_of_entry_progs hm hf hr hi hrc hfp hop hv

/-- the invariant after a step (the assembled inductiveness theorem) -/
theorem ap_inv_step {hs hs' : Hist} {op : Op} {os : List OsDir} {out : Out}
    (hi : Inv2 hs) (hop : OpOk hs op os) (h : hs.step op os = .ok (hs', out)) : Inv2 hs' :=
  inv_step_of_leaf_specs all_malloc_nosys all_sys_alloc all_free_heap all_sys_trim all_release_unused_segments
    all_try_realloc_chunk all_memalign_fix hi hop h

/-- **`RcOk` is preserved by every step** -/
theorem rcOk_step {hs hs' : Hist} {op : Op} {os : List OsDir} {out : Out}
    (hi : Inv2 hs) (hrc : RcOk hs.st) (hop : OpOk hs op os) (h : hs.step op os = .ok (hs', out)) : RcOk hs'.st := by
  have hi' := ap_inv_step hi hop h
  have w : WFS (hs.start os) := hi.1.1.wfs.start os
  have w' := hi'.1.1.wfs
  suffices hrel : ap_RcRel (hs.start os) hs'.st from ap_rcOk_of_rel w w' hrc hrel
  cases op with
  | malloc id size align =>
    obtain ⟨_, s1, p, hmal, rfl, _⟩ := step_malloc_cases h
    exact ap_malloc_rc w hmal
  | calloc id size align =>
    obtain ⟨_, s1, p, z, hcal, rfl, _⟩ := step_calloc_cases h
    exact ap_malloc_rc w (as_calloc_malloc hcal)
  | realloc id ns =>
    obtain ⟨b, _, s1, p, c, hre, rfl, _⟩ := step_realloc_cases h
    exact ap_realloc_rc w hre
  | free id =>
    obtain ⟨b, _, s1, hfree, rfl, _⟩ := step_free_cases h
    exact ap_free_rc hfree

/-- **`FpOk` is preserved by every step** (no invariant needed: pure bookkeeping, `step_book`) -/
theorem fpOk_step {hs hs' : Hist} {op : Op} {os : List OsDir} {out : Out}
    (hfp : FpOk hs.st) (h : hs.step op os = .ok (hs', out)) : FpOk hs'.st :=
  (show FpOk (hs.start os) from hfp).of_book (step_book h)

/-- the full invariant of the progress theorem -/
def Inv3 (hs : Hist) : Prop := Inv2 hs ∧ RcOk hs.st ∧ FpOk hs.st

theorem inv3_init : Inv3 Hist.init := ⟨inv2_init, fun h => absurd rfl h, rfl⟩

/-- **`Inv3` is preserved by every successful step** -/
theorem ap_inv3_step {hs hs' : Hist} {op : Op} {os : List OsDir} {out : Out}
    (hi : Inv3 hs) (hop : OpOk hs op os) (h : hs.step op os = .ok (hs', out)) : Inv3 hs' :=
  ⟨ap_inv_step hi.1 hop h, rcOk_step hi.1 hi.2.1 hop h, fpOk_step hi.2.2 h⟩

/-! ## 6. whole histories -/

/-- every operation of the history satisfies `OpOk` and `ValidOp` in the state it is applied to -/
def RunOk2 : Hist → List (Op × List OsDir) → Prop
  | _, [] => True
  | hs, (op, os) :: rest => OpOk hs op os ∧ ValidOp hs op ∧
      ∀ hs1 out, hs.step op os = .ok (hs1, out) → RunOk2 hs1 rest

theorem RunOk2.runOk : ∀ {ops : List (Op × List OsDir)} {hs : Hist}, RunOk2 hs ops → RunOk hs ops := by
  intro ops
  induction ops with
  | nil => intro hs _; trivial
  | cons x rest ih =>
    intro hs h
    obtain ⟨op, os⟩ := x
    exact ⟨h.1, fun hs1 out hst => ih (h.2.2 hs1 out hst)⟩

/-- a prefix of a good history is a good history -/
theorem RunOk2.prefix : ∀ {a b : List (Op × List OsDir)} {hs : Hist}, RunOk2 hs (a ++ b) → RunOk2 hs a := by
  intro a
  induction a with
  | nil => intro b hs _; trivial
  | cons x rest ih =>
    intro b hs h
    obtain ⟨op, os⟩ := x
    exact ⟨h.1, h.2.1, fun hs1 out hst => ih (h.2.2 hs1 out hst)⟩

/-- the invariant along a history -/
theorem ap_run_inv (ops : List (Op × List OsDir)) : ∀ {hs hs' : Hist} {evs : List OsEv}, Inv3 hs →
    RunOk2 hs ops → hs.run ops = .ok (hs', evs) → Inv3 hs' := by
  induction ops with
  | nil =>
    intro hs hs' evs hi _ h
    unfold Hist.run at h
    msimp at h
    simp only [Prod.mk.injEq] at h
    obtain ⟨h1, _⟩ := h; subst h1
    exact hi
  | cons x rest ih =>
    intro hs hs' evs hi hok h
    obtain ⟨op, os⟩ := x
    obtain ⟨hop, _, hrest⟩ := hok
    unfold Hist.run at h
    msimp at h
    obtain ⟨⟨hs1, o1⟩, h1, ⟨hs2, e2⟩, h2, h⟩ := h
    simp only [Prod.mk.injEq] at h
    obtain ⟨e1, _⟩ := h; subst e1
    exact ih (ap_inv3_step hi hop h1) (hrest hs1 o1 h1) h2

/-- **progress of a history**: a history all of whose operations are `OpOk` and `ValidOp` when they are applied either
runs to the end or stops at an operation whose OS answers do not match its system calls -/
theorem run_progress_from (hm : malloc_Prog) (hf : free_Prog) (hr : realloc_Prog) (ops : List (Op × List OsDir)) :
    ∀ {hs : Hist}, Inv3 hs → RunOk2 hs ops → ∀ e, hs.run ops = .error e → StepErr e := by
  induction ops with
  | nil =>
    intro hs _ _ e he
    cases he
  | cons x rest ih =>
    intro hs hi hok
    obtain ⟨op, os⟩ := x
    obtain ⟨hop, hv, hrest⟩ := hok
    unfold Hist.run
    refine bind_err_of (step_progress_of_entry_progs hm hf hr hi.1 hi.2.1 hi.2.2 hop hv) ?_
    rintro ⟨hs1, o1⟩ h1
    refine bind_err_of (ih (ap_inv3_step hi hop h1) (hrest hs1 o1 h1)) ?_
    rintro ⟨_, _⟩ _ e he
    cases he

/-- … from the initial state, from the leaf progress theorems; together with `RunOk2.prefix`: every prefix of such a
history either runs or stops with a desync -/
theorem run_progress_of_progs (h1 : malloc_nosys_Prog) (h2 : sys_alloc_Prog) (h3 : free_heap_Prog) (h4 : sys_trim_Prog)
    (h5 : release_unused_segments_Prog) (h6 : try_realloc_chunk_Prog) (h7 : memalign_fix_Prog)
    {ops : List (Op × List OsDir)} (hok : RunOk2 Hist.init ops) :
    (∀ e, Hist.init.run ops = .error e → IsDesync e ∨ e = "os-desync:unused-answers") ∧
    (∀ hs' evs, Hist.init.run ops = .ok (hs', evs) → Inv3 hs') := by
  obtain ⟨hm, hf, hr⟩ := ap_entry_progs h1 h2 h3 h4 h5 h6 h7
  exact ⟨run_progress_from hm hf hr ops inv3_init hok, fun hs' evs h => ap_run_inv ops inv3_init hok h⟩

/-! ## 7. non-vacuity (kernel-evaluated) -/

theorem ap_err_of_matchB {α : Type} {x : M α} {p : String → Bool}
    (h : (match x with | .ok _ => false | .error e => p e) = true) : ∃ e, x = .error e ∧ p e = true := by
  cases x with
  | ok v => cases h
  | error e => exact ⟨e, rfl, h⟩

set_option maxRecDepth 40000 in
/-- `RcOk` holds non-trivially on the demo state (two segments, `top` set, countdown running) -/
theorem ap_demo_rcOk : RcOk as_demo.st ∧ as_demo.st.h.top ≠ 0 ∧ as_demo.st.release_checks = 4095 := by
  refine ⟨fun _ => ?_, by decide, by decide⟩
  have : as_demo.st.release_checks = 4095 := by decide
  omega

set_option maxRecDepth 40000 in
/-- hypotheses of `step_progress_of_progs` for a `malloc` that needs a mapping but is handed no OS answer: the step
does stop, with one of the outcomes the theorem allows -/
example : Inv2 as_demo ∧ RcOk as_demo.st ∧ FpOk as_demo.st ∧ OpOk as_demo (.malloc 7 100000 8) [] ∧
    ValidOp as_demo (.malloc 7 100000 8) ∧
    as_demo.step (.malloc 7 100000 8) [] = .error "os-desync:mmap" ∧ IsDesync "os-desync:mmap" := by
  refine ⟨as_demo_inv2.1, ap_demo_rcOk.1, by unfold FpOk; decide, ⟨3, by decide, by decide, by unfold as_BigOk; decide, ?_⟩, by unfold ValidOp; decide,
    ?_, Or.inl rfl⟩
  · intro tbase q hq
    cases hq
  · obtain ⟨e, he, hp⟩ := ap_err_of_matchB (x := as_demo.step (.malloc 7 100000 8) [])
      (p := fun e => decide (e = "os-desync:mmap")) (by decide)
    simp only [decide_eq_true_eq] at hp
    rw [he, hp]

set_option maxRecDepth 40000 in
/-- … and with an answer too many: `os-desync:unused-answers` -/
example : OpOk as_demo (.malloc 7 100 8) [.m none] ∧ ValidOp as_demo (.malloc 7 100 8) ∧
    as_demo.step (.malloc 7 100 8) [.m none] = .error "os-desync:unused-answers" := by
  refine ⟨⟨3, by decide, by decide, by unfold as_BigOk; decide, ?_⟩, by unfold ValidOp; decide, ?_⟩
  · intro tbase q hq
    cases hq
  · obtain ⟨e, he, hp⟩ := ap_err_of_matchB (x := as_demo.step (.malloc 7 100 8) [.m none])
      (p := fun e => decide (e = "os-desync:unused-answers")) (by decide)
    simp only [decide_eq_true_eq] at hp
    rw [he, hp]

set_option maxRecDepth 40000 in
/-- `ValidOp` / `OpOk` for `realloc` and `free` of live blocks of the demo state (the steps run) -/
example : ValidOp as_demo (.realloc 4 200000) ∧ ValidOp as_demo (.free 1) ∧ OpOk as_demo (.free 1) [] ∧
    (∃ v, as_demo.step (.free 1) [] = .ok v) := by
  refine ⟨by unfold ValidOp; decide, by unfold ValidOp; decide, trivial, ?_⟩
  obtain ⟨v, hv, _⟩ := as_ok_of_matchB (x := as_demo.step (.free 1) []) (p := fun _ => true) (by decide)
  exact ⟨v, hv⟩

/-- a 1000-byte block (its chunk goes to a tree bin when freed) and a small one behind it -/
def ap_ops2 : List (Op × List OsDir) := [(.malloc 1 1000 8, [.m (some 1048576)]), (.malloc 2 100 8, [])]

def ap_st2 : Hist := match Hist.init.run ap_ops2 with
  | .ok (hs, _) => hs
  | .error _ => Hist.init

/-- the same state with the countdown at 0 -/
def ap_st3 : Hist := { ap_st2 with st := { ap_st2.st with release_checks := 0 } }

set_option maxRecDepth 40000 in
/-- **`RcOk` is needed**: `Inv2` does not constrain `release_checks`; from a state satisfying `Inv2` but not `RcOk`
the `free` of a large chunk stops with `underflow:release_checks` (in the Rust code: `release_checks -= 1` on 0).
Such a state is unreachable (`rcOk_step`); from the reachable twin the same `free` runs and counts down. -/
example : Inv2 ap_st3 ∧ ¬ RcOk ap_st3.st ∧ OpOk ap_st3 (.free 1) [] ∧ ValidOp ap_st3 (.free 1) ∧
    ap_st3.step (.free 1) [] = .error "underflow:release_checks" ∧
    Inv2 ap_st2 ∧ RcOk ap_st2.st ∧ (∃ v, ap_st2.step (.free 1) [] = .ok v ∧ v.1.st.release_checks = 4094) := by
  refine ⟨as_inv2B_ok (by decide), ?_, trivial, by unfold ValidOp; decide, ?_, as_inv2B_ok (by decide), ?_, ?_⟩
  · intro h
    have h1 : ap_st3.st.h.top ≠ 0 := by decide
    have h2 : ap_st3.st.release_checks = 0 := by decide
    have := h h1
    omega
  · obtain ⟨e, he, hp⟩ := ap_err_of_matchB (x := ap_st3.step (.free 1) [])
      (p := fun e => decide (e = "underflow:release_checks")) (by decide)
    simp only [decide_eq_true_eq] at hp
    rw [he, hp]
  · intro _
    have : ap_st2.st.release_checks = 4095 := by decide
    omega
  · obtain ⟨v, hv, hp⟩ := as_ok_of_matchB (x := ap_st2.step (.free 1) [])
      (p := fun v => decide (v.1.st.release_checks = 4094)) (by decide)
    simp only [decide_eq_true_eq] at hp
    exact ⟨v, hv, hp⟩

theorem ap_runOk2_malloc_free : RunOk2 Hist.init [(.malloc 1 100 8, [.m (some 1048576)]), (.free 1, [])] := by
  refine ⟨⟨3, by decide, by decide, by unfold as_BigOk; decide, ?_⟩, by unfold ValidOp; decide, ?_⟩
  · intro tbase q hq
    have : tbase = 1048576 := by
      injection hq with h1 _
      injection h1 with h1
      injection h1 with h1
      exact h1.symm
    subst this
    exact ⟨⟨by decide, by decide, by decide, fun g hg => by cases hg⟩, by decide⟩
  · intro hs1 out hst
    obtain ⟨v, hv, hp⟩ := as_ok_of_matchB (x := Hist.init.step (.malloc 1 100 8) [.m (some 1048576)])
      (p := fun v => (findBlock v.1.live 1).isSome) (by decide +kernel)
    rw [hv] at hst
    injection hst with hst
    subst hst
    exact ⟨trivial, hp, fun _ _ _ => trivial⟩


set_option maxRecDepth 40000 in
/-- hypotheses of `run_progress_of_progs`: `RunOk2` of a short history from the initial state -/
example : RunOk2 Hist.init [(.malloc 1 100 8, [.m (some 1048576)]), (.free 1, [])] :=
  ap_runOk2_malloc_free

end TinyVerif.Dl
