import TinyVerif.Model.Fs
/-! Lemmas for C14: the tree operations and their frames, inversions of the syscalls, the loops of the mirrors. -/
namespace TinyVerif.Fs

theorem assoc_append (es fs : List (Name × Node)) (c : Name) :
    assoc (es ++ fs) c = (assoc es c).or (assoc fs c) := by
  induction es with
  | nil => rfl
  | cons e es ih => simp only [List.cons_append, assoc]; split <;> simp [ih]

theorem assoc_map_replace (es : List (Name × Node)) (c c' : Name) (x : Node) :
    assoc (es.map (fun e => if e.1 = c then (c, x) else e)) c' =
      if c' = c then (assoc es c).map (fun _ => x) else assoc es c' := by
  induction es with
  | nil => simp [assoc]
  | cons e es ih =>
    simp only [List.map_cons, assoc, ih]
    by_cases h2 : c' = c
    · subst h2; by_cases h1 : e.1 = c' <;> simp [h1]
    · by_cases h1 : e.1 = c <;> simp [h1, h2, Ne.symm h2]

theorem assoc_put (es : List (Name × Node)) (c c' : Name) (x : Node) :
    assoc (put es c x) c' = if c' = c then some x else assoc es c' := by
  unfold put
  split
  · rename_i h; rw [assoc_map_replace, h]; rfl
  · rename_i h
    rw [assoc_append]
    by_cases h2 : c' = c
    · subst h2; simp [h, assoc]
    · simp [h2, Ne.symm h2, assoc]

theorem assoc_del (es : List (Name × Node)) (c c' : Name) :
    assoc (del es c) c' = if c' = c then none else assoc es c' := by
  induction es with
  | nil => simp [del, assoc]
  | cons e es ih =>
    simp only [del] at ih ⊢
    by_cases h1 : e.1 = c
    · simp only [List.filter, h1, ne_eq, not_true_eq_false, decide_false, ih, assoc]
      by_cases h2 : c' = c
      · simp [h2]
      · simp [h2, Ne.symm h2]
    · simp only [List.filter, ne_eq, h1, not_false_eq_true, decide_true, assoc, ih]
      by_cases h2 : c' = c
      · subst h2; simp [h1]
      · simp [h2]

/-- the entry `c` of a directory; nothing lies below any other kind of node -/
def child : Node → Name → Option Node
  | .dir es, c => assoc es c
  | _, _ => none

theorem getAt_cons (n : Node) (c : Name) (r : List Name) : getAt n (c :: r) = (child n c).bind (getAt · r) := by
  cases n with
  | dir es => simp only [getAt, child]; cases assoc es c <;> rfl
  | _ => rfl

theorem getAt_append (r : Node) (l m : List Name) :
    getAt r (l ++ m) = (getAt r l).bind (getAt · m) := by
  induction l generalizing r with
  | nil => rfl
  | cons c l ih =>
    simp only [List.cons_append, getAt_cons]
    cases child r c with
    | none => rfl
    | some x => exact ih x

theorem kind_setAt (r : Node) (loc : List Name) (o : Option Node) (h : loc ≠ []) :
    (setAt r loc o).kind = r.kind := by
  match r, loc with
  | _, [] => exact absurd rfl h
  | .dir es, [c] => rfl
  | .dir es, c :: c' :: l => simp only [setAt]; split <;> rfl
  | .file _, _ :: _ | .symlink _, _ :: _ | .fifo, _ :: _ | .special _, _ :: _ => rfl

theorem child_setAt_ne (n : Node) (c d : Name) (l : List Name) (o : Option Node) (h : d ≠ c) :
    child (setAt n (c :: l) o) d = child n d := by
  match n, l, o with
  | .dir es, [], some x => simp [setAt, child, assoc_put, h]
  | .dir es, [], none => simp [setAt, child, assoc_del, h]
  | .dir es, c' :: l, o => simp only [setAt]; split <;> simp [child, assoc_put, h]
  | .file _, _, _ | .symlink _, _, _ | .fifo, _, _ | .special _, _, _ => rfl

theorem child_setAt_deep (n : Node) (c c' : Name) (l : List Name) (o : Option Node) :
    child (setAt n (c :: c' :: l) o) c = (child n c).map (setAt · (c' :: l) o) := by
  cases n with
  | dir es => cases h : assoc es c <;> simp [setAt, child, h, assoc_put]
  | _ => rfl

theorem child_setAt_last (es : List (Name × Node)) (c : Name) (o : Option Node) :
    child (setAt (.dir es) [c] o) c = o := by
  cases o <;> simp [setAt, child, assoc_put, assoc_del]

/-- every location that is neither `loc` nor below it looks the same after `setAt … loc …` -/
theorem view_setAt_other (r : Node) (loc q : List Name) (o : Option Node)
    (hne : q ≠ loc) (hnp : ¬ loc <+: q) : view (setAt r loc o) q = view r q := by
  induction loc generalizing r q with
  | nil => exact absurd List.nil_prefix hnp
  | cons c l ih =>
    cases q with
    | nil => simp [view, getAt, kind_setAt]
    | cons d q' =>
      simp only [view, getAt_cons]
      by_cases hdc : d = c
      · subst hdc
        cases l with
        | nil => exact absurd (by simp) hnp
        | cons c' l' =>
          rw [child_setAt_deep]
          cases child r d with
          | none => rfl
          | some x => exact ih x q' (by simpa using hne) (by simpa using hnp)
      · rw [child_setAt_ne _ _ _ _ _ hdc]

/-- the parent of `loc` resolves to a directory (vacuous for the root) -/
def parentOk : Node → List Name → Prop
  | _, [] => True
  | n, [_] => ∃ es, n = .dir es
  | n, c :: c' :: l => ∃ x, child n c = some x ∧ parentOk x (c' :: l)

theorem parentOk_of_getAt (r : Node) (loc : List Name) (n : Node) (h : getAt r loc = some n) : parentOk r loc := by
  induction loc generalizing r with
  | nil => trivial
  | cons c l ih =>
    rw [getAt_cons] at h
    cases hx : child r c with
    | none => simp [hx] at h
    | some x =>
      cases l with
      | nil => cases r <;> simp [child] at hx; exact ⟨_, rfl⟩
      | cons c' l' => exact ⟨x, hx, ih x (by simpa [hx] using h)⟩

theorem getAt_setAt_some (r : Node) (loc : List Name) (x : Node) (hp : parentOk r loc) :
    getAt (setAt r loc (some x)) loc = some x := by
  induction loc generalizing r with
  | nil => rfl
  | cons c l ih =>
    cases l with
    | nil => obtain ⟨es, rfl⟩ := hp; rw [getAt_cons, child_setAt_last]; rfl
    | cons c' l' =>
      obtain ⟨y, hy, hp'⟩ := hp
      rw [getAt_cons, child_setAt_deep, hy]
      exact ih y hp'

theorem getAt_setAt_none (r : Node) (loc : List Name) (h : loc ≠ []) :
    getAt (setAt r loc none) loc = none := by
  induction loc generalizing r with
  | nil => exact absurd rfl h
  | cons c l ih =>
    cases l with
    | nil => cases r <;> simp [getAt_cons, setAt, child, assoc_del]
    | cons c' l' =>
      rw [getAt_cons, child_setAt_deep]
      cases child r c with
      | none => rfl
      | some y => exact ih y (by simp)

theorem walk_found_iff (r : Node) (loc : List Name) (n : Node) :
    walk r loc = .found n ↔ getAt r loc = some n ∧ ∀ c ∈ loc, c.length ≤ NAME_MAX := by
  induction loc generalizing r with
  | nil => simp [walk, getAt]
  | cons c l ih =>
    cases r with
    | dir es =>
      simp only [walk, getAt, List.forall_mem_cons]
      by_cases hc : c.length > NAME_MAX
      · simp only [hc, if_true]
        exact ⟨fun h => (by cases h), fun h => by omega⟩
      · cases hx : assoc es c with
        | none => cases l <;> simp [hc]
        | some x => simp only [hc, if_false, ih x]; exact ⟨fun h => ⟨h.1, by omega, h.2⟩, fun h => ⟨h.1, h.2.2⟩⟩
    | _ => simp [walk, getAt]

theorem walk_missing (r : Node) (loc : List Name) (h : walk r loc = .missing) :
    getAt r loc = none ∧ parentOk r loc ∧ loc ≠ [] ∧ ∀ c ∈ loc, c.length ≤ NAME_MAX := by
  induction loc generalizing r with
  | nil => cases h
  | cons c l ih =>
    cases r with
    | dir es =>
      simp only [walk] at h
      split at h
      · cases h
      · cases hx : assoc es c with
        | none =>
          rw [hx] at h
          cases l with
          | nil => exact ⟨by simp [getAt, hx], ⟨es, rfl⟩, by simp, by simp; omega⟩
          | cons c' l' => cases h
        | some x =>
          rw [hx] at h
          obtain ⟨h1, h2, h3, h4⟩ := ih x h
          refine ⟨by simp [getAt, hx, h1], ?_, by simp, by simp only [List.forall_mem_cons]; exact ⟨by omega, h4⟩⟩
          cases l with
          | nil => exact absurd rfl h3
          | cons c' l' => exact ⟨x, hx, h2⟩
    | _ => simp [walk] at h

/-- nothing lives below a location that is absent or not a directory -/
theorem view_below_none (r : Node) (loc m : List Name) (hm : m ≠ [])
    (h : ∀ es, getAt r loc ≠ some (.dir es)) : view r (loc ++ m) = none := by
  cases m with
  | nil => exact absurd rfl hm
  | cons c m' =>
    simp only [view, getAt_append]
    cases hg : getAt r loc with
    | none => rfl
    | some n =>
      cases n with
      | dir es => exact absurd hg (h es)
      | _ => rfl

/-- state reached while the file at `loc` is being (over)written: only `loc` differs from `r0` -/
structure FileInv (r0 r : Node) (loc : List Name) (w : Bytes) : Prop where
  here : getAt r loc = some (.file w)
  frame : ∀ q, q ≠ loc → view r q = view r0 q

/-- replacing an absent node or a regular file by a regular file changes that one location only -/
theorem replace_file_frame (r : Node) (loc : List Name) (b' : Bytes) (hp : parentOk r loc)
    (hold : ∀ es, getAt r loc ≠ some (.dir es)) : FileInv r (setAt r loc (some (.file b'))) loc b' := by
  have here := getAt_setAt_some r loc (.file b') hp
  refine ⟨here, fun q hq => ?_⟩
  by_cases hpre : loc <+: q
  · obtain ⟨m, rfl⟩ := hpre
    have hm : m ≠ [] := by intro h; subst h; simp at hq
    rw [view_below_none _ loc m hm (by simp [here]), view_below_none r loc m hm hold]
  · exact view_setAt_other r loc q _ hq hpre

theorem FileInv.step {r0 r : Node} {loc : List Name} {w : Bytes} (inv : FileInv r0 r loc w) (w' : Bytes) :
    FileInv r0 (setAt r loc (some (.file w'))) loc w' :=
  have h := replace_file_frame r loc w' (parentOk_of_getAt r loc _ inv.here) (by simp [inv.here])
  ⟨h.here, fun q hq => (h.frame q hq).trans (inv.frame q hq)⟩

abbrev F_WCT : Nat := 524865   -- O_CLOEXEC | O_WRONLY | O_CREAT | O_TRUNC
abbrev F_RD : Nat := 524288    -- O_CLOEXEC | O_RDONLY

/-- `writeOpts` is this literal; `File::copy` opens its destination with the same options -/
theorem openFlags_write : openFlags ⟨false, true, false, true, true, false⟩ 0 = some F_WCT := by decide
theorem openFlags_read : openFlags ⟨true, false, false, false, false, false⟩ 0 = some F_RD := by decide

theorem F_WCT_bits : hasBit F_WCT O_CREAT = true ∧ hasBit F_WCT O_EXCL = false ∧ hasBit F_WCT O_TRUNC = true ∧
    hasBit F_WCT O_DIRECTORY = false ∧ hasBit F_WCT O_NOFOLLOW = false ∧ hasBit F_WCT O_APPEND = false ∧
    F_WCT % 4 = 1 := by decide

theorem F_RD_bits : hasBit F_RD O_CREAT = false ∧ hasBit F_RD O_EXCL = false ∧ hasBit F_RD O_TRUNC = false ∧
    hasBit F_RD O_DIRECTORY = false ∧ hasBit F_RD O_NOFOLLOW = false ∧ F_RD % 4 = 0 := by decide

theorem parsePath_cwd (st st' : FS) (p : Bytes) (h : st'.cwd = st.cwd) : parsePath st' p = parsePath st p := by
  unfold parsePath; rw [h]

theorem fsRead_file (st : FS) (p : Bytes) (loc : List Name) (b : Bytes)
    (hp : parsePath st p = .ok (loc, false)) (hn : ∀ c ∈ loc, c.length ≤ NAME_MAX)
    (hg : getAt st.root loc = some (.file b)) : fsRead st p = .ok b := by
  obtain ⟨hb1, hb2, hb3, hb4, _⟩ := F_RD_bits
  simp [fsRead, optsOpen, openFlags_read, openat, hp, (walk_found_iff _ _ _).2 ⟨hg, hn⟩, hb1, hb2, hb3, hb4, hg]

theorem openat_wct_ok (st st1 : FS) (p : Bytes) (h : Handle) (hop : openat st p F_WCT = (st1, .ok h)) :
    parsePath st p = .ok (h.loc, false) ∧ (∀ c ∈ h.loc, c.length ≤ NAME_MAX) ∧ st1.cwd = st.cwd ∧
      FileInv st.root st1.root h.loc [] ∧ h.isDir = false ∧ h.flags = F_WCT ∧ h.off = 0 := by
  unfold openat at hop
  cases hpp : parsePath st p with
  | error e => simp [hpp] at hop
  | ok lt =>
    obtain ⟨loc, tr⟩ := lt
    obtain ⟨hb1, hb2, hb3, hb4, hb5, _, hb6⟩ := F_WCT_bits
    simp only [hpp, hb1, hb2, hb3, hb4, hb5, hb6] at hop
    cases hw : walk st.root loc with
    | err e => simp [hw] at hop
    | missing =>
      obtain ⟨h1, h2, _, h4⟩ := walk_missing _ _ hw
      cases tr <;> simp [hw] at hop
      obtain ⟨rfl, rfl⟩ := hop
      exact ⟨rfl, h4, rfl, replace_file_frame _ _ _ h2 (by simp [h1]), rfl, rfl, rfl⟩
    | found n =>
      obtain ⟨h1, h4⟩ := (walk_found_iff _ _ _).1 hw
      cases n with
      | file b =>
        cases tr <;> simp [hw] at hop
        obtain ⟨rfl, rfl⟩ := hop
        exact ⟨rfl, h4, rfl, replace_file_frame _ _ _ (parentOk_of_getAt _ _ _ h1) (by simp [h1]), rfl, rfl, rfl⟩
      | special s => cases s <;> cases tr <;> simp [hw] at hop
      | _ => simp [hw] at hop

theorem clamp_le (k want : Nat) : clamp k want ≤ want := by unfold clamp; split <;> omega

theorem clamp_pos (k want : Nat) (h : 0 < want) : 0 < clamp k want := by unfold clamp; split <;> omega

theorem writeAt_end (w chunk : Bytes) : writeAt w w.length chunk = w ++ chunk := by
  simp [writeAt]

theorem sysWrite_eq {r0 : Node} {st : FS} {h : Handle} {w : Bytes} (data : Bytes) (k : Nat)
    (inv : FileInv r0 st.root h.loc w) (hd : h.isDir = false) (hf : h.flags = F_WCT) (ho : h.off = w.length) :
    sysWrite st h data k =
      ({ st with root := setAt st.root h.loc (some (.file (w ++ data.take (clamp k data.length)))) },
        .ok ({ h with off := w.length + clamp k data.length }, clamp k data.length)) := by
  obtain ⟨_, _, _, _, _, hb, hb6⟩ := F_WCT_bits
  simp [sysWrite, hd, hf, hb6, inv.here, hb, ho, writeAt_end]

theorem writeAll_ok (r0 : Node) (script : List Nat) :
    ∀ (st st' : FS) (h : Handle) (w data : Bytes),
      FileInv r0 st.root h.loc w → h.isDir = false → h.flags = F_WCT → h.off = w.length →
      writeAll st h data script = (st', .ok ()) →
      FileInv r0 st'.root h.loc (w ++ data) ∧ st'.cwd = st.cwd := by
  induction script with
  | nil =>
    intro st st' h w data inv hd hf ho hs
    unfold writeAll at hs
    by_cases hdat : data = []
    · simp [hdat] at hs; subst hs; simpa [hdat] using inv
    · simp only [hdat, if_false, sysWrite_eq data 0 inv hd hf ho, Prod.mk.injEq, and_true] at hs
      subst hs
      have : clamp 0 data.length = data.length := by simp [clamp]
      exact ⟨by simpa [this] using inv.step (w ++ data.take (clamp 0 data.length)), rfl⟩
  | cons k ks ih =>
    intro st st' h w data inv hd hf ho hs
    unfold writeAll at hs
    by_cases hdat : data = []
    · simp [hdat] at hs; subst hs; simpa [hdat] using inv
    · have hpos := clamp_pos k data.length (List.length_pos_iff.2 hdat)
      simp only [hdat, if_false, sysWrite_eq data k inv hd hf ho, Nat.ne_of_gt hpos] at hs
      have := ih _ st' { h with off := w.length + clamp k data.length } (w ++ data.take (clamp k data.length)) _ (inv.step _) hd hf
        (by simp [Nat.min_eq_left (clamp_le _ _)]) hs
      simpa using this

theorem openat_rd_ok (st st0 : FS) (p : Bytes) (h : Handle) (hop : openat st p F_RD = (st0, .ok h)) :
    st0 = st ∧ (∃ tr, parsePath st p = .ok (h.loc, tr)) ∧
      ((h.isDir = false ∧ ∃ b, getAt st.root h.loc = some (.file b)) ∨
       (h.isDir = true ∧ ∃ es, getAt st.root h.loc = some (.dir es))) := by
  unfold openat at hop
  cases hpp : parsePath st p with
  | error e => simp [hpp] at hop
  | ok lt =>
    obtain ⟨loc, tr⟩ := lt
    obtain ⟨hb1, hb2, hb3, hb4, hb5, hb6⟩ := F_RD_bits
    simp only [hpp, hb1, hb2, hb3, hb4, hb5, hb6] at hop
    cases hw : walk st.root loc with
    | err e => simp [hw] at hop
    | missing => simp [hw] at hop
    | found n =>
      have hg := ((walk_found_iff _ _ _).1 hw).1
      cases n with
      | dir es =>
        simp [hw] at hop
        obtain ⟨rfl, rfl⟩ := hop
        exact ⟨rfl, ⟨tr, rfl⟩, .inr ⟨rfl, es, hg⟩⟩
      | file b =>
        cases tr <;> simp [hw] at hop
        obtain ⟨rfl, rfl⟩ := hop
        exact ⟨rfl, ⟨false, rfl⟩, .inl ⟨rfl, b, hg⟩⟩
      | special s => cases s <;> cases tr <;> simp [hw] at hop
      | _ => simp [hw] at hop

theorem getAt_of_view_file (r : Node) (q : List Name) (b : Bytes) (h : view r q = some (.file b)) :
    getAt r q = some (.file b) := by
  unfold view at h
  cases hg : getAt r q with
  | none => simp [hg] at h
  | some n => cases n <;> simp_all [Node.kind]

theorem copyFileRange_eq {r0 : Node} {st : FS} {src dst : Handle} {s : Bytes} {off : Nat} (k : Nat)
    (inv : FileInv r0 st.root dst.loc (s.take off)) (hsrc : getAt st.root src.loc = some (.file s))
    (hne : src.loc ≠ dst.loc) (hle : off ≤ s.length) :
    copyFileRange st src dst off (s.length - off) k =
      ({ st with root := setAt st.root dst.loc (some (.file (s.take (off + clamp k (s.length - off))))) },
        .ok (clamp k (s.length - off))) := by
  have h := writeAt_end (s.take off) ((s.drop off).take (clamp k (s.length - off)))
  rw [List.length_take, Nat.min_eq_left hle, ← List.take_add] at h
  simp [copyFileRange, hne, hsrc, inv.here, h]

theorem copyLoop_ok (r0 : Node) (s : Bytes) (src : Handle) (script : List Nat) :
    ∀ (st st' : FS) (dst : Handle) (offset : Nat),
      FileInv r0 st.root dst.loc (s.take offset) → offset ≤ s.length →
      view r0 src.loc = some (.file s) →
      copyLoop st src dst s.length offset script = (st', .ok ()) →
      FileInv r0 st'.root dst.loc s := by
  induction script with
  | nil =>
    intro st st' dst offset inv hle hsrc hs
    unfold copyLoop at hs
    by_cases hz : s.length - offset = 0
    · simp [hz] at hs; subst hs
      simpa [List.take_of_length_le (Nat.le_of_sub_eq_zero hz)] using inv
    · by_cases hsame : src.loc = dst.loc
      · simp [hz, copyFileRange, hsame] at hs
      · have hsg := getAt_of_view_file _ _ _ ((inv.frame _ hsame).trans hsrc)
        simp only [hz, if_false, copyFileRange_eq 0 inv hsg hsame hle, Prod.mk.injEq, and_true] at hs
        subst hs
        have : offset + clamp 0 (s.length - offset) = s.length := by simp [clamp]; omega
        simpa [this] using inv.step (s.take (offset + clamp 0 (s.length - offset)))
  | cons k ks ih =>
    intro st st' dst offset inv hle hsrc hs
    unfold copyLoop at hs
    by_cases hz : s.length - offset = 0
    · simp [hz] at hs; subst hs
      simpa [List.take_of_length_le (Nat.le_of_sub_eq_zero hz)] using inv
    · by_cases hsame : src.loc = dst.loc
      · simp [hz, copyFileRange, hsame] at hs
      · have hsg := getAt_of_view_file _ _ _ ((inv.frame _ hsame).trans hsrc)
        have hpos := clamp_pos k (s.length - offset) (by omega)
        have hcl := clamp_le k (s.length - offset)
        simp only [hz, if_false, copyFileRange_eq k inv hsg hsame hle, Nat.ne_of_gt hpos] at hs
        exact ih _ st' dst _ (inv.step _) (by omega) hsrc hs

theorem unlinkat_rmdir_ok (st st' : FS) (p : Bytes) (h : unlinkat st p true = (st', .ok ())) :
    ∃ loc tr, parsePath st p = .ok (loc, tr) ∧ loc ≠ [] ∧ getAt st.root loc = some (.dir []) ∧
      st'.root = setAt st.root loc none ∧ st'.cwd = st.cwd := by
  unfold unlinkat at h
  cases hpp : parsePath st p with
  | error e => simp [hpp] at h
  | ok lt =>
    obtain ⟨loc, tr⟩ := lt
    cases hw : walk st.root loc with
    | err e => simp [hpp, hw] at h
    | missing => simp [hpp, hw] at h
    | found n =>
      have hg := ((walk_found_iff _ _ _).1 hw).1
      cases n with
      | dir es =>
        simp only [hpp, hw, Bool.not_true, Bool.false_eq_true, if_false] at h
        split at h
        · cases h
        · rename_i h1
          split at h
          · cases h
          · rename_i h2
            simp only [ne_eq, Decidable.not_not] at h2
            simp only [Prod.mk.injEq, and_true] at h
            subst h h2
            exact ⟨loc, tr, rfl, fun hl => by simp [hl] at h1, hg, rfl, rfl⟩
      | symlink t => cases tr <;> simp [hpp, hw] at h
      | _ => simp [hpp, hw] at h

theorem removeAllN_file (exact : Bool) (fuel : Nat) (b : Bytes) : (removeAllN exact fuel (.file b)).2 ≠ .ok () := by
  cases fuel <;> simp [removeAllN]

/-- the masked comparisons of `Metadata` recognise exactly their own file type, for every kind of node -/
theorem metaIsDir_stMode (k : Kind) : metaIsDir k.stMode = true ↔ k = .dir := by
  cases k with
  | special s => cases s <;> simp [Kind.stMode, metaIsDir] <;> decide
  | _ => simp [Kind.stMode, metaIsDir] <;> decide

theorem metaIsFile_stMode (k : Kind) : metaIsFile k.stMode = true ↔ ∃ b, k = .file b := by
  cases k with
  | special s => cases s <;> simp [Kind.stMode, metaIsFile] <;> decide
  | _ => simp [Kind.stMode, metaIsFile] <;> decide

theorem metaIsSymlink_stMode (k : Kind) : metaIsSymlink k.stMode = true ↔ ∃ t, k = .symlink t := by
  cases k with
  | special s => cases s <;> simp [Kind.stMode, metaIsSymlink] <;> decide
  | _ => simp [Kind.stMode, metaIsSymlink] <;> decide

theorem Node.kind_dir {n : Node} : n.kind = .dir ↔ ∃ es, n = .dir es := by
  cases n <;> simp [Node.kind]

/-- nothing that existed was changed or removed (directories may have gained entries) -/
def Mono (st st' : FS) : Prop :=
  st'.cwd = st.cwd ∧ ∀ q k, view st.root q = some k → view st'.root q = some k

theorem Mono.refl (st : FS) : Mono st st := ⟨rfl, fun _ _ h => h⟩

theorem Mono.trans {a b c : FS} (h1 : Mono a b) (h2 : Mono b c) : Mono a c :=
  ⟨h2.1.trans h1.1, fun q k h => h2.2 q k (h1.2 q k h)⟩

theorem mkdirat_cases (st : FS) (p : Bytes) :
    ((mkdirat st p).1 = st ∧ ∃ e, (mkdirat st p).2 = .error e) ∨
    ∃ loc tr, parsePath st p = .ok (loc, tr) ∧ walk st.root loc = .missing ∧
      mkdirat st p = ({ st with root := setAt st.root loc (some (.dir [])) }, .ok ()) := by
  unfold mkdirat
  cases hpp : parsePath st p with
  | error e => exact .inl ⟨rfl, e, rfl⟩
  | ok lt =>
    obtain ⟨loc, tr⟩ := lt
    simp only
    cases hw : walk st.root loc with
    | err e => exact .inl ⟨rfl, e, rfl⟩
    | found n => cases n <;> exact .inl ⟨rfl, _, rfl⟩
    | missing => exact .inr ⟨loc, tr, rfl, hw, rfl⟩

theorem mkdirat_mono (st : FS) (p : Bytes) : Mono st (mkdirat st p).1 := by
  rcases mkdirat_cases st p with ⟨h, _⟩ | ⟨loc, tr, _, hw, h⟩ <;> rw [h]
  · exact Mono.refl st
  · refine ⟨rfl, fun q k hq => ?_⟩
    obtain ⟨hnone, _, _, _⟩ := walk_missing _ _ hw
    have hql : q ≠ loc := by rintro rfl; simp [view, hnone] at hq
    by_cases hpre : loc <+: q
    · obtain ⟨m, rfl⟩ := hpre
      have hm : m ≠ [] := by rintro rfl; simp at hql
      rw [view_below_none st.root loc m hm (by simp [hnone])] at hq
      cases hq
    · rw [view_setAt_other _ _ _ _ hql hpre]; exact hq

/-- a successful `stat`: the path resolves to a node of the reported kind, and that node is not a symlink -/
theorem stat_ok (st : FS) (p : Bytes) (k : Kind) (h : stat st p = .ok k) :
    ∃ loc tr n, parsePath st p = .ok (loc, tr) ∧ getAt st.root loc = some n ∧ n.kind = k ∧ ∀ t, n ≠ .symlink t := by
  unfold stat at h
  cases hpp : parsePath st p with
  | error e => simp [hpp] at h
  | ok lt =>
    obtain ⟨loc, tr⟩ := lt
    cases hw : walk st.root loc with
    | err e => simp [hpp, hw] at h
    | missing => simp [hpp, hw] at h
    | found n =>
      have hg := ((walk_found_iff _ _ _).1 hw).1
      cases n with
      | symlink t => simp [hpp, hw] at h
      | dir es => exact ⟨loc, tr, _, rfl, hg, by simpa [hpp, hw, Node.kind, eq_comm] using h, by simp⟩
      | _ => cases tr <;> simp [hpp, hw] at h; exact ⟨loc, false, _, rfl, hg, h, by simp⟩

theorem mkdirat_ok_stat (st st' : FS) (p : Bytes) (h : mkdirat st p = (st', .ok ())) : stat st' p = .ok .dir := by
  rcases mkdirat_cases st p with ⟨_, e, he⟩ | ⟨loc, tr, hpp, hw, h'⟩
  · simp [h] at he
  · obtain ⟨_, hpar, _, hnames⟩ := walk_missing _ _ hw
    obtain rfl : _ = st' := congrArg Prod.fst (h'.symm.trans h)
    have hw2 := (walk_found_iff _ _ _).2 ⟨getAt_setAt_some st.root loc (.dir []) hpar, hnames⟩
    simp only [stat, parsePath_cwd st ⟨setAt st.root loc (some (.dir [])), st.cwd⟩ p rfl, hpp, hw2]

theorem mkdirOrExists_mono (st : FS) (p : Bytes) : Mono st (mkdirOrExists st p).1 := by
  have := mkdirat_mono st p
  unfold mkdirOrExists
  split
  · simpa [*] using this
  · split <;> simpa [*] using this

theorem mkdirOrExists_created (sp st : FS) (q : Bytes) (h : mkdirOrExists sp q = (st, .ok false)) :
    stat st q = .ok .dir := by
  unfold mkdirOrExists at h
  split at h
  · rename_i st' hmk
    obtain rfl : st' = st := by simpa using h
    exact mkdirat_ok_stat _ _ _ hmk
  · split at h <;> simp at h

theorem scanDown_mono (buf : Bytes) (n : Nat) : ∀ st, Mono st (scanDown st buf n).1 := by
  induction n with
  | zero => exact Mono.refl
  | succ n ih =>
    intro st
    unfold scanDown
    split
    · have hm := mkdirOrExists_mono st (buf.take (n + 1))
      split
      · simpa [*] using hm
      · split
        · rename_i st' _ hmk _
          rw [hmk] at hm
          exact hm.trans (ih st')
        · simpa [*] using hm
    · exact ih st

theorem scanUp_mono (rest : Bytes) : ∀ st done ex, Mono st (scanUp st done ex rest).1 := by
  induction rest with
  | nil => intro st _ _; exact Mono.refl st
  | cons b rest ih =>
    intro st done ex
    unfold scanUp
    split
    · have hm := mkdirOrExists_mono st done
      split
      · rename_i st' _ hmk
        rw [hmk] at hm
        exact hm.trans (ih st' _ _)
      · simpa [*] using hm
    · exact ih st _ _

theorem writeAllSubPaths_mono (st : FS) (buf : Bytes) : Mono st (writeAllSubPaths st buf).1 := by
  unfold writeAllSubPaths
  have h1 := scanDown_mono buf (buf.length - 1) st
  generalize scanDown st buf (buf.length - 1) = r1 at h1 ⊢
  obtain ⟨st1, e | ⟨ind, ex⟩⟩ := r1
  · exact h1
  · simp only
    have h2 := h1.trans (scanUp_mono (buf.drop (ind + 1)) st1 (buf.take (ind + 1)) ex)
    generalize scanUp st1 (buf.take (ind + 1)) ex (buf.drop (ind + 1)) = r2 at h2 ⊢
    obtain ⟨st2, e | ex2⟩ := r2
    · exact h2
    · simp only
      have h3 : Mono st (if buf.getLast? = some SLASH then (st2, Except.ok ex2) else mkdirOrExists st2 buf).1 := by
        split
        · exact h2
        · exact h2.trans (mkdirOrExists_mono st2 buf)
      generalize (if buf.getLast? = some SLASH then (st2, Except.ok ex2) else mkdirOrExists st2 buf) = r3 at h3 ⊢
      obtain ⟨st3, e | _ | _⟩ := r3
      · exact h3
      · exact h3
      · simp only
        split
        · exact h3
        · split <;> exact h3

theorem createDirAll_eq (st : FS) (p : Bytes) (h : p ≠ []) : createDirAll st p = writeAllSubPaths st p := by
  unfold createDirAll
  rw [if_neg (by simpa using h)]
  split <;> rfl

theorem createDirAll_mono (st : FS) (p : Bytes) : Mono st (createDirAll st p).1 := by
  by_cases h : p = []
  · subst h; exact Mono.refl st
  · rw [createDirAll_eq st p h]; exact writeAllSubPaths_mono st p

theorem splitSlash_ne_nil (p : Bytes) : splitSlash p ≠ [] := by
  cases p with
  | nil => simp [splitSlash]
  | cons b r => unfold splitSlash; split <;> (try split) <;> simp

theorem splitSlash_append_slash (xs : Bytes) : splitSlash (xs ++ [SLASH]) = splitSlash xs ++ [[]] := by
  induction xs with
  | nil => simp [splitSlash]
  | cons b r ih =>
    simp only [List.cons_append, splitSlash, ih]
    split
    · simp
    · cases h : splitSlash r with
      | nil => exact absurd h (splitSlash_ne_nil r)
      | cons a t => simp

theorem comps_append_slash (xs : Bytes) : comps (xs ++ [SLASH]) = comps xs := by
  simp [comps, splitSlash_append_slash]

/-- the location a path names, read lexically: from the root for an absolute path, from the working directory
otherwise, through its non-empty components (what `parsePath` answers whenever the kernel accepts the path) -/
def pathLoc (st : FS) (p : Bytes) : List Name := (if p.head? = some SLASH then [] else st.cwd) ++ comps p

theorem parsePath_ok_loc (st : FS) (p : Bytes) (loc : List Name) (tr : Bool) (h : parsePath st p = .ok (loc, tr)) :
    loc = pathLoc st p ∧ (comps p).any isDots = false := by
  unfold parsePath at h
  by_cases h1 : p = []
  · simp [h1] at h
  · by_cases h2 : p.length ≥ PATH_MAX
    · simp [h1, h2] at h
    · by_cases h3 : (comps p).any isDots = true
      · simp [h1, h2, h3] at h
      · simp [h1, h2, h3] at h
        exact ⟨h.1.symm, by simpa using h3⟩

theorem parsePath_of (st : FS) (p : Bytes) (h1 : p ≠ []) (h2 : p.length < PATH_MAX)
    (h3 : (comps p).any isDots = false) : ∃ tr, parsePath st p = .ok (pathLoc st p, tr) := by
  unfold parsePath pathLoc
  simp only [h1, Nat.not_le.2 h2, h3, if_false]
  exact ⟨_, rfl⟩

theorem pathLoc_append_slash (st : FS) (xs : Bytes) (h : xs ≠ []) : pathLoc st (xs ++ [SLASH]) = pathLoc st xs := by
  unfold pathLoc
  rw [comps_append_slash]
  cases xs with
  | nil => exact absurd rfl h
  | cons a r => rfl

theorem comps_name_slashes (b n : Nat) (hb : b ≠ SLASH) : comps (b :: List.replicate n SLASH) = [[b]] := by
  induction n with
  | zero => simp [comps, splitSlash, hb]
  | succ n ih => rw [List.replicate_succ', ← List.cons_append, comps_append_slash, ih]

theorem parsePath_name_slashes (st : FS) (b n : Nat) (hb : b ≠ SLASH) (hd : b ≠ DOT) (hn : n + 1 < PATH_MAX) :
    parsePath st (b :: List.replicate n SLASH) = .ok (st.cwd ++ [[b]], decide (0 < n)) := by
  have hl : (b :: List.replicate n SLASH).getLast? = some SLASH ↔ 0 < n := by
    cases n with
    | zero => simp [hb]
    | succ n => rw [List.replicate_succ', ← List.cons_append, List.getLast?_concat]; simp
  simp [parsePath, comps_name_slashes b n hb, Nat.not_le.2 hn, isDots, hd, hb, hl]

theorem parsePath_too_long (st : FS) (p : Bytes) (h : PATH_MAX ≤ p.length) : parsePath st p = .error (.os ENAMETOOLONG) := by
  have : p ≠ [] := by rintro rfl; simp at h
  simp [parsePath, this, h]

/-- the downward scan either finds nothing (index 0, nothing remembered) or stops right after a `mkdir` on the
prefix before a separator, remembering that call's answer -/
theorem scanDown_res (buf : Bytes) (n : Nat) : ∀ (st st1 : FS) (ind : Nat) (ex : Bool),
    scanDown st buf n = (st1, .ok (ind, ex)) →
    ind ≤ n ∧ (ind = 0 ∨ ∃ sp, mkdirOrExists sp (buf.take ind) = (st1, .ok ex)) := by
  induction n with
  | zero =>
    intro st st1 ind ex h
    simp [scanDown] at h
    exact ⟨by omega, .inl h.2.1.symm⟩
  | succ n ih =>
    intro st st1 ind ex h
    unfold scanDown at h
    split at h
    · split at h
      · rename_i hm
        simp only [Prod.mk.injEq, Except.ok.injEq] at h
        obtain ⟨rfl, rfl, rfl⟩ := h
        exact ⟨Nat.le_refl _, .inr ⟨st, hm⟩⟩
      · split at h
        · exact ⟨by have := (ih _ _ _ _ h).1; omega, (ih _ _ _ _ h).2⟩
        · simp at h
    · exact ⟨by have := (ih _ _ _ _ h).1; omega, (ih _ _ _ _ h).2⟩

/-- the upward loop: whenever the bytes passed so far (at least two) end in a separator, the last `mkdir` was on
them without it, and its answer is the remembered one -/
theorem scanUp_last (rest : Bytes) : ∀ (st st2 : FS) (done : Bytes) (ex ex2 : Bool),
    (2 ≤ done.length → done.getLast? = some SLASH → ∃ sp, mkdirOrExists sp done.dropLast = (st, .ok ex)) →
    scanUp st done ex rest = (st2, .ok ex2) →
    2 ≤ (done ++ rest).length → (done ++ rest).getLast? = some SLASH →
    ∃ sp, mkdirOrExists sp (done ++ rest).dropLast = (st2, .ok ex2) := by
  induction rest with
  | nil =>
    intro st st2 done ex ex2 inv h
    simp only [scanUp, Prod.mk.injEq, Except.ok.injEq] at h
    obtain ⟨rfl, rfl⟩ := h
    simpa using inv
  | cons b rest ih =>
    intro st st2 done ex ex2 inv h
    rw [List.append_cons]
    unfold scanUp at h
    split at h
    · rename_i hb
      split at h
      · rename_i st' ex' hm
        exact ih st' st2 (done ++ [b]) ex' ex2 (fun _ _ => ⟨st, by simpa using hm⟩) h
      · simp at h
    · rename_i hb
      exact ih st st2 (done ++ [b]) ex ex2 (fun _ hl => absurd (by simpa using hl) hb) h

theorem eq_dropLast_append_slash (p : Bytes) (hl : p.getLast? = some SLASH) : p = p.dropLast ++ [SLASH] := by
  have hne : p ≠ [] := by rintro rfl; simp at hl
  rw [List.getLast?_eq_some_getLast hne, Option.some.injEq] at hl
  rw [← hl, List.dropLast_concat_getLast hne]

/-- on Ok the last `mkdir` created a directory or the final `stat` saw one: at the path, or at the path without its
last separator (for `/` no call is made at all) -/
theorem writeAllSubPaths_ok_stat (st st' : FS) (p : Bytes) (hp : p ≠ [SLASH])
    (hw : writeAllSubPaths st p = (st', .ok ())) :
    ∃ q, (q = p ∨ (q ≠ [] ∧ p = q ++ [SLASH])) ∧ stat st' q = .ok .dir := by
  unfold writeAllSubPaths at hw
  cases hd : scanDown st p (p.length - 1) with
  | mk st1 r1 =>
    obtain _ | ⟨ind, ex⟩ := r1
    · simp [hd] at hw
    · cases hu : scanUp st1 (p.take (ind + 1)) ex (p.drop (ind + 1)) with
      | mk st2 r2 =>
        obtain _ | ex2 := r2
        · simp [hd, hu] at hw
        · simp only [hd, hu] at hw
          generalize hlast : (if p.getLast? = some SLASH then (st2, Except.ok ex2) else mkdirOrExists st2 p) = last at hw
          obtain ⟨st3, _ | ex3⟩ := last
          · simp at hw
          · -- the last `mkdir` and its path
            have hq : ∃ q sp, (q = p ∨ (q ≠ [] ∧ p = q ++ [SLASH])) ∧ mkdirOrExists sp q = (st3, .ok ex3) := by
              split at hlast
              · rename_i hl
                cases hlast
                have h2 : 2 ≤ p.length := by
                  match p, hl with
                  | [a], hl => simp at hl; exact absurd (by rw [hl]) hp
                  | _ :: _ :: _, _ => simp
                obtain ⟨hle, hres⟩ := scanDown_res p _ _ _ _ _ hd
                have := scanUp_last _ st1 st2 (p.take (ind + 1)) ex ex2 (fun hlen _ => by
                  rcases hres with rfl | hres
                  · simp at hlen; omega
                  · rw [List.dropLast_eq_take, List.take_take, List.length_take]
                    rwa [show min (min (ind + 1) p.length - 1) (ind + 1) = ind by omega]) hu
                rw [List.take_append_drop] at this
                obtain ⟨sp, hsp⟩ := this h2 hl
                refine ⟨p.dropLast, sp, .inr ⟨?_, eq_dropLast_append_slash p hl⟩, hsp⟩
                intro h0
                have := congrArg List.length h0
                simp at this; omega
              · exact ⟨p, st2, .inl rfl, hlast⟩
            cases ex3 with
            | false =>
              obtain ⟨q, sp, hq, hm⟩ := hq
              obtain rfl : st3 = st' := by simpa using hw
              exact ⟨q, hq, mkdirOrExists_created sp _ _ hm⟩
            | true =>
              refine ⟨p, .inl rfl, ?_⟩
              simp only at hw
              split at hw
              · simp at hw
              · rename_i k hs
                split at hw
                · rename_i hk
                  obtain rfl : st3 = st' := by simpa using hw
                  rw [hs, (metaIsDir_stMode k).1 hk]
                · simp at hw

theorem createDirAll_ok_resolves (st st' : FS) (p : Bytes) (hp : p ≠ [SLASH]) (h : createDirAll st p = (st', .ok ())) :
    ∃ q tr es, (q = p ∨ (q ≠ [] ∧ p = q ++ [SLASH])) ∧ parsePath st q = .ok (pathLoc st q, tr) ∧
      getAt st'.root (pathLoc st q) = some (.dir es) := by
  have hm := createDirAll_mono st p
  rw [h] at hm
  have hne : p ≠ [] := by rintro rfl; simp [createDirAll] at h
  rw [createDirAll_eq st p hne] at h
  obtain ⟨q, hq, hs⟩ := writeAllSubPaths_ok_stat st st' p hp h
  obtain ⟨loc, tr, n, hpp, hg, hk, _⟩ := stat_ok st' q .dir hs
  obtain ⟨es, rfl⟩ := Node.kind_dir.1 hk
  rw [parsePath_cwd st st' q hm.1] at hpp
  obtain ⟨rfl, _⟩ := parsePath_ok_loc st q loc tr hpp
  exact ⟨q, tr, es, hq, hpp, hg⟩

/-- on Ok the location the path names lexically holds a directory -/
theorem createDirAll_dirAt (st st' : FS) (p : Bytes) (hroot : ∃ es, st.root = .dir es)
    (h : createDirAll st p = (st', .ok ())) :
    (∃ es, getAt st'.root (pathLoc st p) = some (.dir es)) ∧ (comps p).any isDots = false ∧
    (p.length < PATH_MAX → ∃ tr, parsePath st p = .ok (pathLoc st p, tr)) := by
  have hne : p ≠ [] := by rintro rfl; simp [createDirAll] at h
  suffices key : (∃ es, getAt st'.root (pathLoc st p) = some (.dir es)) ∧ (comps p).any isDots = false from
    ⟨key.1, key.2, fun hlen => parsePath_of st p hne hlen key.2⟩
  by_cases hp : p = [SLASH]
  · -- the path is exactly "/": no system call is made at all
    subst hp
    have hm := createDirAll_mono st [SLASH]
    rw [h] at hm
    obtain ⟨es, hes⟩ := hroot
    obtain ⟨n, hn, hk⟩ := Option.map_eq_some_iff.1 (hm.2 [] .dir (by simp [view, getAt, hes, Node.kind]))
    exact ⟨by simpa [pathLoc, comps, splitSlash, hn] using Node.kind_dir.1 hk, by simp [comps, splitSlash]⟩
  · obtain ⟨q, tr, es, hq, hpp, hg⟩ := createDirAll_ok_resolves st st' p hp h
    have hdots := (parsePath_ok_loc st q _ tr hpp).2
    rcases hq with rfl | ⟨hq0, rfl⟩
    · exact ⟨⟨es, hg⟩, hdots⟩
    · rw [pathLoc_append_slash st q hq0, comps_append_slash]
      exact ⟨⟨es, hg⟩, hdots⟩

/-- a path that ends in a separator: the walk starts with `mkdir` on the path without it, and when that call creates
the directory the walk is over — Ok, without the final `stat` of the whole path -/
theorem writeAllSubPaths_trailing_created (st st' : FS) (q : Bytes) (hq : q ≠ [])
    (h : mkdirOrExists st q = (st', .ok false)) : writeAllSubPaths st (q ++ [SLASH]) = (st', .ok ()) := by
  obtain ⟨m, hm⟩ : ∃ m, q.length = m + 1 := ⟨q.length - 1, by have := List.length_pos_iff.2 hq; omega⟩
  have hd : scanDown st (q ++ [SLASH]) (m + 1) = (st', .ok (m + 1, false)) := by
    rw [scanDown, ← hm, List.drop_left, List.take_left, h]
    simp
  have hu : scanUp st' ((q ++ [SLASH]).take (m + 1 + 1)) false ((q ++ [SLASH]).drop (m + 1 + 1)) = (st', .ok false) := by
    rw [List.drop_of_length_le (by simp [hm]), scanUp]
  simp [writeAllSubPaths, hm, hd, hu]

theorem createDirAll_name_slashes (st : FS) (b n : Nat) (hb : b ≠ SLASH) (hd : b ≠ DOT) (h0 : 0 < n) (hn : n < PATH_MAX)
    (hw : walk st.root (st.cwd ++ [[b]]) = .missing) :
    createDirAll st (b :: List.replicate n SLASH) =
      ({ st with root := setAt st.root (st.cwd ++ [[b]]) (some (.dir [])) }, .ok ()) := by
  obtain ⟨m, rfl⟩ := Nat.exists_eq_succ_of_ne_zero (Nat.ne_of_gt h0)
  rw [createDirAll_eq _ _ (by simp), List.replicate_succ', ← List.cons_append]
  apply writeAllSubPaths_trailing_created _ _ _ (by simp)
  simp [mkdirOrExists, mkdirat, parsePath_name_slashes st b m hb hd hn, hw]

theorem prefixes_are_dirs (r : Node) (loc : List Name) (es : List (Name × Node)) (h : getAt r loc = some (.dir es)) :
    ∀ l, l <+: loc → ∃ es, getAt r l = some (.dir es) := by
  rintro l ⟨m, rfl⟩
  cases m with
  | nil => exact ⟨es, by simpa using h⟩
  | cons c m' =>
    rw [getAt_append] at h
    cases hg : getAt r l with
    | none => simp [hg] at h
    | some n =>
      cases n with
      | dir es' => exact ⟨es', rfl⟩
      | _ => simp [hg, getAt_cons, child] at h

theorem reclen_bounds (r : Rec) (hv : r.name.length ≤ 255) :
    20 + r.name.length ≤ reclen r ∧ reclen r ≤ 280 ∧ reclen r % 8 = 0 := by
  unfold reclen; omega

theorem encode_length (r : Rec) : (encode r).length = reclen r := by
  simp only [encode, le8, List.length_append, List.length_cons, List.length_nil, List.length_replicate]
  unfold reclen
  omega

theorem takeWhile_name (name tail : Bytes) (pad : Nat) (hz : ∀ b ∈ name, b ≠ 0) (hp : 0 < pad) :
    (name ++ (List.replicate pad 0 ++ tail)).takeWhile (fun b => decide (b ≠ 0)) = name := by
  induction name with
  | nil => obtain ⟨n, rfl⟩ := Nat.exists_eq_succ_of_ne_zero (Nat.ne_of_gt hp); simp [List.replicate]
  | cons a l ih =>
    simp only [List.cons_append, List.takeWhile, hz a (by simp), ne_eq, not_false_eq_true, decide_true]
    rw [ih (fun b hb => hz b (by simp [hb]))]

/-- one `linux_dirent64` record is parsed back to exactly its length, type and name, whatever follows it -/
theorem tryFromBytes_encode (r : Rec) (tail : Bytes) (hv : r.name.length ≤ 255) (hz : ∀ b ∈ r.name, b ≠ 0) :
    tryFromBytes (encode r ++ tail) = .some ⟨reclen r, r.dtype, r.name⟩ := by
  obtain ⟨h1, h2, _⟩ := reclen_bounds r hv
  have hlen : ¬ (encode r ++ tail).length < 18 := by rw [List.length_append, encode_length]; omega
  unfold tryFromBytes
  rw [if_neg hlen]
  simp only [encode, le8, List.cons_append, List.nil_append, List.append_assoc, List.drop_succ_cons, List.drop_zero]
  rw [takeWhile_name r.name tail _ hz (by omega), if_neg (by omega)]
  congr 2
  omega


theorem encodeAll_cons (r : Rec) (ps : List Rec) : encodeAll (r :: ps) = encode r ++ encodeAll ps := by
  simp [encodeAll]

theorem encodeAll_length (c : List Rec) : (encodeAll c).length = (c.map reclen).sum := by
  induction c with
  | nil => rfl
  | cons r ps ih => rw [encodeAll_cons, List.length_append, encode_length, ih]; rfl

/-- a record a Linux directory stream can hold: name of at most NAME_MAX = 255 bytes without NUL -/
def RecOk (r : Rec) : Prop := r.name.length ≤ 255 ∧ ∀ b ∈ r.name, b ≠ 0

/-- one legal `getdents64` answer carrying records: at least one, all of them fit the 512-byte buffer together -/
def ChunkOk (c : List Rec) : Prop := c ≠ [] ∧ (c.map reclen).sum ≤ 512 ∧ ∀ r ∈ c, RecOk r

instance (r : Rec) : Decidable (RecOk r) := by unfold RecOk; infer_instance
instance (c : List Rec) : Decidable (ChunkOk c) := by unfold ChunkOk; infer_instance

def entryOf (r : Rec) : Item := .entry r.dtype r.name

/-- iterator state between two refills: the records still `pending` lie at `offset`, `readSize` is their end -/
structure RdInv (s : ReadDir) (pending : List Rec) : Prop where
  len : s.buf.length = 512
  eod : s.eod = false
  data : ∃ junk, s.buf.drop s.offset = encodeAll pending ++ junk
  size : s.readSize = s.offset + (encodeAll pending).length

theorem next_pending (s : ReadDir) (r : Rec) (ps : List Rec) (inv : RdInv s (r :: ps)) (hr : RecOk r) :
    s.next = ({ s with offset := s.offset + reclen r }, entryOf r) ∧
    RdInv { s with offset := s.offset + reclen r } ps := by
  obtain ⟨junk, hd⟩ := inv.data
  have hsz := inv.size
  rw [encodeAll_cons] at hd
  rw [encodeAll_cons, List.length_append, encode_length] at hsz
  have hb := reclen_bounds r hr.1
  have hoff : ¬ s.offset > s.buf.length := by
    intro hgt
    have := congrArg List.length hd
    simp [encode_length] at this
    omega
  refine ⟨?_, inv.len, inv.eod, ⟨junk, ?_⟩, ?_⟩
  · unfold ReadDir.next ReadDir.parse
    rw [if_neg (by omega), if_neg hoff, hd, List.append_assoc, tryFromBytes_encode r _ hr.1 hr.2]
    rfl
  · show s.buf.drop (s.offset + reclen r) = encodeAll ps ++ junk
    rw [← List.drop_drop, hd, List.append_assoc, ← encode_length, List.drop_left]
  · show s.readSize = s.offset + reclen r + (encodeAll ps).length
    omega

/-- draining the pending records: one entry per record, in order; afterwards the buffer is used up -/
theorem run_pending (ps : List Rec) : ∀ (s : ReadDir) (n : Nat), RdInv s ps → (∀ r ∈ ps, RecOk r) →
    s.run (ps.length + n) = ps.map entryOf ++ ({ s with offset := s.readSize } : ReadDir).run n := by
  induction ps with
  | nil =>
    intro s n inv _
    have hsz : s.readSize = s.offset := by simpa [encodeAll] using inv.size
    have : ({ s with offset := s.readSize } : ReadDir) = s := by cases s; simp_all
    simp [this]
  | cons r ps ih =>
    intro s n inv hok
    obtain ⟨hn, inv'⟩ := next_pending s r ps inv (hok r (by simp))
    rw [List.length_cons, Nat.add_right_comm, ReadDir.run, hn, ih _ n inv' (fun x hx => hok x (by simp [hx]))]
    rfl

/-- a refill with a legal chunk: the call that refills already yields the chunk's first record -/
theorem next_refill (s : ReadDir) (c : List Rec) (rest : List Dents) (hc : ChunkOk c)
    (hex : s.readSize = s.offset) (heod : s.eod = false) (hlen : s.buf.length = 512)
    (hans : s.answers = .recs c :: rest) :
    let s1 : ReadDir := ⟨rest, encodeAll c ++ s.buf.drop (encodeAll c).length, 0, (encodeAll c).length, false⟩
    s.next = s1.next ∧ RdInv s1 c := by
  intro s1
  obtain ⟨hne, hfit, hok⟩ := hc
  have hfit' : (encodeAll c).length ≤ 512 := by rw [encodeAll_length]; exact hfit
  have hpos : (encodeAll c).length ≠ 0 := by
    obtain ⟨r, ps, rfl⟩ := List.exists_cons_of_ne_nil hne
    have := reclen_bounds r (hok r (by simp)).1
    rw [encodeAll_cons, List.length_append, encode_length]
    omega
  constructor
  · have hs1 : s1.next = s1.parse := by unfold ReadDir.next; rw [if_neg (Ne.symm hpos).symm]
    rw [hs1]
    unfold ReadDir.next sysGetdents
    simp only [hex, heod, hans, hlen, hfit', if_true]
    simp [hpos]
    rfl
  · refine ⟨?_, rfl, ⟨s.buf.drop (encodeAll c).length, rfl⟩, (Nat.zero_add _).symm⟩
    show (encodeAll c ++ s.buf.drop (encodeAll c).length).length = 512
    simp [hlen]; omega

theorem run_succ_congr {s t : ReadDir} {m : Nat} (h : s.next = t.next) : s.run (m + 1) = t.run (m + 1) := by
  simp only [ReadDir.run, h]

/-- **the iteration over any sequence of legal chunks**: every record of every chunk is yielded exactly once, in
order, with its exact type and name; afterwards the iterator stands at the next answer with its buffer used up -/
theorem run_chunks (chunks : List (List Rec)) : ∀ (s : ReadDir) (rest : List Dents) (n : Nat),
    (∀ c ∈ chunks, ChunkOk c) → s.readSize = s.offset → s.eod = false → s.buf.length = 512 →
    s.answers = chunks.map Dents.recs ++ rest →
    ∃ s' : ReadDir, s.run (chunks.flatten.length + n) = chunks.flatten.map entryOf ++ s'.run n ∧
      s'.readSize = s'.offset ∧ s'.eod = false ∧ s'.buf.length = 512 ∧ s'.answers = rest := by
  induction chunks with
  | nil =>
    intro s rest n _ hex heod hlen hans
    exact ⟨s, by simp, hex, heod, hlen, by simpa using hans⟩
  | cons c cs ih =>
    intro s rest n hok hex heod hlen hans
    have hc := hok c (by simp)
    obtain ⟨hnext, inv⟩ := next_refill s c (cs.map Dents.recs ++ rest) hc hex heod hlen (by simpa using hans)
    -- the refilling call is the first call of the drain over the refilled state
    obtain ⟨m, hm⟩ : ∃ m, c.length + (cs.flatten.length + n) = m + 1 :=
      ⟨c.length + (cs.flatten.length + n) - 1, by have := List.length_pos_iff.2 hc.1; omega⟩
    generalize hs1 : (ReadDir.mk (cs.map Dents.recs ++ rest) _ 0 _ false) = s1 at hnext inv
    obtain ⟨s', hrun, hs'⟩ := ih { s1 with offset := s1.readSize } rest n
      (fun x hx => hok x (by simp [hx])) rfl inv.eod inv.len (by rw [← hs1])
    refine ⟨s', ?_, hs'⟩
    rw [List.flatten_cons, List.length_append, Nat.add_assoc, hm, run_succ_congr hnext, ← hm,
      run_pending c _ _ inv hc.2.2, hrun]
    simp

theorem run_new_chunks (chunks : List (List Rec)) (rest : List Dents) (n : Nat) (hok : ∀ c ∈ chunks, ChunkOk c) :
    ∃ s' : ReadDir, (ReadDir.new (chunks.map Dents.recs ++ rest)).run (chunks.flatten.length + n) =
        chunks.flatten.map entryOf ++ s'.run n ∧
      s'.readSize = s'.offset ∧ s'.eod = false ∧ s'.buf.length = 512 ∧ s'.answers = rest :=
  run_chunks chunks _ rest n hok rfl rfl List.length_replicate rfl

theorem run_eod_forever (k : Nat) : ∀ s : ReadDir, s.readSize = s.offset → s.eod = true →
    s.run k = List.replicate k Item.done := by
  induction k with
  | zero => intro s _ _; rfl
  | succ k ih =>
    intro s h1 h2
    have : s.next = (s, .done) := by simp [ReadDir.next, h1, h2]
    rw [ReadDir.run, this, List.replicate_succ, ih s h1 h2]

/-- the answer 0 (or an exhausted script): `None`, and `None` for every later call, without asking again -/
theorem run_at_eod (s : ReadDir) (k : Nat) (hex : s.readSize = s.offset) (heod : s.eod = false)
    (hans : s.answers = [] ∨ ∃ tail, s.answers = .eod :: tail) : s.run k = List.replicate k Item.done := by
  cases k with
  | zero => rfl
  | succ k =>
    obtain ⟨rest, hn⟩ : ∃ rest, s.next = ({ s with answers := rest, eod := true }, .done) := by
      rcases hans with ha | ⟨tail, ha⟩
      · exact ⟨[], by simp [ReadDir.next, sysGetdents, hex, heod, ha]⟩
      · exact ⟨tail, by simp [ReadDir.next, sysGetdents, hex, heod, ha]⟩
    simp only [ReadDir.run, hn, List.replicate_succ]
    rw [run_eod_forever k { s with answers := rest, eod := true } hex rfl]

/-- an error answer (EINTR included — the code does not retry): that error once, then `None` forever -/
theorem run_at_err (s : ReadDir) (k e : Nat) (tail : List Dents) (hex : s.readSize = s.offset) (heod : s.eod = false)
    (hans : s.answers = .err e :: tail) : s.run (k + 1) = Item.err (.os e) :: List.replicate k Item.done := by
  have : s.next = ({ s with answers := tail, eod := true }, .err (.os e)) := by
    simp [ReadDir.next, sysGetdents, hex, heod, hans]
  simp only [ReadDir.run, this]
  rw [run_eod_forever k { s with answers := tail, eod := true } hex rfl]

/-! ### the kernel's own split (greedy) is one of the legal splits -/

theorem fillRecs_spec (l : List Rec) : ∀ space, (fillRecs l space).1 ++ (fillRecs l space).2 = l ∧
    (((fillRecs l space).1).map reclen).sum ≤ space := by
  induction l with
  | nil => intro space; simp [fillRecs]
  | cons r rs ih =>
    intro space
    unfold fillRecs
    split
    · obtain ⟨h1, h2⟩ := ih (space - reclen r)
      exact ⟨by simp [h1], by simp only [List.map_cons, List.sum_cons]; omega⟩
    · simp

theorem kernelDents_chunks (fuel : Nat) : ∀ rs : List Rec, rs.length ≤ fuel → (∀ r ∈ rs, RecOk r) →
    ∃ chunks : List (List Rec), kernelDents 512 fuel rs = chunks.map Dents.recs ++ [.eod] ∧ chunks.flatten = rs ∧
      ∀ c ∈ chunks, ChunkOk c := by
  induction fuel with
  | zero =>
    intro rs hl _
    obtain rfl : rs = [] := List.eq_nil_of_length_eq_zero (by omega)
    exact ⟨[], rfl, rfl, by simp⟩
  | succ fuel ih =>
    intro rs hl hok
    cases rs with
    | nil => exact ⟨[], rfl, rfl, by simp⟩
    | cons r rs =>
      have hfit : reclen r ≤ 512 := by have := reclen_bounds r (hok r (by simp)).1; omega
      obtain ⟨hcat, hsum⟩ := fillRecs_spec (r :: rs) 512
      -- the first record fits, so the chunk is not empty and the rest is shorter
      obtain ⟨t, ht⟩ : ∃ t, (fillRecs (r :: rs) 512).1 = r :: t := by simp [fillRecs, hfit]
      have hmem : ∀ x, x ∈ (fillRecs (r :: rs) 512).1 ∨ x ∈ (fillRecs (r :: rs) 512).2 → x ∈ r :: rs := by
        intro x hx
        rw [← hcat]; exact List.mem_append.mpr hx
      have hlen : (fillRecs (r :: rs) 512).2.length ≤ fuel := by
        have := congrArg List.length hcat
        simp [ht] at this hl
        omega
      obtain ⟨chunks, hk, hfl, hck⟩ := ih (fillRecs (r :: rs) 512).2 hlen (fun x hx => hok x (hmem x (Or.inr hx)))
      refine ⟨(fillRecs (r :: rs) 512).1 :: chunks, ?_, ?_, ?_⟩
      · simp only [kernelDents, hfit, if_true, hk, List.map_cons, List.cons_append]
      · simp only [List.flatten_cons, hfl, hcat]
      · intro c hc
        rcases List.mem_cons.1 hc with rfl | hc
        · exact ⟨by simp [ht], hsum, fun x hx => hok x (hmem x (Or.inl hx))⟩
        · exact hck c hc

theorem collect_of_run (ys : List (Nat × Name)) : ∀ s : ReadDir,
    s.run (ys.length + 1) = ys.map (fun y => Item.entry y.1 y.2) ++ [Item.done] →
    ReadDir.collect (ys.length + 1) s = .ok ys := by
  induction ys with
  | nil =>
    intro s h
    simp only [ReadDir.run, List.length_nil, List.map_nil, List.nil_append, List.cons.injEq, and_true] at h
    simp only [ReadDir.collect, List.length_nil]
    split <;> simp_all
  | cons y ys ih =>
    intro s h
    simp only [List.length_cons, ReadDir.run, List.map_cons, List.cons_append, List.cons.injEq] at h
    unfold ReadDir.collect
    cases hn : s.next with
    | mk s' it =>
      rw [hn] at h
      obtain ⟨rfl, h2⟩ := h
      simp only [List.length_cons, ih s' (by simpa [ReadDir.run] using h2)]

/-- the iterator over the kernel's own (greedy) answers: every record exactly once, in order -/
theorem readDirAll_exact (rs : List Rec) (hok : ∀ r ∈ rs, RecOk r) :
    readDirAll rs = .ok (rs.map fun r => (r.dtype, r.name)) := by
  obtain ⟨chunks, hk, hfl, hck⟩ := kernelDents_chunks rs.length rs (Nat.le_refl _) hok
  obtain ⟨s', hrun, h1, h2, _, h4⟩ := run_new_chunks chunks [.eod] 1 hck
  rw [run_at_eod s' 1 h1 h2 (.inr ⟨[], h4⟩), hfl] at hrun
  unfold readDirAll
  rw [hk]
  have hl : rs.length = (rs.map fun r => (r.dtype, r.name)).length := by simp
  rw [hl] at hrun ⊢
  apply collect_of_run
  rw [hrun]
  simp [entryOf, List.map_map, Function.comp_def]

theorem zip_map_left {α β : Type} (f : α → β) (l : List α) : ∀ p ∈ (l.map f).zip l, p.1 = f p.2 := by
  induction l with
  | nil => intro p hp; simp at hp
  | cons a l ih =>
    intro p hp
    simp only [List.map_cons, List.zip_cons_cons, List.mem_cons] at hp
    rcases hp with rfl | hp
    · rfl
    · exact ih p hp

end TinyVerif.Fs
