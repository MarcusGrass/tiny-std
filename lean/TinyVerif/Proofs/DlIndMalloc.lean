import TinyVerif.Proofs.DlIndSpec
import TinyVerif.Proofs.DlIndDvTop
/-!
# `malloc_nosys` preserves the invariant — generic layer and the two `small-next-*` branches

The seven branches of `malloc_nosys` that take a chunk from a bin have the same three phases

  A. *unlink* the victim `p` from its bin (`take_first_small` / `unlink_large_chunk`): only the bins change
     (`mn_Unlinked s.h h1 p`: `BinFrame`, `binned s.h ~ p :: binned h1`, both bin conjuncts for `h1`);
  B. rewrite the header window `[x, y]` (`x` the free header at `p`, `y` the in-use header after it):
     *exhaust* (`set_inuse_and_pinuse`) or *split* (`set_size_and_pinuse_of_inuse_chunk`, then
     `set_size_and_pinuse_of_free_chunk` for the remainder) — only the table changes;
  C. (split only) list the remainder: `replace_dv` or `insert_chunk` — only bins / `dv` change.

`mn_exhaust_wfs` does A+B for exhaust; `mn_split_mid` does A+B for split and returns everything phase C
needs (`mn_SplitMid`), `mn_split_fin` assembles `WFS` after phase C, `mn_split_dv_wfs` / `mn_split_ins_wfs`
are the two instances of phase C.  Free-list bookkeeping is done up to permutation
(`mn_freeListOk_perm`), so that small bins and tree bins are treated alike.
-/
namespace TinyVerif.Dl

open List

/-! ## generic layer -/

theorem take_first_small_ok {h h' : Heap} {idx p : Nat} (e : take_first_small h idx = .ok (h', p)) :
    ∃ rest x, h.sbins[idx]? = some (p :: rest) ∧ h' = setBin h idx rest ∧ findEnt h.ents p = some x ∧
      x.size = small_index2size idx := by
  unfold take_first_small at e
  msimp at e
  obtain ⟨l, hl, e⟩ := e
  unfold getBin at hl
  split at hl
  · rename_i l' hl'
    msimp at hl
    subst hl
    split at e
    · msimp at e
    · rename_i p' rest
      msimp at e
      obtain ⟨x, hx, _, hs, e⟩ := e
      simp only [Prod.mk.injEq] at e
      obtain ⟨e1, e2⟩ := e
      subst e2
      simp only [ne_eq, decide_eq_false_iff_not, Decidable.not_not] at hs
      exact ⟨rest, x, hl', e1.symm, getE_spec hx, hs⟩
  · msimp at hl


/-- every header size fits a machine word: from the structural conjuncts and `segsOk` -/
theorem mn_entsLt {s : St} (w : WFS s) {es : List Ent} {top : Nat} (h : StructOk es s.segs top) : EntsLt es := by
  intro a e he
  obtain ⟨hm, _⟩ := findEnt_some he
  obtain ⟨g, hg, hge⟩ := h.seg_of hm
  obtain ⟨t1, t2⟩ := h.in_seg hg hm hge
  have := (segsOk_parts w.segs).2 g hg
  simp only [U64]; omega

/-- phase A: the chunk `p` was taken out of its bin, nothing else changed -/
structure mn_Unlinked (h h1 : Heap) (p : Nat) : Prop where
  frame : BinFrame h h1
  perm : binned h ~ p :: binned h1
  sb : sbinsOk h1 = true
  tb : tbinsOk h1 = true

theorem mn_unlinked_small {s : St} (w : WFS s) {h1 : Heap} {idx p : Nat}
    (e : take_first_small s.h idx = .ok (h1, p)) : mn_Unlinked s.h h1 p :=
  ⟨(take_first_small_frame e).1, take_first_small_binned e, take_first_small_sbinsOk e w.sbins,
    by rw [take_first_small_tbinsOk e]; exact w.tbins⟩

theorem mn_unlinked_large {s : St} (w : WFS s) {h1 : Heap} {p : Nat}
    (e : unlink_large_chunk s.h p = .ok h1) : mn_Unlinked s.h h1 p :=
  ⟨(unlink_large_chunk_frame e).1, unlink_large_chunk_binned e,
    by rw [unlink_large_chunk_sbinsOk e]; exact w.sbins, unlink_large_chunk_tbinsOk e w.tbins⟩

theorem mn_unlinked_freeList {h h1 : Heap} {p : Nat} (u : mn_Unlinked h h1 p) : freeList h ~ p :: freeList h1 :=
  freeList_perm_of_binned u.frame.top.symm u.frame.dv.symm u.perm

theorem mn_binned_nodup {s : St} (w : WFS s) : (binned s.h).Nodup := by
  have h1 := ((freeListOk_iff s.h).1 w.freeList).1
  unfold Dl.freeList at h1
  exact (List.nodup_append.1 (List.nodup_append.1 h1).2.1).2.1

/-- what phase A says about the victim: a free header other than `top` and `dv`, no longer binned -/
theorem mn_freeAt {s : St} (w : WFS s) {h1 : Heap} {p : Nat} (u : mn_Unlinked s.h h1 p) :
    ∃ pre post x y g, FreeAt s pre post x y g ∧ x.addr = p ∧ p ≠ s.h.dv ∧ p ∉ binned h1 ∧
      (∀ a ∈ binned h1, a ∈ binned s.h) := by
  have hpb : p ∈ binned s.h := (u.perm.mem_iff).2 List.mem_cons_self
  obtain ⟨⟨x, hfx, hxf⟩, hptop, hpdv⟩ := w.binned_free hpb
  obtain ⟨hxm, hxa⟩ := findEnt_some hfx
  obtain ⟨pre, y, post, g, fa⟩ := w.freeAt hxm hxf (by rw [hxa]; exact hptop)
  have hnd := (u.perm.nodup_iff).1 (mn_binned_nodup w)
  exact ⟨pre, post, x, y, g, fa, hxa, hpdv, (List.nodup_cons.1 hnd).1,
    fun a ha => (u.perm.mem_iff).2 (List.mem_cons_of_mem _ ha)⟩

/-- both bin conjuncts after phases A and B: the bins of `h1` over the new table -/
theorem mn_mid_bins {s : St} (w : WFS s) {h1 H : Heap} {p : Nat} (u : mn_Unlinked s.h h1 p)
    {pre mid mid' post : List Ent}
    (hes : s.h.ents = pre ++ mid ++ post) (hH : H.ents = pre ++ mid' ++ post) (hok' : entsOk H.ents = true)
    (hsb : H.sbins = h1.sbins) (htb : H.tbins = h1.tbins) (hp1 : p ∉ binned h1)
    (hsub : ∀ a ∈ binned h1, a ∈ binned s.h)
    (hmid : ∀ e ∈ mid, isFree e = true → e.addr = s.h.top ∨ e.addr = s.h.dv ∨ e.addr = p) :
    sbinsOk H = true ∧ tbinsOk H = true := by
  have hb : binned H = binned h1 := binned_congr hsb htb
  have h1s := u.sb
  have h1t := u.tb
  unfold sbinsOk at h1s
  unfold tbinsOk at h1t
  rw [u.frame.ents] at h1s h1t
  unfold sbinsOk tbinsOk
  refine bins_window' w hes hH hok' (by rw [hsb]; exact h1s) (by rw [htb]; exact h1t)
    (by rw [hb]; exact hsub) ?_
  intro e he hf
  rcases hmid e he hf with h | h | h
  · exact Or.inl h
  · exact Or.inr (Or.inl h)
  · exact Or.inr (Or.inr (by rw [hb, h]; exact hp1))

/-- **free list after a window replacement, up to permutation**: the free headers of the old window leave
the list, those of the new window join it -/
theorem mn_freeListOk_perm {s : St} (w : WFS s) {H : Heap} {pre mid mid' post : List Ent}
    (hes : s.h.ents = pre ++ mid ++ post) (hH : H.ents = pre ++ mid' ++ post) (hok' : entsOk H.ents = true)
    (hp : freeSet mid ++ freeList H ~ freeSet mid' ++ freeList s.h)
    (hnd : (freeSet mid').Nodup) (hnew : ∀ a ∈ freeSet mid', a ∉ freeList s.h) : freeListOk H = true := by
  obtain ⟨hnd0, hin0, _⟩ := (freeListOk_iff s.h).1 w.freeList
  have hold : ∀ a ∈ freeSet mid, a ∈ freeList s.h := by
    intro a ha
    obtain ⟨e, he, hf, hea⟩ := mem_freeSet.1 ha
    exact hea ▸ hin0 e (by rw [hes]; simp [he]) hf
  have hR : (freeSet mid' ++ freeList s.h).Nodup :=
    List.nodup_append.2 ⟨hnd, hnd0, fun a ha b hb hab => hnew a ha (hab ▸ hb)⟩
  have hL := (hp.nodup_iff).2 hR
  obtain ⟨_, hndH, hdis⟩ := List.nodup_append.1 hL
  refine freeListOk_window hes hH w.ents hok' w.freeList hndH ?_
  intro a
  have hm := hp.mem_iff (a := a)
  simp only [List.mem_append] at hm
  constructor
  · intro ha
    have hn : a ∉ freeSet mid := fun h => hdis a h a ha rfl
    rcases hm.1 (Or.inr ha) with h | h
    · exact Or.inr h
    · exact Or.inl ⟨h, hn⟩
  · rintro (⟨h1, h2⟩ | h)
    · rcases hm.2 (Or.inr h1) with h | h
      · exact absurd h h2
      · exact h
    · rcases hm.2 (Or.inl h) with h' | h'
      · exact absurd (hold a h') (hnew a h)
      · exact h'

theorem mn_topOk_congr {s : St} {H H' : Heap} (he : H'.ents = H.ents) (ht : H'.top = H.top)
    (hts : H'.topsize = H.topsize) : topOk { s with h := H' } = topOk { s with h := H } := by
  unfold topOk
  simp only [he, ht, hts]

/-! ## exhaust (phases A + B) -/

/-- **generic exhaust**: the victim `p` was unlinked from its bin (`u`), then `set_inuse_and_pinuse` turned
the whole chunk into an in-use chunk -/
theorem mn_exhaust_wfs {s : St} (w : WFS s) {h1 h2 : Heap} {p sz nb : Nat} (u : mn_Unlinked s.h h1 p)
    {x0 : Ent} (hx0 : findEnt s.h.ents p = some x0) (hsz : x0.size = sz)
    (e2 : set_inuse_and_pinuse h1 p sz = .ok h2) (hnb : nb ≤ sz) (t : String) :
    WFS { s with h := h2.tag t } ∧ AllocAt s.h.ents (h2.tag t).ents nb p := by
  obtain ⟨pre, post, x, y, g, fa, hxa, hpdv, hp1, hsub⟩ := mn_freeAt w u
  have hxm : x ∈ s.h.ents := by rw [fa.hes]; simp
  have hxx : x0 = x := by
    have := entsOk_find x hxm w.ents
    rw [hxa, hx0] at this
    injection this
  subst hxx
  have hes1 : h1.ents = pre ++ [x0, y] ++ post := by rw [u.frame.ents]; exact fa.hes
  have r := set_inuse_and_pinuse_at e2 (pre := pre) (post := post) (x := x0) (y := y) hes1
    (by rw [u.frame.ents]; exact w.ents) hxa hsz fa.ya
  have hi : HeapIs (h2.tag t) (pre ++ [{ x0 with cin := true, pin := true }, { y with pin := true }] ++ post)
      h1.sbins h1.tbins s.h.dv s.h.dvsize s.h.top s.h.topsize := by
    rw [r]; exact ⟨rfl, rfl, rfl, u.frame.dv, u.frame.dvsize, u.frame.top, u.frame.topsize⟩
  generalize h2.tag t = H at hi ⊢
  obtain ⟨hst, hal, fs1, fs2⟩ := exhaust_table w fa (nb := nb)
    (nx := { x0 with cin := true, pin := true }) (ny := { y with pin := true })
    rfl rfl rfl rfl rfl rfl fa.yc rfl (by omega)
  rw [hxa] at fs1
  have hok' : entsOk H.ents = true := by rw [hi.ents]; exact hst.ents
  obtain ⟨hsb, htb⟩ := mn_mid_bins w u fa.hes hi.ents hok' hi.sbins hi.tbins hp1 hsub
    (fa.free_mid (P := fun e => e.addr = s.h.top ∨ e.addr = s.h.dv ∨ e.addr = p) (Or.inr (Or.inr hxa)))
  have hfl : freeList H = freeList h1 := by
    unfold freeList; rw [binned_congr hi.sbins hi.tbins, hi.top, hi.dv, u.frame.top, u.frame.dv]
  refine ⟨wfs_of_parts w (by rw [hi.ents, hi.top]; exact hst) ?_ hsb htb ?_ ?_, by rw [hi.ents, ← hxa]; exact hal⟩
  · refine mn_freeListOk_perm w fa.hes hi.ents hok' ?_ (by rw [fs2]; simp) (by rw [fs2]; simp)
    rw [fs1, fs2, hfl]
    exact (mn_unlinked_freeList u).symm
  · exact dvOk_window w fa.hes hi.ents hok' hi.dv hi.dvsize
      (fa.free_mid (P := fun e => e.addr ≠ s.h.dv) (by rw [hxa]; exact hpdv))
  · exact topOk_window w fa.hes hi.ents hok' (List.ne_nil_of_mem fa.hg)
      hi.top hi.topsize fa.top_mid

/-! ## split (phases A + B, then C) -/

/-- everything phase C of a split needs to know about the heap `h3` after phases A and B: the victim at `p`
(unlinked) is now an in-use chunk of `nb` bytes followed by the free remainder of `rs` bytes at `p + nb`,
which is not listed anywhere yet -/
structure mn_SplitMid (s : St) (h3 : Heap) (nb p rs : Nat) : Prop where
  struct : StructOk h3.ents s.segs s.h.top
  alloc : AllocAt s.h.ents h3.ents nb p
  top : h3.top = s.h.top
  topsize : h3.topsize = s.h.topsize
  topok : Dl.topOk { s with h := h3 } = true
  sb : sbinsOk h3 = true
  tb : tbinsOk h3 = true
  dv : h3.dv = s.h.dv
  dvsize : h3.dvsize = s.h.dvsize
  dvok : Dl.dvOk h3 = true
  rem : ∃ nr, findEnt h3.ents (p + nb) = some nr ∧ isFree nr = true ∧ nr.size = rs
  win : ∃ pre post mid mid', s.h.ents = pre ++ mid ++ post ∧ h3.ents = pre ++ mid' ++ post ∧
    freeSet mid = [p] ∧ freeSet mid' = [p + nb]
  flperm : freeList s.h ~ p :: freeList h3
  fresh : ∀ e ∈ s.h.ents, e.addr ≠ p + nb

/-- **generic split, phases A + B** -/
theorem mn_split_mid {s : St} (w : WFS s) {h1 h2 h3 : Heap} {p nb rs : Nat} (u : mn_Unlinked s.h h1 p)
    {x0 : Ent} (hx0 : findEnt s.h.ents p = some x0) (hsz : x0.size = nb + rs)
    (hnb16 : nb % 16 = 0) (hnb32 : 32 ≤ nb) (hrs : 32 ≤ rs)
    (e2 : set_size_and_pinuse_of_inuse_chunk h1 p nb = .ok h2)
    (e3 : set_size_and_pinuse_of_free_chunk h2 (p + nb) rs = .ok h3) : mn_SplitMid s h3 nb p rs := by
  obtain ⟨pre, post, x, y, g, fa, hxa, hpdv, hp1, hsub⟩ := mn_freeAt w u
  have hxm : x ∈ s.h.ents := by rw [fa.hes]; simp
  have hxx : x0 = x := by
    have := entsOk_find x hxm w.ents
    rw [hxa, hx0] at this
    injection this
  subst hxx
  have hes1 : h1.ents = pre ++ [x0, y] ++ post := by rw [u.frame.ents]; exact fa.hes
  have r := split_inuse_free_at e2 e3 (pre := pre) (post := post) (x := x0) (y := y) hes1
    (by rw [u.frame.ents]; exact w.ents) hxa (by omega) (by omega) (by omega) fa.ya
  have hi : HeapIs h3 (pre ++ [{ addr := p, size := nb, cin := true, pin := true, pfoot := x0.pfoot },
      { addr := p + nb, size := rs, cin := false, pin := true, pfoot := 0 }, { y with pfoot := rs }] ++ post)
      h1.sbins h1.tbins s.h.dv s.h.dvsize s.h.top s.h.topsize := by
    rw [r]; exact ⟨rfl, rfl, rfl, u.frame.dv, u.frame.dvsize, u.frame.top, u.frame.topsize⟩
  clear r
  obtain ⟨hst, hal, fs1, fs2, hfnr, hins⟩ := split_table w fa hnb16 (by omega) (by omega)
    (np := { addr := p, size := nb, cin := true, pin := true, pfoot := x0.pfoot })
    (nr := { addr := p + nb, size := rs, cin := false, pin := true, pfoot := 0 })
    (ny := { y with pfoot := rs })
    hxa.symm rfl rfl rfl (by rw [hxa]) (by show rs = x0.size - nb; omega) rfl rfl rfl rfl fa.yc fa.yp
    (by show rs = x0.size - nb; omega)
  rw [hxa] at hal fs1 fs2 hfnr hins
  have hok' : entsOk h3.ents = true := by rw [hi.ents]; exact hst.ents
  obtain ⟨hsb, htb⟩ := mn_mid_bins w u fa.hes hi.ents hok' hi.sbins hi.tbins hp1 hsub
    (fa.free_mid (P := fun e => e.addr = s.h.top ∨ e.addr = s.h.dv ∨ e.addr = p) (Or.inr (Or.inr hxa)))
  have hfl : freeList h3 = freeList h1 := by
    unfold freeList; rw [binned_congr hi.sbins hi.tbins, hi.top, hi.dv, u.frame.top, u.frame.dv]
  refine ⟨by rw [hi.ents]; exact hst, by rw [hi.ents]; exact hal, hi.top, hi.topsize, ?_, hsb, htb, hi.dv,
    hi.dvsize, ?_, ?_, ⟨pre, post, _, _, fa.hes, hi.ents, fs1, fs2⟩, ?_, hins⟩
  · exact topOk_window w fa.hes hi.ents hok' (List.ne_nil_of_mem fa.hg)
      hi.top hi.topsize fa.top_mid
  · exact dvOk_window w fa.hes hi.ents hok' hi.dv hi.dvsize
      (fa.free_mid (P := fun e => e.addr ≠ s.h.dv) (by rw [hxa]; exact hpdv))
  · exact ⟨_, by rw [hi.ents]; exact hfnr, rfl, rfl⟩
  · rw [hfl]; exact mn_unlinked_freeList u

/-- **generic split, assembly after phase C**: `H` has the table of `h3`, the same `top`, well-formed bins
and `dv`, and its free list is that of `h3` plus the remainder -/
theorem mn_split_fin {s : St} (w : WFS s) {h3 H : Heap} {nb p rs : Nat} (m : mn_SplitMid s h3 nb p rs)
    (hents : H.ents = h3.ents) (htop : H.top = h3.top) (htops : H.topsize = h3.topsize)
    (hsb : sbinsOk H = true) (htb : tbinsOk H = true) (hdv : dvOk H = true)
    (hperm : freeList H ~ (p + nb) :: freeList h3) :
    WFS { s with h := H } ∧ AllocAt s.h.ents H.ents nb p := by
  obtain ⟨pre, post, mid, mid', hes, hes3, fs1, fs2⟩ := m.win
  have hok' : entsOk H.ents = true := by rw [hents]; exact m.struct.ents
  refine ⟨wfs_of_parts w (by rw [hents, htop, m.top]; exact m.struct) ?_ hsb htb hdv ?_,
    by rw [hents]; exact m.alloc⟩
  · refine mn_freeListOk_perm w hes (hents.trans hes3) hok' ?_ (by rw [fs2]; simp) ?_
    · rw [fs1, fs2]
      refine (List.Perm.cons p hperm).trans ?_
      refine (List.Perm.swap _ _ _).trans ?_
      exact List.Perm.cons _ m.flperm.symm
    · intro a ha
      rw [fs2, List.mem_singleton] at ha
      subst ha
      exact w.not_listed m.fresh
  · rw [mn_topOk_congr hents htop htops]; exact m.topok

/-- what `dvOk` says, in the form `replace_dv_freeList` / `replace_dv_binsOk` want -/
theorem mn_dvOk_parts {h : Heap} (hd : dvOk h = true) (hsh : shapeOk h.ents = true) :
    (h.dv = 0 ↔ h.dvsize = 0) ∧ (h.dvsize ≠ 0 → sizeAt h.ents h.dv h.dvsize = true ∧ h.dvsize % 8 = 0) := by
  unfold dvOk at hd
  split at hd
  · rename_i h0
    simp only [decide_eq_true_eq] at hd
    exact ⟨⟨fun _ => hd, fun _ => h0⟩, fun hne => absurd hd hne⟩
  · rename_i h0
    split at hd
    · rename_i e he
      simp only [Bool.and_eq_true, decide_eq_true_eq] at hd
      obtain ⟨⟨hf, hs⟩, h32⟩ := hd
      refine ⟨⟨fun h => absurd h h0, fun h => by omega⟩, fun _ => ⟨sizeAt_iff.2 ⟨e, he, hs⟩, ?_⟩⟩
      obtain ⟨_, h16, _⟩ := shapeOk_free hsh (findEnt_some he).1 (isFree_iff.1 hf).1
      omega
    · cases hd

/-- phase C by `replace_dv` (`small-next-split`, `tsmall-split`): the old `dv` goes to its small bin, the
remainder becomes `dv` -/
theorem mn_split_dv_wfs {s : St} (w : WFS s) {h3 h4 : Heap} {nb p rs : Nat} (m : mn_SplitMid s h3 nb p rs)
    (hnb : 0 < nb) (hrs : 32 ≤ rs) (e4 : replace_dv h3 (p + nb) rs = .ok h4) (t : String) :
    WFS { s with h := h4.tag t } ∧ AllocAt s.h.ents (h4.tag t).ents nb p := by
  obtain ⟨f1, f2, f3, f4, f5, f6, f7, f8, f9⟩ := replace_dv_frame e4
  obtain ⟨hdv0, hdvs⟩ := mn_dvOk_parts m.dvok m.struct.shape
  obtain ⟨hsb, htb⟩ := replace_dv_binsOk e4 hdvs m.sb m.tb
  have hp : p + nb ≠ 0 := by omega
  refine mn_split_fin w m (H := h4.tag t) f1 f3 f4 hsb htb ?_ ?_
  · obtain ⟨nr, r1, r2, r3⟩ := m.rem
    unfold dvOk
    show (if h4.dv = 0 then decide (h4.dvsize = 0) else
      match findEnt h4.ents h4.dv with
      | some e => isFree e && decide (e.size = h4.dvsize) && decide (32 ≤ h4.dvsize)
      | none => false) = true
    rw [f6, f7, f1, if_neg hp, r1]
    simp [r2, r3, hrs]
  · have := replace_dv_freeList e4 hdv0
    rw [if_neg hp] at this
    exact this

/-- phase C by `insert_chunk` (`tlarge-split`): the remainder goes to its bin, `dv` stays -/
theorem mn_split_ins_wfs {s : St} (w : WFS s) {h3 h4 : Heap} {nb p rs : Nat} (m : mn_SplitMid s h3 nb p rs)
    (hrs8 : rs % 8 = 0) (e4 : insert_chunk h3 (p + nb) rs = .ok h4) (t : String) :
    WFS { s with h := h4.tag t } ∧ AllocAt s.h.ents (h4.tag t).ents nb p := by
  have f := insert_chunk_frame e4
  obtain ⟨nr, r1, r2, r3⟩ := m.rem
  have hsz : sizeAt h3.ents (p + nb) rs = true := sizeAt_iff.2 ⟨nr, r1, r3⟩
  obtain ⟨hsb, htb⟩ := insert_chunk_binsOk e4 hrs8 (mn_entsLt w m.struct) hsz m.sb m.tb
  refine mn_split_fin w m (H := h4.tag t) f.ents f.top f.topsize hsb htb ?_
    (show freeList h4 ~ _ from insert_chunk_freeList e4)
  have : dvOk (h4.tag t) = dvOk h3 :=
    dvOk_frame (h := h3) (h' := h4.tag t) f.dv f.dvsize (by show findEnt h4.ents _ = _; rw [f.ents])
  rw [this]; exact m.dvok

/-! ## the two `small-next-*` branches -/

theorem mn_small_next_exhaust_wfs {s : St} (w : WFS s) {i p nb : Nat} {h1 h2 : Heap}
    (e1 : take_first_small s.h i = .ok (h1, p)) (hnb : nb ≤ small_index2size i)
    (e2 : set_inuse_and_pinuse h1 p (small_index2size i) = .ok h2) (t : String) :
    WFS { s with h := h2.tag t } ∧ AllocAt s.h.ents (h2.tag t).ents nb p := by
  obtain ⟨rest, x, hidx, hh1, hfx, hxs⟩ := take_first_small_ok e1
  exact mn_exhaust_wfs w (mn_unlinked_small w e1) hfx hxs e2 hnb t

theorem mn_small_next_split_wfs {s : St} (w : WFS s) {i p nb : Nat} {h1 h2 h3 h4 : Heap}
    (e1 : take_first_small s.h i = .ok (h1, p)) (hnb16 : nb % 16 = 0) (hnb32 : 32 ≤ nb)
    (hle : nb ≤ small_index2size i) (hrs : 32 ≤ small_index2size i - nb)
    (e2 : set_size_and_pinuse_of_inuse_chunk h1 p nb = .ok h2)
    (e3 : set_size_and_pinuse_of_free_chunk h2 (p + nb) (small_index2size i - nb) = .ok h3)
    (e4 : replace_dv h3 (p + nb) (small_index2size i - nb) = .ok h4) (t : String) :
    WFS { s with h := h4.tag t } ∧ AllocAt s.h.ents (h4.tag t).ents nb p := by
  obtain ⟨rest, x, hidx, hh1, hfx, hxs⟩ := take_first_small_ok e1
  have m := mn_split_mid w (mn_unlinked_small w e1) hfx (by omega) hnb16 hnb32 hrs e2 e3
  exact mn_split_dv_wfs w m (by omega) hrs e4 t

end TinyVerif.Dl
