/-
C18: the kernel contract of Model/Ring.lean (`kstep`: consume / complete / flushOvf / idle, composed
with the wrapper's get / flush / reap / wake) — the invariant `KInv` tying the contract's bookkeeping
(in-flight requests, overflow list, ghost order of completion) to the ring model's ghost lists, its
preservation by every step, and the preservation of the ring invariant `Inv` of Proofs/RingInv.lean.
-/
import TinyVerif.Proofs.RingInv
namespace TinyVerif.Ring

/-! ### what the ring steps do to the two ghost lists the contract's bookkeeping reads: `consumed` and `posted` -/

theorem get_frame (s : St) (v : Nat) :
    (step .fixed s (.get v)).1.consumed = s.consumed ∧ (step .fixed s (.get v)).1.posted = s.posted := by
  rw [step_get]
  unfold getNextSqeSlot addU32 subU32
  simp only
  by_cases hc : (W + (s.tail + 1) % W - s.sqKHead) % W ≤ s.sqEntries
  · rw [if_pos hc]; exact ⟨rfl, rfl⟩
  · rw [if_neg hc]; exact ⟨rfl, rfl⟩

theorem flush_frame (s : St) :
    (step .fixed s .flush).1.consumed = s.consumed ∧ (step .fixed s .flush).1.posted = s.posted := by
  rw [step_flush]
  unfold flushSubmissionQueue subU32
  simp only
  by_cases hc : s.head ≠ s.tail
  · rw [if_pos hc]; exact ⟨rfl, rfl⟩
  · rw [if_neg hc]; exact ⟨rfl, rfl⟩

theorem reap_frame (s : St) :
    (step .fixed s .reap).1.consumed = s.consumed ∧ (step .fixed s .reap).1.posted = s.posted := by
  have fr := relStep_frame s
  rw [step_reap, getNextCqe_fixed]
  by_cases hc : ((relStep s).cqKTail == (relStep s).cqKHead) = true
  · rw [if_pos hc]; exact ⟨fr.2.2.1, fr.2.1⟩
  · rw [if_neg hc]; exact ⟨fr.2.2.1, fr.2.1⟩

theorem kPost1_frame (s : St) (v : Nat) :
    (kPost1 s v).1.consumed = s.consumed ∧
    ((kPost1 s v).2 = true → (kPost1 s v).1.posted.map Ent.val = s.posted.map Ent.val ++ [v]) := by
  unfold kPost1
  by_cases hc : (W + s.cqKTail - s.cqKHead) % W < s.cqEntries
  · rw [if_pos hc]; exact ⟨rfl, fun _ => by rw [List.map_append]; rfl⟩
  · rw [if_neg hc]; exact ⟨rfl, nofun⟩

theorem kConsume_frame (n : Nat) : ∀ (s : St),
    (kConsume n s).1.consumed = s.consumed ++ (kConsume n s).2 ∧ (kConsume n s).1.posted = s.posted := by
  induction n with
  | zero => intro s; exact ⟨(List.append_nil _).symm, rfl⟩
  | succ n ih =>
    intro s
    unfold kConsume kConsume1
    by_cases hc : s.sqKHead = s.sqKTail
    · rw [if_pos hc]; exact ⟨(List.append_nil _).symm, rfl⟩
    · rw [if_neg hc]
      refine ⟨?_, (ih _).2⟩
      simp only [(ih _).1, List.append_assoc, List.singleton_append]

/-! ### the link structure and the closed form of the outcomes -/

theorem tagReqs_length (K : Kern) : ∀ (es : List Ent) (n : Nat) (p : Option Nat), (tagReqs K n p es).length = es.length := by
  intro es
  induction es with
  | nil => intro n p; rfl
  | cons e es ih => intro n p; simp [tagReqs, ih]

theorem tagReqs_seq (K : Kern) : ∀ (es : List Ent) (n : Nat) (p : Option Nat),
    (tagReqs K n p es).map Req.seq = List.range' n es.length := by
  intro es
  induction es with
  | nil => intro n p; rfl
  | cons e es ih => intro n p; simp [tagReqs, ih, List.range'_succ]

theorem tagReqs_get (K : Kern) : ∀ (es : List Ent) (n : Nat) (p : Option Nat) (j : Nat) (r : Req),
    (tagReqs K n p es)[j]? = some r →
      r.seq = n + j ∧ es[j]? = some r.ent ∧
      (∀ m, r.dep = some m → (j = 0 ∧ p = some m) ∨
        (∃ j' e, j = j' + 1 ∧ m = n + j' ∧ es[j']? = some e ∧ K.link e.val = true)) := by
  intro es
  induction es with
  | nil => intro n p j r h; simp [tagReqs] at h
  | cons e es ih =>
    intro n p j r h
    cases j with
    | zero =>
      simp only [tagReqs, List.getElem?_cons_zero, Option.some.injEq] at h
      subst h
      exact ⟨rfl, rfl, fun m hm => Or.inl ⟨rfl, hm⟩⟩
    | succ j =>
      simp only [tagReqs, List.getElem?_cons_succ] at h
      obtain ⟨h1, h2, h3⟩ := ih _ _ j r h
      refine ⟨by omega, by simpa using h2, fun m hm => .inr ?_⟩
      rcases h3 m hm with ⟨hj, hp⟩ | ⟨j', e', hj, hm', he', hl⟩
      · by_cases hl : K.link e.val = true
        · rw [if_pos hl] at hp
          exact ⟨0, e, by omega, (Option.some.inj hp).symm, rfl, hl⟩
        · rw [if_neg hl] at hp; cases hp
      · exact ⟨j' + 1, e', by omega, by omega, he', hl⟩

theorem linkedBehind_append (d d' : List (Option Nat)) (q : Nat) (hq : q < d.length) :
    linkedBehind (d ++ d') q = linkedBehind d q := by
  unfold linkedBehind
  rw [List.getElem?_append_left hq]

theorem outcome_append (K : Kern) (c c' : List Ent) (d d' : List (Option Nat)) (hl : d.length = c.length) :
    ∀ q, q < c.length → outcome K (c ++ c') (d ++ d') q = outcome K c d q := by
  intro q
  induction q with
  | zero => intro hq; simp only [outcome]; rw [List.getElem?_append_left hq]
  | succ q ih =>
    intro hq
    simp only [outcome]
    rw [List.getElem?_append_left hq, linkedBehind_append d d' (q + 1) (by omega), ih (by omega)]

theorem expWord_append (K : Kern) (c c' : List Ent) (d d' : List (Option Nat)) (hl : d.length = c.length)
    (q : Nat) (hq : q < c.length) : expWord K (c ++ c') (d ++ d') q = expWord K c d q := by
  unfold expWord
  rw [List.getElem?_append_left hq, outcome_append K c c' d d' hl q hq]

/-- one-step characterisation of `outcome` through the link structure -/
theorem outcome_eq (K : Kern) (c : List Ent) (d : List (Option Nat)) (q : Nat) (dep : Option Nat)
    (hd : d[q]? = some dep) (hdep : ∀ m, dep = some m → m + 1 = q) :
    outcome K c d q = outcomeOf K q c[q]?
      (dep.any fun m => (outcome K c d m).2) := by
  cases q with
  | zero =>
    cases dep with
    | none => rfl
    | some m => have := hdep m rfl; omega
  | succ q =>
    simp only [outcome, linkedBehind, hd]
    cases dep with
    | none => simp
    | some m =>
      have := hdep m rfl
      have : m = q := by omega
      subst this
      simp

/-! ### the invariant of the contract's bookkeeping -/

theorem perm_cons_eraseIdx {α : Type} : ∀ (l : List α) (i : Nat) (a : α), l[i]? = some a → l.Perm (a :: l.eraseIdx i) := by
  intro l
  induction l with
  | nil => intro i a h; simp at h
  | cons x tl ih =>
    intro i a h
    cases i with
    | zero => simp at h; subst h; simp
    | succ i =>
      simp only [List.getElem?_cons_succ] at h
      rw [List.eraseIdx_cons_succ]
      exact ((ih i a h).cons x).trans (List.Perm.swap a x _)

/-- the contract's bookkeeping, tied to the ring model's ghost lists `consumed` and `posted` -/
structure KInv (K : Kern) (s : KSt) : Prop where
  deps_len : s.deps.length = s.ring.consumed.length
  pend_ok : ∀ r ∈ s.pend, s.ring.consumed[r.seq]? = some r.ent ∧ s.deps[r.seq]? = some r.dep
  seqs : (s.pend.map Req.seq ++ s.done).Perm (List.range s.ring.consumed.length)
  done_eq : s.done = s.postedSeq ++ s.ovf.map Prod.fst
  posted_ok : s.ring.posted.map Ent.val = s.postedSeq.map (expWord K s.ring.consumed s.deps)
  ovf_ok : s.ovf.map Prod.snd = (s.ovf.map Prod.fst).map (expWord K s.ring.consumed s.deps)
  dep_ok : ∀ (q m : Nat), s.deps[q]? = some (some m) →
    m + 1 = q ∧ ∃ e, s.ring.consumed[m]? = some e ∧ K.link e.val = true
  order : ∀ (i q m : Nat), s.done[i]? = some q → s.deps[q]? = some (some m) → ∃ j, j < i ∧ s.done[j]? = some m
  failed_sub : ∀ q ∈ s.failed, q ∈ s.done
  failed_ok : ∀ q ∈ s.done, s.failed.contains q = (outcome K s.ring.consumed s.deps q).2

theorem kinv_init (K : Kern) (flags k kc c cc : Nat) : KInv K (kinit flags k kc c cc) := by
  constructor <;> simp [kinit, init]

section
variable {K : Kern} {s : KSt}

theorem KInv.nodup (h : KInv K s) : (s.pend.map Req.seq ++ s.done).Nodup :=
  (h.seqs.nodup_iff).mpr List.nodup_range

theorem KInv.done_lt (h : KInv K s) {q : Nat} (hq : q ∈ s.done) : q < s.ring.consumed.length := by
  have : q ∈ s.pend.map Req.seq ++ s.done := List.mem_append_right _ hq
  exact List.mem_range.mp ((h.seqs.mem_iff).mp this)

theorem KInv.pend_not_done (h : KInv K s) {r : Req} (hr : r ∈ s.pend) : r.seq ∉ s.done := by
  intro hd
  have := (List.nodup_append.mp h.nodup).2.2 r.seq (List.mem_map_of_mem hr) r.seq hd
  exact this rfl

/-- a step that changes the ring but neither `consumed` nor `posted` -/
theorem KInv.ring_frame (h : KInv K s) (r' : St) (hc : r'.consumed = s.ring.consumed)
    (hp : r'.posted = s.ring.posted) : KInv K { s with ring := r' } :=
  { h with
    deps_len := hc ▸ h.deps_len
    pend_ok := hc ▸ h.pend_ok
    seqs := hc ▸ h.seqs
    posted_ok := hc ▸ hp ▸ h.posted_ok
    ovf_ok := hc ▸ h.ovf_ok
    dep_ok := hc ▸ h.dep_ok
    failed_ok := hc ▸ h.failed_ok }


theorem getElem?_lt {α : Type} {l : List α} {i : Nat} {a : α} (h : l[i]? = some a) : i < l.length := by
  obtain ⟨hl, _⟩ := List.getElem?_eq_some_iff.mp h
  exact hl

/-- `consume`: a batch of entries `es` is appended to `consumed` and becomes in-flight -/
theorem KInv.consume (h : KInv K s) (ring' : St) (es : List Ent)
    (hc : ring'.consumed = s.ring.consumed ++ es) (hp : ring'.posted = s.ring.posted) :
    KInv K { s with ring := ring', pend := s.pend ++ tagReqs K s.ring.consumed.length none es,
                    deps := s.deps ++ (tagReqs K s.ring.consumed.length none es).map Req.dep } := by
  have hdl := h.deps_len
  have stab : ∀ q, q ∈ s.done → expWord K (s.ring.consumed ++ es)
      (s.deps ++ (tagReqs K s.ring.consumed.length none es).map Req.dep) q = expWord K s.ring.consumed s.deps q :=
    fun q hq => expWord_append K _ _ _ _ hdl q (h.done_lt hq)
  constructor
  · simp [hc, hdl, tagReqs_length]
  · intro r hr
    simp only [hc]
    rcases List.mem_append.mp hr with hr | hr
    · obtain ⟨a, b⟩ := h.pend_ok r hr
      rw [List.getElem?_append_left (getElem?_lt a), List.getElem?_append_left (getElem?_lt b)]
      exact ⟨a, b⟩
    · obtain ⟨j, hj⟩ := List.getElem?_of_mem hr
      obtain ⟨h1, h2, _⟩ := tagReqs_get K es _ none j r hj
      rw [h1, List.getElem?_append_right (by omega), List.getElem?_append_right (by omega)]
      refine ⟨by rw [← h2]; congr 1; omega, ?_⟩
      rw [hdl, List.getElem?_map]
      have : s.ring.consumed.length + j - s.ring.consumed.length = j := by omega
      rw [this, hj]; rfl
  · simp only [hc, List.map_append, tagReqs_seq, List.length_append]
    rw [List.range_add, ← List.range'_eq_map_range]
    have e1 : (List.map Req.seq s.pend ++ List.range' s.ring.consumed.length es.length ++ s.done).Perm
        ((List.map Req.seq s.pend ++ s.done) ++ List.range' s.ring.consumed.length es.length) := by
      rw [List.append_assoc, List.append_assoc]
      exact List.Perm.append_left _ List.perm_append_comm
    exact e1.trans (List.Perm.append_right _ h.seqs)
  · exact h.done_eq
  · simp only [hc, hp]
    rw [h.posted_ok]
    apply List.map_congr_left
    intro q hq
    exact (stab q (by rw [h.done_eq]; exact List.mem_append_left _ hq)).symm
  · simp only [hc]
    rw [h.ovf_ok]
    apply List.map_congr_left
    intro q hq
    exact (stab q (by rw [h.done_eq]; exact List.mem_append_right _ hq)).symm
  · intro q m hq
    simp only [hc] at hq ⊢
    by_cases hlt : q < s.deps.length
    · rw [List.getElem?_append_left hlt] at hq
      obtain ⟨a, e, b, c⟩ := h.dep_ok q m hq
      exact ⟨a, e, by rw [List.getElem?_append_left (getElem?_lt b)]; exact b, c⟩
    · rw [List.getElem?_append_right (by omega), List.getElem?_map] at hq
      cases hr : (tagReqs K s.ring.consumed.length none es)[q - s.deps.length]? with
      | none => rw [hr] at hq; cases hq
      | some r =>
        rw [hr] at hq
        simp only [Option.map_some, Option.some.injEq] at hq
        obtain ⟨h1, _, h3⟩ := tagReqs_get K es _ none _ r hr
        rcases h3 m hq with ⟨_, hn⟩ | ⟨j', e, hj, hm, he, hl⟩
        · cases hn
        · refine ⟨by omega, e, ?_, hl⟩
          rw [hm, List.getElem?_append_right (Nat.le_add_right _ _), Nat.add_sub_cancel_left]; exact he
  · intro i q m hi hq
    simp only at hi hq ⊢
    have hlt : q < s.deps.length := by rw [hdl]; exact h.done_lt (List.mem_of_getElem? hi)
    rw [List.getElem?_append_left hlt] at hq
    exact h.order i q m hi hq
  · exact h.failed_sub
  · intro q hq
    simp only [hc]
    rw [outcome_append K _ _ _ _ hdl q (h.done_lt hq)]
    exact h.failed_ok q hq


/-- what `kComplete` computes for a ready in-flight request is the closed form -/
theorem KInv.complete_word (h : KInv K s) (r : Req) (hr : r ∈ s.pend)
    (hready : ∀ m, r.dep = some m → m ∈ s.done) :
    outcome K s.ring.consumed s.deps r.seq =
      outcomeOf K r.seq (some r.ent) (r.dep.any fun m => s.failed.contains m) := by
  obtain ⟨a, b⟩ := h.pend_ok r hr
  rw [outcome_eq K s.ring.consumed s.deps r.seq r.dep b (fun m hm => (h.dep_ok r.seq m (by rw [b, hm])).1), a]
  cases hd : r.dep with
  | none => rfl
  | some m =>
    simp only [Option.any_some]
    rw [h.failed_ok m (hready m hd)]

/-- `complete`: request `r` leaves `pend`, its completion `w` goes to the ring (first alternative) or
to the tail of the overflow list (second) -/
theorem KInv.complete (h : KInv K s) (i : Nat) (r : Req) (hr : s.pend[i]? = some r)
    (hready : ∀ m, r.dep = some m → m ∈ s.done) (w : Nat)
    (hw : w = expWord K s.ring.consumed s.deps r.seq) (s' : KSt)
    (h_pend : s'.pend = s.pend.eraseIdx i) (h_done : s'.done = s.done ++ [r.seq])
    (h_failed : s'.failed = if (outcome K s.ring.consumed s.deps r.seq).2 then s.failed ++ [r.seq] else s.failed)
    (h_deps : s'.deps = s.deps) (h_cons : s'.ring.consumed = s.ring.consumed)
    (h_alt : (s'.postedSeq = s.postedSeq ++ [r.seq] ∧ s.ovf = [] ∧ s'.ovf = [] ∧
                s'.ring.posted.map Ent.val = s.ring.posted.map Ent.val ++ [w]) ∨
             (s'.postedSeq = s.postedSeq ∧ s'.ovf = s.ovf ++ [(r.seq, w)] ∧ s'.ring.posted = s.ring.posted)) :
    KInv K s' := by
  have hmem : r ∈ s.pend := List.mem_of_getElem? hr
  have hnd : r.seq ∉ s.done := h.pend_not_done hmem
  have hnf : r.seq ∉ s.failed := fun hf => hnd (h.failed_sub _ hf)
  constructor
  · rw [h_deps, h_cons]; exact h.deps_len
  · intro r' hr'
    rw [h_pend] at hr'
    rw [h_deps, h_cons]
    exact h.pend_ok r' (List.mem_of_mem_eraseIdx hr')
  · rw [h_pend, h_done, h_cons]
    have p1 := (perm_cons_eraseIdx s.pend i r hr).map Req.seq
    simp only [List.map_cons] at p1
    have p2 : (List.map Req.seq (s.pend.eraseIdx i) ++ (s.done ++ [r.seq])).Perm
        ((r.seq :: List.map Req.seq (s.pend.eraseIdx i)) ++ s.done) := by
      rw [← List.append_assoc]
      exact List.perm_append_singleton _ _
    exact p2.trans ((List.Perm.append_right _ p1.symm).trans h.seqs)
  · rw [h_done, h.done_eq]
    rcases h_alt with ⟨a1, a2, a3, _⟩ | ⟨a1, a2, _⟩
    · rw [a1, a2, a3]; simp
    · rw [a1, a2]; simp
  · rw [h_cons, h_deps]
    rcases h_alt with ⟨a1, _, _, a4⟩ | ⟨a1, _, a3⟩
    · rw [a4, a1, h.posted_ok, hw]; simp
    · rw [a3, a1]; exact h.posted_ok
  · rw [h_cons, h_deps]
    rcases h_alt with ⟨_, _, a3, _⟩ | ⟨_, a2, _⟩
    · rw [a3]; rfl
    · rw [a2]; simp only [List.map_append, List.map_cons, List.map_nil]; rw [h.ovf_ok, hw]
  · rw [h_deps, h_cons]; exact h.dep_ok
  · intro i' q m hi hq
    rw [h_done] at hi ⊢
    rw [h_deps] at hq
    by_cases hlt : i' < s.done.length
    · rw [List.getElem?_append_left hlt] at hi
      obtain ⟨j, hj, hm⟩ := h.order i' q m hi hq
      exact ⟨j, hj, by rw [List.getElem?_append_left (by omega)]; exact hm⟩
    · rw [List.getElem?_append_right (by omega)] at hi
      have hq' : q = r.seq := by
        cases hx : i' - s.done.length with
        | zero => rw [hx] at hi; simpa using hi.symm
        | succ n => rw [hx] at hi; simp at hi
      subst hq'
      rw [(h.pend_ok r hmem).2] at hq
      injection hq with hq
      obtain ⟨j, hj⟩ := List.getElem?_of_mem (hready m hq)
      exact ⟨j, by have := getElem?_lt hj; omega, by rw [List.getElem?_append_left (getElem?_lt hj)]; exact hj⟩
  · intro q hq
    rw [h_failed] at hq
    rw [h_done]
    split at hq
    · rcases List.mem_append.mp hq with hq | hq
      · exact List.mem_append_left _ (h.failed_sub q hq)
      · exact List.mem_append_right _ hq
    · exact List.mem_append_left _ (h.failed_sub q hq)
  · intro q hq
    rw [h_done] at hq
    rw [h_failed, h_cons, h_deps]
    rcases List.mem_append.mp hq with hq | hq
    · have hne : q ≠ r.seq := fun he => hnd (he ▸ hq)
      rw [← h.failed_ok q hq]
      split
      · rw [List.contains_append]; simp [hne]
      · rfl
    · have : q = r.seq := by simpa using hq
      subst this
      split
      · rename_i ht; rw [ht]; simp
      · rename_i hf
        have : (outcome K s.ring.consumed s.deps r.seq).2 = false := by simpa using hf
        rw [this]
        simpa using hnf

/-- `flushOvf`, one entry: the oldest overflowed completion moves into the ring -/
theorem KInv.flush1 (h : KInv K s) (q w : Nat) (rest : List (Nat × Nat)) (ho : s.ovf = (q, w) :: rest)
    (ring1 : St) (hc : ring1.consumed = s.ring.consumed)
    (hp : ring1.posted.map Ent.val = s.ring.posted.map Ent.val ++ [w]) :
    KInv K { s with ring := ring1, ovf := rest, postedSeq := s.postedSeq ++ [q] } := by
  have ho1 := h.ovf_ok
  have hd := h.done_eq
  rw [ho] at ho1 hd
  simp only [List.map_cons, List.cons.injEq] at ho1 hd
  exact { h with
    deps_len := hc ▸ h.deps_len
    pend_ok := hc ▸ h.pend_ok
    seqs := hc ▸ h.seqs
    done_eq := by rw [hd, List.append_assoc]; rfl
    posted_ok := by
      show ring1.posted.map Ent.val = (s.postedSeq ++ [q]).map (expWord K ring1.consumed s.deps)
      rw [hc, hp, List.map_append, h.posted_ok, ho1.1]; rfl
    ovf_ok := hc ▸ ho1.2
    dep_ok := hc ▸ h.dep_ok
    failed_ok := hc ▸ h.failed_ok }


theorem KInv.wake_frame (h : KInv K s) (b : Bool) : KInv K { s with needWake := b } := by
  cases h; constructor <;> assumption

theorem kComplete_kinv (h : KInv K s) (i : Nat) : KInv K (kComplete K s i).1 := by
  unfold kComplete
  cases hr : s.pend[i]? with
  | none => exact h
  | some r =>
    simp only
    by_cases hready : (r.dep.all fun m => s.done.contains m) = true
    · rw [if_pos hready]
      have hready' : ∀ m, r.dep = some m → m ∈ s.done := by
        intro m hm
        rw [hm] at hready
        simpa using hready
      have hmem : r ∈ s.pend := List.mem_of_getElem? hr
      have hword := h.complete_word r hmem hready'
      have hw : cqeWord (K.ud r.ent.val)
          (if (r.dep.any fun m => s.failed.contains m) = true then ECANCELED else K.sys r.seq r.ent.val) =
          expWord K s.ring.consumed s.deps r.seq := by
        unfold expWord
        rw [(h.pend_ok r hmem).1, hword]
        rfl
      have hf : ((r.dep.any fun m => s.failed.contains m) || K.severs r.ent.val
          (if (r.dep.any fun m => s.failed.contains m) = true then ECANCELED else K.sys r.seq r.ent.val)) =
          (outcome K s.ring.consumed s.deps r.seq).2 := by
        rw [hword]; rfl
      have fr := kPost1_frame s.ring (cqeWord (K.ud r.ent.val)
          (if (r.dep.any fun m => s.failed.contains m) = true then ECANCELED else K.sys r.seq r.ent.val))
      by_cases hov : s.ovf.isEmpty = true
      · rw [if_pos hov]
        have hov' : s.ovf = [] := by simpa using hov
        split
        · rename_i ring1 hk
          rw [hk] at fr
          refine h.complete i r hr hready' _ hw _ rfl rfl ?_ rfl fr.1 (Or.inl ⟨rfl, hov', hov', fr.2 rfl⟩)
          simp only [hf]
        · rename_i ring1 hk
          refine h.complete i r hr hready' _ hw _ rfl rfl ?_ rfl rfl (Or.inr ⟨rfl, rfl, rfl⟩)
          simp only [hf]
      · rw [if_neg hov]
        refine h.complete i r hr hready' _ hw _ rfl rfl ?_ rfl rfl (Or.inr ⟨rfl, rfl, rfl⟩)
        simp only [hf]
    · rw [if_neg hready]; exact h

theorem kFlushOvf_kinv (n : Nat) : ∀ {s : KSt}, KInv K s → KInv K (kFlushOvf n s).1 := by
  induction n with
  | zero => intro s h; exact h
  | succ n ih =>
    intro s h
    unfold kFlushOvf
    split
    · exact h
    · rename_i q w rest ho
      have fr := kPost1_frame s.ring w
      split
      · exact h
      · rename_i ring1 hk
        rw [hk] at fr
        exact ih (h.flush1 q w rest ho ring1 fr.1 (fr.2 rfl))

theorem kstep_kinv (h : KInv K s) (op : KOp) : KInv K (kstep K .fixed s op).1 := by
  cases op with
  | get v => exact h.ring_frame _ (get_frame s.ring v).1 (get_frame s.ring v).2
  | flush => exact h.ring_frame _ (flush_frame s.ring).1 (flush_frame s.ring).2
  | reap => exact h.ring_frame _ (reap_frame s.ring).1 (reap_frame s.ring).2
  | wake => exact h.wake_frame _
  | idle => exact h.wake_frame _
  | consume k =>
    show KInv K (kConsumeK K k s).1
    unfold kConsumeK
    split
    · exact h
    · exact h.consume _ _ (kConsume_frame k s.ring).1 (kConsume_frame k s.ring).2
  | complete i => exact kComplete_kinv h i
  | flushOvf n => exact kFlushOvf_kinv n h

theorem krun_kinv (ops : List KOp) : ∀ {s : KSt}, KInv K s → KInv K (krun K .fixed s ops).1 := by
  induction ops with
  | nil => intro s h; exact h
  | cons op ops ih => intro s h; exact ih (kstep_kinv h op)

end

/-! ### the ring invariant under the contract's steps -/

/-- the ring invariant of Proofs/RingInv.lean with its ghost queues hidden, except `hold`: the reaped entries whose
slot the application has not released yet (none, or the last one) -/
def HInv (k kc c cc : Nat) (r : St) (hold : List Ent) : Prop := ∃ inq unpub cinq, Inv k kc c cc r inq unpub cinq hold

def RInv (k kc c cc : Nat) (r : St) : Prop := ∃ hold, HInv k kc c cc r hold

section
variable {K : Kern} {k kc c cc : Nat} {hold : List Ent}

theorem hinv_kPost1 {r : St} (h : HInv k kc c cc r hold) (v : Nat) :
    HInv k kc c cc (kPost1 r v).1 hold ∧ (kPost1 r v).1.reaped = r.reaped := by
  obtain ⟨inq, unpub, cinq, hi⟩ := h
  obtain ⟨h0, h1⟩ := inv_post1 hi v
  refine ⟨?_, kPost1_reaped r v⟩
  by_cases hlt : hold.length + cinq.length < 2 ^ kc
  · exact ⟨_, _, _, (h1 hlt).2⟩
  · rw [h0 hlt]; exact ⟨_, _, _, hi⟩

theorem kComplete_ring (K : Kern) (s : KSt) (i : Nat) :
    (kComplete K s i).1.ring = s.ring ∨ ∃ w, (kComplete K s i).1.ring = (kPost1 s.ring w).1 := by
  unfold kComplete
  cases s.pend[i]? with
  | none => exact .inl rfl
  | some r =>
    simp only
    by_cases hready : (r.dep.all fun m => s.done.contains m) = true
    · rw [if_pos hready]
      by_cases hov : s.ovf.isEmpty = true
      · rw [if_pos hov]
        cases hk : kPost1 s.ring (cqeWord (K.ud r.ent.val)
            (if (r.dep.any fun m => s.failed.contains m) = true then ECANCELED else K.sys r.seq r.ent.val)) with
        | mk ring1 b => cases b with
          | true => exact .inr ⟨_, by rw [hk]⟩
          | false => exact .inl rfl
      · rw [if_neg hov]; exact .inl rfl
    · rw [if_neg hready]; exact .inl rfl

theorem hinv_kComplete {s : KSt} (h : HInv k kc c cc s.ring hold) (i : Nat) :
    HInv k kc c cc (kComplete K s i).1.ring hold ∧ (kComplete K s i).1.ring.reaped = s.ring.reaped := by
  rcases kComplete_ring K s i with e | ⟨w, e⟩ <;> rw [e]
  · exact ⟨h, rfl⟩
  · exact hinv_kPost1 h w

theorem hinv_kFlushOvf (n : Nat) : ∀ {s : KSt}, HInv k kc c cc s.ring hold →
    HInv k kc c cc (kFlushOvf n s).1.ring hold ∧ (kFlushOvf n s).1.ring.reaped = s.ring.reaped := by
  induction n with
  | zero => intro s h; exact ⟨h, rfl⟩
  | succ n ih =>
    intro s h
    unfold kFlushOvf
    cases s.ovf with
    | nil => exact ⟨h, rfl⟩
    | cons qw rest =>
      obtain ⟨q, w⟩ := qw
      have hp := hinv_kPost1 h w
      simp only
      cases hk : kPost1 s.ring w with
      | mk ring1 b =>
        rw [hk] at hp
        cases b with
        | false => exact ⟨h, rfl⟩
        | true =>
          obtain ⟨a, b⟩ := ih (s := { s with ring := ring1, ovf := rest, postedSeq := s.postedSeq ++ [q] }) hp.1
          exact ⟨a, b.trans hp.2⟩

/-- every step of the contract model except the application's `reap` keeps what is held and what was reaped -/
theorem kstep_hinv {s : KSt} (h : HInv k kc c cc s.ring hold) (op : KOp) (hop : op ≠ .reap) :
    HInv k kc c cc (kstep K .fixed s op).1.ring hold ∧ (kstep K .fixed s op).1.ring.reaped = s.ring.reaped := by
  obtain ⟨inq, unpub, cinq, hi⟩ := h
  cases op with
  | get v =>
    obtain ⟨_, _, _, a, b⟩ := inv_step_hold hi (.get v) (by simp)
    exact ⟨⟨_, _, _, a⟩, b⟩
  | flush =>
    obtain ⟨_, _, _, a, b⟩ := inv_step_hold hi .flush (by simp)
    exact ⟨⟨_, _, _, a⟩, b⟩
  | reap => exact absurd rfl hop
  | wake => exact ⟨⟨_, _, _, hi⟩, rfl⟩
  | idle => exact ⟨⟨_, _, _, hi⟩, rfl⟩
  | consume n =>
    show HInv k kc c cc (kConsumeK K n s).1.ring hold ∧ (kConsumeK K n s).1.ring.reaped = s.ring.reaped
    unfold kConsumeK
    split
    · exact ⟨⟨_, _, _, hi⟩, rfl⟩
    · obtain ⟨inq', hi', _⟩ := inv_consume n hi
      exact ⟨⟨_, _, _, hi'⟩, kConsume_reaped n s.ring⟩
  | complete i => exact hinv_kComplete ⟨_, _, _, hi⟩ i
  | flushOvf n => exact hinv_kFlushOvf n ⟨_, _, _, hi⟩

theorem kstep_rinv {s : KSt} (h : RInv k kc c cc s.ring) (op : KOp) : RInv k kc c cc (kstep K .fixed s op).1.ring := by
  obtain ⟨hold, h⟩ := h
  by_cases hop : op = .reap
  · subst hop
    obtain ⟨inq, unpub, cinq, hi⟩ := h
    obtain ⟨_, _, _, hold', h'⟩ := inv_step hi .reap
    exact ⟨hold', _, _, _, h'⟩
  · exact ⟨hold, (kstep_hinv h op hop).1⟩

theorem krun_rinv (ops : List KOp) : ∀ {s : KSt}, RInv k kc c cc s.ring → RInv k kc c cc (krun K .fixed s ops).1.ring := by
  induction ops with
  | nil => intro s h; exact h
  | cons op ops ih => intro s h; exact ih (kstep_rinv h op)

end

/-! ### what the two invariants give, for any state that satisfies them -/

/-- the completion entries the contract owes for the consumed entries, in consumption order -/
def owed (K : Kern) (s : KSt) : List Nat :=
  (List.range s.ring.consumed.length).map (expWord K s.ring.consumed s.deps)

/-- request numbers of the completions the application has reaped, in reaping order -/
def reapedSeq (s : KSt) : List Nat := s.postedSeq.take s.ring.reaped.length

section
variable {K : Kern} {k kc c cc : Nat} {s : KSt}

theorem reaped_words (h : KInv K s) (hr : RInv k kc c cc s.ring) :
    s.ring.reaped.map Ent.val = (reapedSeq s).map (expWord K s.ring.consumed s.deps) ∧
    s.ring.reaped.length ≤ s.postedSeq.length := by
  obtain ⟨hold, inq, unpub, cinq, hi⟩ := hr
  have hp := h.posted_ok
  rw [hi.posted_eq, List.map_append] at hp
  have hl : s.ring.reaped.length ≤ s.postedSeq.length := by
    have := congrArg List.length hp
    simp only [List.length_append, List.length_map] at this
    omega
  refine ⟨?_, hl⟩
  have := congrArg (List.take s.ring.reaped.length) hp
  rw [List.take_left' (by simp)] at this
  rw [this, reapedSeq, List.map_take]

theorem reapedSeq_prefix_done (h : KInv K s) : reapedSeq s <+: s.done := by
  rw [h.done_eq]
  exact (List.take_prefix _ _).trans (List.prefix_append _ _)

theorem safety_state (h : KInv K s) (hr : RInv k kc c cc s.ring) :
    s.ring.reaped.map Ent.val = (reapedSeq s).map (expWord K s.ring.consumed s.deps) ∧
    (reapedSeq s).Nodup ∧ (∀ q ∈ reapedSeq s, q < s.ring.consumed.length) ∧
    ∃ rest, (s.ring.reaped.map Ent.val ++ rest).Perm (owed K s) := by
  obtain ⟨hw, hl⟩ := reaped_words h hr
  have hpre := reapedSeq_prefix_done h
  have hnd : s.done.Nodup := (List.nodup_append.mp h.nodup).2.1
  refine ⟨hw, hpre.sublist.nodup hnd, fun q hq => h.done_lt (hpre.sublist.subset hq), ?_⟩
  refine ⟨((s.postedSeq.drop s.ring.reaped.length ++ s.ovf.map Prod.fst) ++ s.pend.map Req.seq).map
    (expWord K s.ring.consumed s.deps), ?_⟩
  rw [hw, ← List.map_append, owed]
  apply List.Perm.map
  have e : reapedSeq s ++ ((s.postedSeq.drop s.ring.reaped.length ++ s.ovf.map Prod.fst) ++ s.pend.map Req.seq) =
      s.done ++ s.pend.map Req.seq := by
    rw [h.done_eq, reapedSeq, ← List.append_assoc, ← List.append_assoc, List.take_append_drop]
  rw [e]
  exact List.perm_append_comm.trans h.seqs

/-- the kernel has nothing pending: nothing published is unconsumed, nothing in flight, nothing overflowed -/
def KQuiet (s : KSt) : Prop := s.ring.sqKHead = s.ring.sqKTail ∧ s.pend = [] ∧ s.ovf = []

theorem complete_state (h : KInv K s) (hr : RInv k kc c cc s.ring) (hq : KQuiet s)
    (hempty : (step .fixed s.ring .reap).2 = .noCqe) :
    s.ring.consumed = s.ring.flushed ∧ (s.ring.reaped.map Ent.val).Perm (owed K s) := by
  obtain ⟨hold, inq, unpub, cinq, hi⟩ := hr
  obtain ⟨hq1, hq2, hq3⟩ := hq
  have hinq : inq = [] := by
    cases hc : inq with
    | nil => rfl
    | cons e rest =>
      have := ((inv_consume1 hi).2 e rest hc).1
      unfold kConsume1 at this
      rw [if_pos hq1] at this
      cases this
  have hcinq : cinq = [] := by
    cases hc : cinq with
    | nil => rfl
    | cons e rest =>
      have := ((inv_reap hi).2 e rest hc).1
      rw [hempty] at this
      cases this
  refine ⟨by rw [hi.flushed_eq, hinq, List.append_nil], ?_⟩
  have hp := h.posted_ok
  rw [hi.posted_eq, hcinq, List.append_nil] at hp
  have hd := h.done_eq
  rw [hq3, List.map_nil, List.append_nil] at hd
  have hs := h.seqs
  rw [hq2, List.map_nil, List.nil_append, hd] at hs
  rw [hp, owed]
  exact hs.map _

theorem link_order_state (h : KInv K s) (i q m : Nat) (hi : (reapedSeq s)[i]? = some q)
    (hd : s.deps[q]? = some (some m)) : ∃ j, j < i ∧ (reapedSeq s)[j]? = some m := by
  have hpre := reapedSeq_prefix_done h
  obtain ⟨t, ht⟩ := hpre
  have hlt := getElem?_lt hi
  have hdone : s.done[i]? = some q := by rw [← ht, List.getElem?_append_left hlt]; exact hi
  obtain ⟨j, hj, hm⟩ := h.order i q m hdone hd
  refine ⟨j, hj, ?_⟩
  rw [← ht, List.getElem?_append_left (by omega)] at hm
  exact hm

end

/-! ### decoding a completion entry; the unlinked case -/

theorem cqeUd_cqeWord (u r : Nat) : cqeUd (cqeWord u r) = u % U64 := by
  unfold cqeUd cqeWord; simp only [U64, W]; omega

theorem cqeRes_cqeWord (u r : Nat) : cqeRes (cqeWord u r) = r % W := by
  unfold cqeRes cqeWord; simp only [U64, W]; omega

theorem range_map_mapIdx {α β : Type} (l : List α) (g : Nat → β) (f : Nat → α → β)
    (hg : ∀ i a, l[i]? = some a → g i = f i a) : (List.range l.length).map g = l.mapIdx f := by
  apply List.ext_getElem?
  intro i
  rw [List.getElem?_map, List.getElem?_mapIdx]
  by_cases hi : i < l.length
  · rw [List.getElem?_range hi]
    have : l[i]? = some l[i] := List.getElem?_eq_getElem hi
    rw [this]
    simp [hg i _ this]
  · have h1 : (List.range l.length)[i]? = none := List.getElem?_eq_none (by simpa using hi)
    have h2 : l[i]? = none := List.getElem?_eq_none (by omega)
    rw [h1, h2]; rfl

/-- without link flags every request's outcome is the direct system call's -/
theorem outcome_nolink (K : Kern) (c : List Ent) (d : List (Option Nat))
    (hd : ∀ q, linkedBehind d q = false) (q : Nat) : outcome K c d q = outcomeOf K q c[q]? false := by
  cases q with
  | zero => rfl
  | succ q => simp only [outcome, hd, Bool.false_and]

theorem tagReqs_adjacent (K : Kern) : ∀ (es : List Ent) (n : Nat) (p : Option Nat) (j : Nat) (r r' : Req),
    (tagReqs K n p es)[j]? = some r → (tagReqs K n p es)[j + 1]? = some r' →
    r'.dep = if K.link r.ent.val then some r.seq else none := by
  intro es
  induction es with
  | nil => intro n p j r r' h0; simp [tagReqs] at h0
  | cons e es ih =>
    intro n p j r r' h0 h1
    cases j with
    | zero =>
      simp only [tagReqs, List.getElem?_cons_zero, Option.some.injEq] at h0
      simp only [tagReqs, List.getElem?_cons_succ] at h1
      subst h0
      cases es with
      | nil => simp [tagReqs] at h1
      | cons e2 es2 =>
        simp only [tagReqs, List.getElem?_cons_zero, Option.some.injEq] at h1
        subst h1
        rfl
    | succ j =>
      simp only [tagReqs, List.getElem?_cons_succ] at h0 h1
      exact ih _ _ j r r' h0 h1

/-- the (user_data, res) pairs the application has read from the completions it reaped, in order -/
def reapedPairs (s : KSt) : List (Nat × Nat) := s.ring.reaped.map fun e => (cqeUd e.val, cqeRes e.val)

/-- for every entry the application filled and flushed, in order: its user_data (u64) and the direct
system call's result (i32 bit pattern), the n-th entry executed as the n-th submission -/
def flushedPairs (K : Kern) (s : KSt) : List (Nat × Nat) :=
  s.ring.flushed.mapIdx fun n e => (K.ud e.val % U64, K.sys n e.val % W)

section
variable {K : Kern} {k kc c cc : Nat} {s : KSt}

theorem owed_pairs_nolink (h : KInv K s) (hnl : ∀ e ∈ s.ring.consumed, K.link e.val = false) :
    (owed K s).map (fun w => (cqeUd w, cqeRes w)) =
      s.ring.consumed.mapIdx fun n e => (K.ud e.val % U64, K.sys n e.val % W) := by
  have hd : ∀ q, linkedBehind s.deps q = false := by
    intro q
    unfold linkedBehind
    cases hq : s.deps[q]? with
    | none => rfl
    | some d =>
      cases d with
      | none => rfl
      | some m =>
        obtain ⟨_, e, he, hl⟩ := h.dep_ok q m hq
        rw [hnl e (List.mem_of_getElem? he)] at hl
        cases hl
  rw [owed, List.map_map]
  apply range_map_mapIdx
  intro i a ha
  simp only [Function.comp, expWord, ha, outcome_nolink K _ _ hd, outcomeOf, cqeUd_cqeWord, cqeRes_cqeWord]
  rfl

theorem pairs_state (h : KInv K s) (hr : RInv k kc c cc s.ring) (hnl : ∀ e ∈ s.ring.filled, K.link e.val = false) :
    (∃ rest, (reapedPairs s ++ rest).Perm (flushedPairs K s)) ∧
    (KQuiet s → (step .fixed s.ring .reap).2 = .noCqe → (reapedPairs s).Perm (flushedPairs K s)) := by
  obtain ⟨hold, inq, unpub, cinq, hi⟩ := id hr
  have hsub : ∀ e ∈ s.ring.consumed, K.link e.val = false := by
    intro e he
    apply hnl
    rw [hi.filled_eq, hi.flushed_eq]
    exact List.mem_append_left _ (List.mem_append_left _ he)
  have hop := owed_pairs_nolink h hsub
  constructor
  · obtain ⟨_, _, _, rest, hperm⟩ := safety_state h hr
    have hm := hperm.map (fun w => (cqeUd w, cqeRes w))
    rw [hop, List.map_append, List.map_map] at hm
    refine ⟨rest.map (fun w => (cqeUd w, cqeRes w)) ++
      inq.mapIdx (fun i e => (K.ud e.val % U64, K.sys (i + s.ring.consumed.length) e.val % W)), ?_⟩
    rw [flushedPairs, hi.flushed_eq, List.mapIdx_append, ← List.append_assoc]
    exact List.Perm.append_right _ hm
  · intro hq hempty
    obtain ⟨hcf, hperm⟩ := complete_state h hr hq hempty
    have hm := hperm.map (fun w => (cqeUd w, cqeRes w))
    rw [hop, List.map_map, hcf] at hm
    exact hm

end

/-! ### below call granularity: the split-reap model -/

/-- the invariant of the split-reap model: the two invariants of the contract model on `s.k`, and the bookkeeping of
the held reference — what the application has read (`readLog`) is what was handed out (`reaped`), minus the entry
whose reference is held and not read yet; that entry is `hold`: it still occupies its slot, with its content -/
structure K2Inv (K : Kern) (k kc c cc : Nat) (s : KSt2) : Prop where
  kinv : KInv K s.k
  ring : ∃ hold, HInv k kc c cc s.k.ring hold ∧
    match s.held with
    | none => s.readLog = s.k.ring.reaped
    | some i => ∃ e, hold = [e] ∧ e.slot = i ∧ s.k.ring.reaped = s.readLog ++ [e]

theorem k2inv_init (K : Kern) (flags k kc c cc : Nat) (hk : k ≤ 30) (hkc : kc ≤ 30) (hc : c < W) (hcc : cc < W) :
    K2Inv K k kc c cc (kinit2 flags k kc c cc) :=
  ⟨kinv_init K flags k kc c cc, [], ⟨_, _, _, inv_init flags k kc c cc hk hkc hc hcc⟩, rfl⟩

section
variable {K : Kern} {k kc c cc : Nat} {s : KSt2}

theorem kReapBegin_inv (h : K2Inv K k kc c cc s) : K2Inv K k kc c cc (kReapBegin .fixed s).1 := by
  obtain ⟨hk, hold, ⟨inq, unpub, cinq, hi⟩, hh⟩ := h
  unfold kReapBegin
  cases hheld : s.held with
  | some i => exact ⟨hk, hold, ⟨_, _, _, hi⟩, hh⟩
  | none =>
    rw [hheld] at hh
    simp only at hh ⊢
    obtain ⟨h1, h2⟩ := inv_reap hi
    have fr := reap_frame s.k.ring
    cases hc : cinq with
    | nil =>
      obtain ⟨_, a2, _, a4⟩ := h1 hc
      rw [step_reap, reap_fixed_nil hi hc] at a2 a4 fr
      rw [reap_fixed_nil hi hc]
      simp only at a2 a4 fr ⊢
      exact ⟨hk.ring_frame _ fr.1 fr.2, [], ⟨_, _, _, a4⟩, by simp only; rw [a2]; exact hh⟩
    | cons e rest =>
      obtain ⟨_, a2, _, a4⟩ := h2 e rest hc
      obtain ⟨hr, hm⟩ := reap_fixed_cons hi e rest hc
      rw [step_reap, hr] at a2 a4 fr
      rw [hr]
      simp only at a2 a4 fr ⊢
      refine ⟨hk.ring_frame _ fr.1 fr.2, [e], ⟨_, _, _, a4⟩, ?_⟩
      simp only
      refine ⟨e, rfl, ?_, ?_⟩
      · rfl
      · rw [a2, hh]

theorem kReapRead_inv (h : K2Inv K k kc c cc s) : K2Inv K k kc c cc (kReapRead s).1 := by
  obtain ⟨hk, hold, ⟨inq, unpub, cinq, hi⟩, hh⟩ := h
  unfold kReapRead
  cases hheld : s.held with
  | none => exact ⟨hk, hold, ⟨_, _, _, hi⟩, hh⟩
  | some i =>
    rw [hheld] at hh
    obtain ⟨e, he, hs, hr⟩ := hh
    subst he
    have hm := hi.held_content e (by simp)
    simp only
    refine ⟨hk, [e], ⟨_, _, _, hi⟩, ?_⟩
    simp only
    rw [hr, ← hs, hm]

theorem k2inv_kstep (h : K2Inv K k kc c cc s) (op : KOp) (hop : op ≠ .reap) :
    K2Inv K k kc c cc { s with k := (kstep K .fixed s.k op).1 } := by
  obtain ⟨hk, hold, hhi, hh⟩ := h
  obtain ⟨a, b⟩ := kstep_hinv (K := K) hhi op hop
  refine ⟨kstep_kinv hk op, hold, a, ?_⟩
  cases hheld : s.held with
  | none => rw [hheld] at hh; simp only; rw [b]; exact hh
  | some i => rw [hheld] at hh; simp only; rw [b]; exact hh

theorem kstep2_inv (h : K2Inv K k kc c cc s) (op : KOp2) : K2Inv K k kc c cc (kstep2 K .fixed s op).1 := by
  cases op with
  | reapBegin => exact kReapBegin_inv h
  | reapRead => exact kReapRead_inv h
  | k op =>
    simp only [kstep2]
    split
    · exact h
    · cases op with
      | reap =>
        simp only
        have hb1 := kReapBegin_inv h
        split
        · exact kReapRead_inv hb1
        · exact hb1
      | get v => exact k2inv_kstep h _ (by simp)
      | flush => exact k2inv_kstep h _ (by simp)
      | wake => exact k2inv_kstep h _ (by simp)
      | consume n => exact k2inv_kstep h _ (by simp)
      | complete i => exact k2inv_kstep h _ (by simp)
      | flushOvf n => exact k2inv_kstep h _ (by simp)
      | idle => exact k2inv_kstep h _ (by simp)

theorem krun2_inv (ops : List KOp2) : ∀ {s : KSt2}, K2Inv K k kc c cc s → K2Inv K k kc c cc (krun2 K .fixed s ops).1 := by
  induction ops with
  | nil => intro s h; exact h
  | cons op ops ih => intro s h; exact ih (kstep2_inv h op)

/-- what the application has read is a prefix of what was handed out — all of it when no reference is held -/
theorem K2Inv.readLog_prefix (h : K2Inv K k kc c cc s) :
    s.readLog <+: s.k.ring.reaped ∧ (s.held = none → s.readLog = s.k.ring.reaped) ∧ RInv k kc c cc s.k.ring := by
  obtain ⟨hk, hold, hhi, hh⟩ := h
  refine ⟨?_, ?_, ⟨hold, hhi⟩⟩
  · cases hheld : s.held with
    | none => rw [hheld] at hh; rw [hh]; exact List.prefix_refl _
    | some i => rw [hheld] at hh; obtain ⟨e, _, _, hr⟩ := hh; rw [hr]; exact List.prefix_append _ _
  · intro hn; rw [hn] at hh; exact hh

end

end TinyVerif.Ring
