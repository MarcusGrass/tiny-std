/- the instance invariant is inductive (one lemma per event, by `inv_event`); lifting to the unbounded family of
instances and to event lists -/
import TinyVerif.Proofs.ThreadInv
namespace TinyVerif.Thread

theorem inv_hAllocTsm (c : Cfg) (hc : c.Good) (x x' : Inst) (h : stepI c x .hAllocTsm = some x') (hinv : IInv x) :
    IInv x' := by
  inv_event

theorem inv_hBox (c : Cfg) (hc : c.Good) (x x' : Inst) (h : stepI c x .hBox = some x') (hinv : IInv x) :
    IInv x' := by
  inv_event

theorem inv_hMmap (c : Cfg) (hc : c.Good) (x x' : Inst) (ok : Bool) (h : stepI c x (.hMmap ok) = some x') (hinv : IInv x) :
    IInv x' := by
  inv_event

theorem inv_hAllocTls (c : Cfg) (hc : c.Good) (x x' : Inst) (h : stepI c x .hAllocTls = some x') (hinv : IInv x) :
    IInv x' := by
  inv_event

theorem inv_hClone (c : Cfg) (hc : c.Good) (x x' : Inst) (ok : Bool) (h : stepI c x (.hClone ok) = some x') (hinv : IInv x) :
    IInv x' := by
  inv_event

theorem inv_hUndoTls (c : Cfg) (hc : c.Good) (x x' : Inst) (h : stepI c x .hUndoTls = some x') (hinv : IInv x) :
    IInv x' := by
  inv_event

theorem inv_hUndoStack (c : Cfg) (hc : c.Good) (x x' : Inst) (h : stepI c x .hUndoStack = some x') (hinv : IInv x) :
    IInv x' := by
  inv_event

theorem inv_hUndoBox (c : Cfg) (hc : c.Good) (x x' : Inst) (h : stepI c x .hUndoBox = some x') (hinv : IInv x) :
    IInv x' := by
  inv_event

theorem inv_hUndoTsm (c : Cfg) (hc : c.Good) (x x' : Inst) (h : stepI c x .hUndoTsm = some x') (hinv : IInv x) :
    IInv x' := by
  inv_event

theorem inv_hJoin (c : Cfg) (hc : c.Good) (x x' : Inst) (h : stepI c x .hJoin = some x') (hinv : IInv x) :
    IInv x' := by
  inv_event

theorem inv_hDrop (c : Cfg) (hc : c.Good) (x x' : Inst) (h : stepI c x .hDrop = some x') (hinv : IInv x) :
    IInv x' := by
  inv_event

theorem inv_hLoad (c : Cfg) (hc : c.Good) (x x' : Inst) (v : Nat) (h : stepI c x (.hLoad v) = some x') (hinv : IInv x) :
    IInv x' := by
  inv_event

theorem inv_hFwait (c : Cfg) (hc : c.Good) (x x' : Inst) (park : Bool) (h : stepI c x (.hFwait park) = some x') (hinv : IInv x) :
    IInv x' := by
  inv_event

theorem inv_hEintr (c : Cfg) (hc : c.Good) (x x' : Inst) (h : stepI c x .hEintr = some x') (hinv : IInv x) :
    IInv x' := by
  inv_event

theorem inv_hSpur (c : Cfg) (hc : c.Good) (x x' : Inst) (h : stepI c x .hSpur = some x') (hinv : IInv x) :
    IInv x' := by
  inv_event

theorem inv_hReadSlot (c : Cfg) (hc : c.Good) (x x' : Inst) (h : stepI c x .hReadSlot = some x') (hinv : IInv x) :
    IInv x' := by
  inv_event

theorem inv_hFreeTsm (c : Cfg) (hc : c.Good) (x x' : Inst) (h : stepI c x .hFreeTsm = some x') (hinv : IInv x) :
    IInv x' := by
  inv_event

theorem inv_hCas (c : Cfg) (hc : c.Good) (x x' : Inst) (ok : Bool) (h : stepI c x (.hCas ok) = some x') (hinv : IInv x) :
    IInv x' := by
  inv_event

theorem inv_tRet (c : Cfg) (hc : c.Good) (x x' : Inst) (v : Nat) (h : stepI c x (.tRet v) = some x') (hinv : IInv x) :
    IInv x' := by
  inv_event

theorem inv_tPanic (c : Cfg) (hc : c.Good) (x x' : Inst) (h : stepI c x .tPanic = some x') (hinv : IInv x) :
    IInv x' := by
  inv_event

theorem inv_tWrite (c : Cfg) (hc : c.Good) (x x' : Inst) (h : stepI c x .tWrite = some x') (hinv : IInv x) :
    IInv x' := by
  inv_event

theorem inv_tPanicRead (c : Cfg) (hc : c.Good) (x x' : Inst) (h : stepI c x .tPanicRead = some x') (hinv : IInv x) :
    IInv x' := by
  inv_event

theorem inv_tCas (c : Cfg) (hc : c.Good) (x x' : Inst) (ok : Bool) (h : stepI c x (.tCas ok) = some x') (hinv : IInv x) :
    IInv x' := by
  inv_event

theorem inv_tSetTid (c : Cfg) (hc : c.Good) (x x' : Inst) (h : stepI c x .tSetTid = some x') (hinv : IInv x) :
    IInv x' := by
  inv_event

theorem inv_tFreeTsm (c : Cfg) (hc : c.Good) (x x' : Inst) (h : stepI c x .tFreeTsm = some x') (hinv : IInv x) :
    IInv x' := by
  inv_event

theorem inv_tFreeTls (c : Cfg) (hc : c.Good) (x x' : Inst) (h : stepI c x .tFreeTls = some x') (hinv : IInv x) :
    IInv x' := by
  inv_event

theorem inv_tFreeBox (c : Cfg) (hc : c.Good) (x x' : Inst) (h : stepI c x .tFreeBox = some x') (hinv : IInv x) :
    IInv x' := by
  inv_event

theorem inv_tMunmap (c : Cfg) (hc : c.Good) (x x' : Inst) (h : stepI c x .tMunmap = some x') (hinv : IInv x) :
    IInv x' := by
  inv_event

theorem inv_tExit (c : Cfg) (hc : c.Good) (x x' : Inst) (h : stepI c x .tExit = some x') (hinv : IInv x) :
    IInv x' := by
  inv_event

theorem inv_kExit (c : Cfg) (hc : c.Good) (x x' : Inst) (h : stepI c x .kExit = some x') (hinv : IInv x) :
    IInv x' := by
  inv_event

theorem inv_tDropVal (c : Cfg) (hc : c.Good) (x x' : Inst) (h : stepI c x .tDropVal = some x') (hinv : IInv x) :
    IInv x' := by
  inv_event

theorem inv_tDropPanic (c : Cfg) (hc : c.Good) (x x' : Inst) (h : stepI c x .tDropPanic = some x') (hinv : IInv x) :
    IInv x' := by
  inv_event

theorem stepI_inv (c : Cfg) (hc : c.Good) (x x' : Inst) (e : Ev) (h : stepI c x e = some x') (hinv : IInv x) : IInv x' := by
  cases e with
  | hAllocTsm => exact inv_hAllocTsm c hc x x' h hinv
  | hBox => exact inv_hBox c hc x x' h hinv
  | hMmap a => exact inv_hMmap c hc x x' a h hinv
  | hAllocTls => exact inv_hAllocTls c hc x x' h hinv
  | hClone a => exact inv_hClone c hc x x' a h hinv
  | hUndoTls => exact inv_hUndoTls c hc x x' h hinv
  | hUndoStack => exact inv_hUndoStack c hc x x' h hinv
  | hUndoBox => exact inv_hUndoBox c hc x x' h hinv
  | hUndoTsm => exact inv_hUndoTsm c hc x x' h hinv
  | hJoin => exact inv_hJoin c hc x x' h hinv
  | hDrop => exact inv_hDrop c hc x x' h hinv
  | hLoad a => exact inv_hLoad c hc x x' a h hinv
  | hFwait a => exact inv_hFwait c hc x x' a h hinv
  | hEintr => exact inv_hEintr c hc x x' h hinv
  | hSpur => exact inv_hSpur c hc x x' h hinv
  | hReadSlot => exact inv_hReadSlot c hc x x' h hinv
  | hFreeTsm => exact inv_hFreeTsm c hc x x' h hinv
  | hCas a => exact inv_hCas c hc x x' a h hinv
  | tRet a => exact inv_tRet c hc x x' a h hinv
  | tPanic => exact inv_tPanic c hc x x' h hinv
  | tWrite => exact inv_tWrite c hc x x' h hinv
  | tPanicRead => exact inv_tPanicRead c hc x x' h hinv
  | tCas a => exact inv_tCas c hc x x' a h hinv
  | tSetTid => exact inv_tSetTid c hc x x' h hinv
  | tFreeTsm => exact inv_tFreeTsm c hc x x' h hinv
  | tFreeTls => exact inv_tFreeTls c hc x x' h hinv
  | tFreeBox => exact inv_tFreeBox c hc x x' h hinv
  | tMunmap => exact inv_tMunmap c hc x x' h hinv
  | tExit => exact inv_tExit c hc x x' h hinv
  | kExit => exact inv_kExit c hc x x' h hinv
  | tDropVal => exact inv_tDropVal c hc x x' h hinv
  | tDropPanic => exact inv_tDropPanic c hc x x' h hinv

/-- every instance satisfies the invariant -/
def SInv (s : St) : Prop := ∀ i, IInv (s.inst i)

theorem init_sinv : SInv St.init := fun _ => init_inv

theorem step_other (c : Cfg) (s s' : St) (i : Nat) (e : Ev) (h : step c s i e = some s') (j : Nat) (hj : j ≠ i) :
    s'.inst j = s.inst j := by
  unfold step at h
  split at h
  · cases h; simp [setInst, hj]
  · simp at h

theorem step_self (c : Cfg) (s s' : St) (i : Nat) (e : Ev) (h : step c s i e = some s') :
    stepI c (s.inst i) e = some (s'.inst i) := by
  unfold step at h
  split at h
  · rename_i x hx; cases h; simp [setInst, hx]
  · simp at h

theorem step_sinv (c : Cfg) (hc : c.Good) (s s' : St) (i : Nat) (e : Ev) (h : step c s i e = some s') (hinv : SInv s) :
    SInv s' := by
  intro j
  by_cases hj : j = i
  · subst hj; exact stepI_inv c hc _ _ e (step_self c s s' j e h) (hinv j)
  · rw [step_other c s s' i e h j hj]; exact hinv j

theorem run_sinv (c : Cfg) (hc : c.Good) (s s' : St) (evs : List (Nat × Ev)) (h : run c s evs = some s')
    (hinv : SInv s) : SInv s' := by
  induction evs generalizing s with
  | nil => simp [run] at h; subst h; exact hinv
  | cons x rest ih =>
    obtain ⟨i, e⟩ := x
    simp only [run] at h
    split at h
    · rename_i s1 h1
      exact ih s1 h (step_sinv c hc s s1 i e h1 hinv)
    · simp at h

end TinyVerif.Thread
