/-
Helper lemmas for C09 (Model/Wrap.lean): linear characterisations of the `as` casts, so that the
property proofs can hand everything to `omega`, and the retry-loop unrolling lemma.
-/
import TinyVerif.Model.Wrap
import TinyVerif.Spec.C09
namespace TinyVerif.Wrap

/-- `r as i64` for a 64-bit register, as a linear case split -/
theorem castTo_i64_spec (r : Nat) (h : r < TWO64) :
    ((r : Int) < 9223372036854775808 ∧ castTo .i64 r = (r : Int)) ∨
    (9223372036854775808 ≤ (r : Int) ∧ castTo .i64 r = (r : Int) - 18446744073709551616) := by
  simp only [castTo, TWO64, TWO63] at *
  split <;> omega

/-- `r as i32`: the low 32 bits, sign-interpreted -/
theorem castTo_i32_spec (r : Nat) :
    ((r % 4294967296 : Nat) < 2147483648 ∧ castTo .i32 r = ((r % 4294967296 : Nat) : Int)) ∨
    (2147483648 ≤ (r % 4294967296 : Nat) ∧ castTo .i32 r = ((r % 4294967296 : Nat) : Int) - 4294967296) := by
  simp only [castTo, TWO32, TWO31] at *
  split <;> omega

theorem castTo_u32_spec (r : Nat) : castTo .u32 r = ((r % 4294967296 : Nat) : Int) := by
  simp only [castTo, TWO32]

theorem castTo_u64_spec (r : Nat) (h : r < TWO64) : castTo .u64 r = (r : Int) := by
  simp only [castTo, TWO64] at *
  omega

/-- `is_syscall_error` under the standard idioms is the threshold test `r ≥ 2^64 − 4095` -/
theorem isErr_std (r : Nat) : isSyscallError stdCfg r = decide (TWO64 - 4095 ≤ r) := rfl

/-- … and so is the error range of the statement; there `r as i64` is `r − 2^64` -/
theorem inErrRange_iff (r : Nat) (h : r < TWO64) : InErrRange r ↔ TWO64 - 4095 ≤ r := by
  have h64 := castTo_i64_spec r h
  simp only [InErrRange, TWO64] at *
  omega

theorem castTo_i64_err (r : Nat) (h : r < TWO64) (he : TWO64 - 4095 ≤ r) : -(castTo .i64 r) = (TWO64 : Int) - (r : Int) := by
  have h64 := castTo_i64_spec r h
  simp only [TWO64] at *
  omega

/-- `0 - res as i32` on a register in the error range is the positive errno -/
theorem evalCode_negI32 (r : Nat) (h : r < TWO64) (he : TWO64 - 4095 ≤ r) :
    evalCode .negI32 r = .err ((TWO64 : Int) - (r : Int)) := by
  have h32 := castTo_i32_spec r
  simp only [evalCode, TWO64] at *
  rw [if_neg (by omega)]
  exact congrArg Outcome.err (by omega)

theorem retryLoop_skip (c : Cfg) (t : Ty) (v : Int) (k : Skel) (kr : Nat → Nat) :
    ∀ (n fuel i : Nat), (∀ j, j < n → castTo t (kr (i + j)) = v) →
      retryLoop c t v k kr (fuel + n) i = retryLoop c t v k kr fuel (i + n) := by
  intro n
  induction n with
  | zero => intro fuel i _; rfl
  | succ n ih =>
    intro fuel i hp
    have h0 : castTo t (kr i) = v := by simpa using hp 0 (Nat.succ_pos n)
    show retryLoop c t v k kr ((fuel + n) + 1) i = _
    rw [retryLoop, if_pos h0, ih fuel (i + 1) (fun j hj => by
      have := hp (j + 1) (Nat.succ_lt_succ hj)
      rwa [show i + (j + 1) = i + 1 + j by omega] at this)]
    congr 1
    omega

/-- the loop issues exactly the calls whose result matched, plus the decisive one -/
theorem retry_exact (c : Cfg) (t : Ty) (v : Int) (k : Skel) (kr : Nat → Nat) (n : Nat) (hn : n < FUEL)
    (hp : ∀ i, i < n → castTo t (kr i) = v) (hl : castTo t (kr n) ≠ v) :
    retryLoop c t v k kr FUEL 0 = (step c k (kr n), n + 1) := by
  obtain ⟨m, hm⟩ : ∃ m, FUEL = (m + 1) + n := ⟨FUEL - n - 1, by omega⟩
  rw [hm, retryLoop_skip c t v k kr n (m + 1) 0 (fun j hj => by simpa using hp j hj)]
  rw [retryLoop, if_neg (by simpa using hl)]
  simp

theorem step_bail (p : Proj) (r : Nat) (h : r < TWO64) : step stdCfg (.bail p) r = decodeStd p r := by
  simp only [step, isErr_std, decodeStd, decide_eq_true_eq]
  split
  · next he => exact evalCode_negI32 r h he
  · rfl

theorem step_coerce (r : Nat) (h : r < TWO64) : step stdCfg .coerceFd r = decodeStd (.cast .i32) r :=
  step_bail (.cast .i32) r h

theorem retry_sound (t : Ty) (v : Int) (k : Skel) (p : Proj)
    (htv : (t = .i64 ∧ v = -16) ∨ (t = .u64 ∧ v = 18446744073709551600))
    (hk : ∀ r, r < TWO64 → step stdCfg k r = decodeStd p r)
    (kr : Nat → Nat) (n : Nat) (hb : ∀ i, kr i < TWO64) (hn : n < FUEL)
    (hp : ∀ i, i < n → kr i = NEG_EBUSY) (hl : kr n ≠ NEG_EBUSY) :
    retryLoop stdCfg t v k kr FUEL 0 = (decodeStd p (kr n), n + 1) := by
  have key : ∀ r, r < TWO64 → (castTo t r = v ↔ r = NEG_EBUSY) := by
    intro r hr
    rcases htv with ⟨rfl, rfl⟩ | ⟨rfl, rfl⟩
    · have h64 := castTo_i64_spec r hr
      simp only [TWO64, NEG_EBUSY] at *
      generalize castTo .i64 r = b at *; omega
    · rw [castTo_u64_spec r hr]; simp only [NEG_EBUSY]; omega
  rw [retry_exact stdCfg t v k kr n hn (fun i hi => (key _ (hb i)).mpr (hp i hi))
        (fun h => hl ((key _ (hb n)).mp h)), hk _ (hb n)]

end TinyVerif.Wrap
