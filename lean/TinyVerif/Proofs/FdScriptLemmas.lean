/- Helper lemmas for C12: the symbolic table of `chkAux` is the table of `run`, on every path. -/
import TinyVerif.Model.FdScript
namespace TinyVerif.FdScript

/-- nothing released twice, nothing foreign released, no slot open twice -/
def St.Clean (s : St) : Prop := s.dbl = [] ∧ s.foreign = [] ∧ s.opn.Nodup

/-- every enclosing loop body checks from the table recorded at its entry -/
def StackOK : List Script → List (List Var) → Prop
  | [], [] => True
  | b :: bs, h :: hs => chkAux b h (h :: hs) = true ∧ StackOK bs hs
  | [], _ :: _ => False
  | _ :: _, [] => False

/-- what `chk` guarantees of a finished (or interrupted) run -/
def Good (f : Final) : Prop :=
  f.cfg.st.Clean ∧ ∀ ok h, f.out = .ret ok h → ∀ v, v ∈ f.cfg.st.opn ↔ v ∈ h

theorem subset_iff (a b : List Var) : subset a b = true ↔ ∀ v, v ∈ a → v ∈ b := by
  simp [subset, List.all_eq_true]

theorem nodupB_iff (l : List Var) : nodupB l = true ↔ l.Nodup := by
  induction l with
  | nil => simp [nodupB]
  | cons a t ih => simp [nodupB, ih, List.nodup_cons]

theorem open1_clean (s : St) (v : Var) (h : s.Clean) (hv : v ∉ s.opn) : (s.open1 v).Clean := by
  obtain ⟨h1, h2, h3⟩ := h
  exact ⟨h1, h2, List.nodup_cons.mpr ⟨hv, h3⟩⟩

theorem close1_of_mem (s : St) (v : Var) (hv : v ∈ s.opn) :
    s.close1 v = { s with opn := s.opn.erase v, closed := v :: s.closed } := by
  simp [St.close1, hv]

theorem close1_clean (s : St) (v : Var) (h : s.Clean) (hv : v ∈ s.opn) :
    (s.close1 v).Clean ∧ (s.close1 v).opn = s.opn.erase v := by
  obtain ⟨h1, h2, h3⟩ := h
  rw [close1_of_mem s v hv]
  exact ⟨⟨h1, h2, h3.erase v⟩, rfl⟩

theorem opensAll_sound : ∀ (vs : List Var) (s : St) (o1 : List Var), s.Clean → opensAll s.opn vs = some o1 →
    (vs.foldl St.open1 s).Clean ∧ (vs.foldl St.open1 s).opn = o1
  | [], s, o1, hc, h => by
    simp only [opensAll, Option.some.injEq] at h
    subst h
    exact ⟨hc, rfl⟩
  | v :: r, s, o1, hc, h => by
    simp only [opensAll] at h
    split at h
    · cases h
    · rename_i hv
      simp at hv
      exact opensAll_sound r (s.open1 v) o1 (open1_clean s v hc hv) h

theorem effOk_sound (s : St) (eff : Eff) (o1 : List Var) (hc : s.Clean)
    (h : effOk s.opn eff = some o1) : (s.applyOk eff).Clean ∧ (s.applyOk eff).opn = o1 := by
  cases eff with
  | none => simp [effOk] at h; subst h; exact ⟨hc, rfl⟩
  | opens v | maps v =>
    simp only [effOk] at h
    split at h
    · cases h
    · rename_i hv
      simp at hv h
      subst h
      exact ⟨open1_clean s v hc hv, rfl⟩
  | opens2 v w =>
    simp only [effOk] at h
    split at h
    · cases h
    · rename_i hv
      simp at hv h
      subst h
      obtain ⟨⟨hv1, hw⟩, hne⟩ := hv
      have : w ∉ (s.open1 v).opn := by
        simp only [St.open1, List.mem_cons, not_or]
        exact ⟨fun e => hne e.symm, hw⟩
      exact ⟨open1_clean _ w (open1_clean s v hc hv1) this, rfl⟩
  | opensL vs => exact opensAll_sound vs s o1 hc h
  | closes v | unmaps v =>
    simp only [effOk] at h
    split at h
    · rename_i hv
      simp at hv h
      subst h
      exact close1_clean s v hc hv
    · cases h

theorem effErr_sound (s : St) (eff : Eff) (o1 : List Var) (hc : s.Clean)
    (h : effErr s.opn eff = some o1) : (s.applyErr eff).Clean ∧ (s.applyErr eff).opn = o1 := by
  cases eff with
  | closes v => exact effOk_sound s (.closes v) o1 hc h
  | _ => simp [effErr] at h; subst h; exact ⟨hc, rfl⟩

/-- The simulation: from a clean table that `chkAux` accepts, with every enclosing loop accepted from
    its entry table, every run — whatever the fuel, the answers, the step outcomes, the side of the fork —
    stays clean and, if it returns, returns with exactly the handed descriptors open. -/
theorem run_good : ∀ (n : Nat) (s : Script) (c : Cfg) (hs : List (List Var)),
    c.st.Clean → chkAux s c.st.opn hs = true → StackOK c.stack hs → Good (run n s c) := by
  intro n
  induction n with
  | zero =>
    intro s c hs hc _ _
    exact ⟨hc, by intro ok h e; cases e⟩
  | succ n ih =>
    intro s c hs hc hk hst
    cases s with
    | ret ok h =>
      simp only [chkAux, Bool.and_eq_true, subset_iff] at hk
      refine ⟨hc, ?_⟩
      intro ok' h' e v
      simp only [run] at e
      cases e
      exact ⟨hk.1 v, hk.2 v⟩
    | exits | execs => exact ⟨hc, by intro ok h e; simp [run] at e⟩
    | sys name eff ok err =>
      simp only [chkAux] at hk
      split at hk
      · rename_i o1 o2 h1 h2
        simp only [Bool.and_eq_true] at hk
        have s1 := effOk_sound c.st eff o1 hc h1
        have s2 := effErr_sound c.st eff o2 hc h2
        simp only [run]
        split
        · exact ⟨hc, by intro ok h e; cases e⟩
        · apply ih _ _ hs
          · exact s1.1
          · simp only [s1.2]; exact hk.1
          · exact hst
        · apply ih _ _ hs
          · exact s2.1
          · simp only [s2.2]; exact hk.2
          · exact hst
      · cases hk
    | ifVal v t f | ifErr v t f =>
      simp only [chkAux, Bool.and_eq_true] at hk
      simp only [run]
      split
      · split
        · exact ih _ _ hs hc hk.1 hst
        · exact ih _ _ hs hc hk.2 hst
      · exact ih _ _ hs hc hk.2 hst
    | step name y no =>
      simp only [chkAux, Bool.and_eq_true] at hk
      simp only [run]
      split
      · exact ⟨hc, by intro ok h e; cases e⟩
      · exact ih _ _ hs hc hk.1 hst
      · exact ih _ _ hs hc hk.2 hst
    | loop body =>
      simp only [chkAux] at hk
      simp only [run]
      exact ih _ _ (c.st.opn :: hs) hc hk ⟨hk, hst⟩
    | again =>
      simp only [run]
      cases hcs : c.stack with
      | nil => exact ⟨hc, by intro ok h e; cases e⟩
      | cons b bs =>
        cases hs with
        | nil => simp [chkAux] at hk
        | cons h0 hs' =>
          simp only [chkAux, beq_iff_eq] at hk
          rw [hcs] at hst
          simp only [StackOK] at hst
          apply ih _ _ (h0 :: hs') hc
          · rw [hk]; exact hst.1
          · rw [hcs]; exact hst
    | exit k =>
      simp only [run]
      cases hcs : c.stack with
      | nil => exact ⟨hc, by intro ok h e; cases e⟩
      | cons b bs =>
        cases hs with
        | nil => simp [chkAux] at hk
        | cons h0 hs' =>
          simp only [chkAux] at hk
          rw [hcs] at hst
          simp only [StackOK] at hst
          exact ih _ _ hs' hc hk hst.2
    | fork p ch e =>
      simp only [chkAux, Bool.and_eq_true] at hk
      simp only [run]
      split
      · exact ⟨hc, by intro ok h e; cases e⟩
      · exact ih _ _ hs hc hk.2 hst
      · split
        · exact ih _ _ hs hc hk.1.1 hst
        · exact ih _ _ hs hc hk.1.2 hst

theorem cnt_le (t : List Nat) (n : Nat) :
    (t.filter (fun x => decide (n + 1 ≤ x))).length ≤ (t.filter (fun x => decide (n ≤ x))).length := by
  rw [← List.countP_eq_length_filter, ← List.countP_eq_length_filter]
  exact List.countP_mono_left fun x _ h => by simp at h ⊢; omega

theorem cnt_lt (t : List Nat) (n : Nat) (h : n ∈ t) :
    (t.filter (fun x => decide (n + 1 ≤ x))).length < (t.filter (fun x => decide (n ≤ x))).length := by
  induction t with
  | nil => cases h
  | cons a r ih =>
    simp only [List.filter_cons]
    rcases List.mem_cons.1 h with rfl | hr
    · have := cnt_le r n
      simp [show ¬ n + 1 ≤ n by omega]; omega
    · have := ih hr
      by_cases h1 : n + 1 ≤ a <;> by_cases h2 : n ≤ a <;> simp [h1, h2] <;> omega

/-- the search from `n` ends on a free number when its fuel covers the entries `≥ n`: every occupied candidate it
passes is one of them, so their count drops with each round (`cnt_lt`) -/
theorem lfGo_not_mem (t : List Nat) : ∀ (f n : Nat),
    (t.filter (fun x => decide (n ≤ x))).length ≤ f → lfGo t f n ∉ t := by
  intro f
  induction f with
  | zero =>
    intro n h hm
    simp only [lfGo] at hm
    have : n ∈ t.filter (fun x => decide (n ≤ x)) := by simp [hm]
    have h0 : t.filter (fun x => decide (n ≤ x)) = [] := List.eq_nil_of_length_eq_zero (by omega)
    rw [h0] at this
    cases this
  | succ f ih =>
    intro n h
    simp only [lfGo]
    by_cases hc : t.contains n = true
    · simp only [hc, if_true]
      apply ih
      have := cnt_lt t n (by simpa using hc)
      omega
    · simp only [hc]
      simpa using hc

/-- the number handed out is free -/
theorem lowestFree_not_mem (t : List Nat) : lowestFree t ∉ t := by
  apply lfGo_not_mem
  exact List.length_filter_le _ _

theorem lfGo_least (t : List Nat) : ∀ (f n m : Nat), n ≤ m → m < lfGo t f n → m ∈ t := by
  intro f
  induction f with
  | zero => intro n m h1 h2; simp only [lfGo] at h2; omega
  | succ f ih =>
    intro n m h1 h2
    simp only [lfGo] at h2
    by_cases hc : t.contains n = true
    · simp only [hc, if_true] at h2
      by_cases hmn : m = n
      · subst hmn; simpa using hc
      · exact ih (n + 1) m (by omega) h2
    · simp only [hc] at h2
      exfalso
      simp at h2
      omega

theorem map_fst_unbind (b : List Binding) (v : Var) :
    (unbind b v).map Prod.fst = (b.map Prod.fst).erase v := by
  induction b with
  | nil => simp [unbind]
  | cons e r ih =>
    obtain ⟨w, m⟩ := e
    by_cases h : w = v
    · subst h; simp [unbind]
    · simp [unbind, h, ih]

theorem lookupB_none (b : List Binding) (v : Var) (h : v ∉ b.map Prod.fst) : lookupB b v = none := by
  induction b with
  | nil => simp [lookupB]
  | cons e r ih =>
    obtain ⟨w, m⟩ := e
    simp only [List.map_cons, List.mem_cons, not_or] at h
    simp only [lookupB]
    rw [if_neg (fun e => h.1 e.symm)]
    exact ih h.2

theorem lookupB_mem (b : List Binding) (v : Var) (h : v ∈ b.map Prod.fst) : ∃ m, lookupB b v = some m := by
  induction b with
  | nil => cases h
  | cons e r ih =>
    obtain ⟨w, m⟩ := e
    by_cases hw : w = v
    · exact ⟨m, by simp [lookupB, hw]⟩
    · simp only [List.map_cons, List.mem_cons] at h
      cases h with
      | inl h => exact absurd h.symm hw
      | inr h =>
        obtain ⟨m', hm⟩ := ih h
        exact ⟨m', by simp [lookupB, hw, hm]⟩

theorem lookupB_num_mem (b : List Binding) (v : Var) (n : Nat) (h : lookupB b v = some (some n)) : n ∈ numsOf b := by
  induction b with
  | nil => simp [lookupB] at h
  | cons e r ih =>
    obtain ⟨w, m⟩ := e
    simp only [lookupB] at h
    by_cases hw : w = v
    · simp only [hw, if_true, Option.some.injEq] at h
      subst h
      simp [numsOf]
    · simp only [hw, if_false] at h
      cases m with
      | none => simp only [numsOf]; exact ih h
      | some k => simp only [numsOf, List.mem_cons]; exact Or.inr (ih h)

theorem numsOf_unbind_some (T : List Nat) (b : List Binding) (v : Var) (n : Nat)
    (hn : (numsOf b ++ T).Nodup) (h : lookupB b v = some (some n)) :
    numsOf (unbind b v) ++ T = (numsOf b ++ T).erase n := by
  induction b with
  | nil => simp [lookupB] at h
  | cons e r ih =>
    obtain ⟨w, m⟩ := e
    simp only [lookupB] at h
    by_cases hw : w = v
    · simp only [hw, if_true, Option.some.injEq] at h
      subst h
      simp [unbind, hw, numsOf]
    · simp only [hw, if_false] at h
      cases m with
      | none =>
        simp only [numsOf] at hn ⊢
        simp only [unbind, hw, if_false, numsOf]
        exact ih hn h
      | some k =>
        simp only [numsOf, List.cons_append, List.nodup_cons] at hn
        have hk : k ≠ n := by
          intro e
          subst e
          exact hn.1 (List.mem_append_left _ (lookupB_num_mem r v k h))
        simp only [unbind, hw, if_false, numsOf, List.cons_append]
        rw [List.erase_cons_tail (by simpa using hk)]
        rw [ih hn.2 h]

theorem numsOf_unbind_none (b : List Binding) (v : Var) (h : lookupB b v = some none) :
    numsOf (unbind b v) = numsOf b := by
  induction b with
  | nil => simp [lookupB] at h
  | cons e r ih =>
    obtain ⟨w, m⟩ := e
    simp only [lookupB] at h
    by_cases hw : w = v
    · simp only [hw, if_true, Option.some.injEq] at h
      subst h
      simp [unbind, hw, numsOf]
    · simp only [hw, if_false] at h
      cases m with
      | none => simp only [unbind, hw, if_false, numsOf]; exact ih h
      | some k => simp only [unbind, hw, if_false, numsOf]; rw [ih h]

/-- the kernel table mirrors the operation's table: the same slots in the same order; the numbers open are
    those bound to the slots followed by the foreign ones `T`, unchanged; no number twice -/
def KInv (T : List Nat) (st : St) (k : KTab) : Prop :=
  k.bind.map Prod.fst = st.opn ∧ k.tab = numsOf k.bind ++ T ∧ k.tab.Nodup

theorem kinv_open1 (T : List Nat) (st : St) (k : KTab) (v : Var) (h : KInv T st k) :
    KInv T (st.open1 v) (k.open1 v) := by
  obtain ⟨h1, h2, h3⟩ := h
  refine ⟨by simp [KTab.open1, St.open1, h1], by simp [KTab.open1, numsOf, h2], ?_⟩
  simp only [KTab.open1, List.nodup_cons]
  exact ⟨lowestFree_not_mem _, h3⟩

theorem kinv_map1 (T : List Nat) (st : St) (k : KTab) (v : Var) (h : KInv T st k) :
    KInv T (st.open1 v) (k.map1 v) := by
  obtain ⟨h1, h2, h3⟩ := h
  exact ⟨by simp [KTab.map1, St.open1, h1], by simp [KTab.map1, numsOf, h2], by simpa [KTab.map1] using h3⟩

theorem kinv_close1 (T : List Nat) (st : St) (k : KTab) (v : Var) (h : KInv T st k) :
    KInv T (st.close1 v) (k.close1 v) := by
  obtain ⟨h1, h2, h3⟩ := h
  by_cases hv : v ∈ st.opn
  · rw [close1_of_mem st v hv]
    obtain ⟨m, hm⟩ := lookupB_mem k.bind v (by rw [h1]; exact hv)
    cases m with
    | none =>
      simp only [KTab.close1, hm]
      refine ⟨by rw [map_fst_unbind, h1], ?_, h3⟩
      simp only [numsOf_unbind_none _ _ hm]
      exact h2
    | some n =>
      simp only [KTab.close1, hm]
      refine ⟨by rw [map_fst_unbind, h1], ?_, h3.erase n⟩
      simp only
      rw [numsOf_unbind_some T _ _ _ (by rw [← h2]; exact h3) hm, h2]
  · have hl := lookupB_none k.bind v (by rw [h1]; exact hv)
    have e : (st.close1 v).opn = st.opn := by
      simp only [St.close1, hv, if_false]
      split <;> rfl
    simp only [KTab.close1, hl]
    exact ⟨by rw [e]; exact h1, h2, h3⟩

theorem kinv_openAll (T : List Nat) : ∀ (vs : List Var) (st : St) (k : KTab), KInv T st k →
    KInv T (vs.foldl St.open1 st) (vs.foldl KTab.open1 k)
  | [], _, _, h => h
  | v :: r, st, k, h => kinv_openAll T r (st.open1 v) (k.open1 v) (kinv_open1 T st k v h)

theorem kinv_applyOk (T : List Nat) (st : St) (k : KTab) (eff : Eff) (h : KInv T st k) :
    KInv T (st.applyOk eff) (k.applyOk eff) := by
  cases eff with
  | none => exact h
  | opens v => exact kinv_open1 T st k v h
  | opens2 v w => exact kinv_open1 T _ _ w (kinv_open1 T st k v h)
  | opensL vs => exact kinv_openAll T vs st k h
  | closes v => exact kinv_close1 T st k v h
  | maps v => exact kinv_map1 T st k v h
  | unmaps v => exact kinv_close1 T st k v h

theorem kinv_applyErr (T : List Nat) (st : St) (k : KTab) (eff : Eff) (h : KInv T st k) :
    KInv T (st.applyErr eff) (k.applyErr eff) := by
  cases eff with
  | closes v => exact kinv_close1 T st k v h
  | _ => exact h

/-- `runK` is `run` with book-keeping: the same outcome, trace, slots on every input -/
theorem runK_fst : ∀ (n : Nat) (s : Script) (c : Cfg) (k : KTab), (runK n s c k).1 = run n s c := by
  intro n
  induction n with
  | zero => intro s c k; rfl
  | succ n ih =>
    intro s c k
    -- `runK` branches exactly as `run` does
    cases s <;> simp only [runK, run] <;> (repeat' split) <;> first | rfl | exact ih _ _ _

/-- the mirror holds along every run, accepted by the checker or not -/
theorem runK_inv (T : List Nat) : ∀ (n : Nat) (s : Script) (c : Cfg) (k : KTab),
    KInv T c.st k → KInv T (runK n s c k).1.cfg.st (runK n s c k).2 := by
  intro n
  induction n with
  | zero => intro s c k h; exact h
  | succ n ih =>
    intro s c k h
    cases s with
    | sys name eff ok err =>
      simp only [runK]
      split
      · exact h
      · exact ih _ _ _ (kinv_applyOk T _ _ eff h)
      · exact ih _ _ _ (kinv_applyErr T _ _ eff h)
    -- no other constructor touches either table: it stops, or recurses with both as they are
    | _ => simp only [runK] <;> (repeat' split) <;> first | exact h | exact ih _ _ _ h

end TinyVerif.FdScript
