/- Helper lemmas for C07, the argument iterators as stateful objects: `core`'s default `nth` / `skip` / `step_by` /
`fold` bodies (Model/Env.lean `nthWith` …) over ANY `next` that walks a list `l` by a cursor behave as a plain
slice iterator over `l`; `ArgsOs::next` / `Args::next` on a memory holding the initial stack are such a `next`. -/
import TinyVerif.Proofs.EnvLemmas
namespace TinyVerif.Env
open TinyVerif.Start

/-- `nx` is the `next` of a cursor over `l` (`n = l.length` items): at position `i` it yields `l[i]` and moves on,
    past the end it yields `None` and stays -/
def NextSpec {α : Type} (nx : Nx α) (l : List α) (n : Nat) : Prop :=
  ∀ i, nx ⟨i, n⟩ = .ok (l[i]?, ⟨if i < n then i + 1 else i, n⟩)

/-- the items a plain slice iterator's `step_by(k)` yields: the first, then every `k`-th after it -/
def everyKth {α : Type} (k : Nat) : List α → List α
  | [] => []
  | x :: xs => x :: everyKth k (xs.drop (k - 1))
termination_by l => l.length
decreasing_by simp only [List.length_drop, List.length_cons]; omega

theorem everyKth_nil {α : Type} (k : Nat) : everyKth k ([] : List α) = [] := by
  rw [everyKth]

theorem everyKth_cons {α : Type} (k : Nat) (x : α) (xs : List α) :
    everyKth k (x :: xs) = x :: everyKth k (xs.drop (k - 1)) := by
  rw [everyKth]

theorem lastOf_eq {α : Type} : ∀ l : List α, lastOf l = l.getLast?
  | [] => rfl
  | [_] => rfl
  | _ :: y :: r => by
    rw [lastOf, lastOf_eq (y :: r)]
    simp [List.getLast?_cons_cons]

section cursor
variable {α : Type} {nx : Nx α} {l : List α} {n : Nat}

theorem nthWith_eq (H : NextSpec nx l n) (hn : l.length = n) :
    ∀ (k i : Nat), i ≤ n → nthWith nx k ⟨i, n⟩ = .ok (l[i + k]?, ⟨min (i + k + 1) n, n⟩)
  | 0, i, hi => by
    rw [nthWith, H i]
    by_cases h : i < n
    · simp [h, Nat.min_eq_left (show i + 1 ≤ n by omega)]
    · have : i = n := by omega
      subst this
      simp
  | k + 1, i, hi => by
    rw [nthWith, H i, R.bind_ok]
    by_cases h : i < n
    · have hl : i < l.length := by omega
      simp only [List.getElem?_eq_getElem hl, if_pos h]
      rw [nthWith_eq H hn k (i + 1) (by omega)]
      rw [show i + 1 + k = i + (k + 1) by omega]
    · have : i = n := by omega
      subst this
      have hnone : l[l.length]? = none := by simp
      have hnone' : l[l.length + (k + 1)]? = none := by simp
      simp only [hn ▸ hnone, hn ▸ hnone', Nat.lt_irrefl, if_false]
      rw [Nat.min_eq_right (by omega)]

theorem skipNextWith_eq (H : NextSpec nx l n) (hn : l.length = n) (k i : Nat) (hi : i ≤ n) :
    skipNextWith nx k ⟨i, n⟩ = .ok (l[i + k]?, ⟨min (i + k + 1) n, n⟩) := by
  unfold skipNextWith
  by_cases hk : k > 0
  · rw [if_pos hk]; exact nthWith_eq H hn k i hi
  · have : k = 0 := by omega
    subst this
    rw [if_neg hk]
    exact nthWith_eq H hn 0 i hi

theorem drainWith_eq (H : NextSpec nx l n) (hn : l.length = n) :
    ∀ (f i : Nat), i ≤ n → n - i < f → drainWith nx f ⟨i, n⟩ = .ok (l.drop i, ⟨n, n⟩)
  | 0, _, _, hf => by omega
  | f + 1, i, hi, hf => by
    rw [drainWith, H i, R.bind_ok]
    by_cases h : i < n
    · have hl : i < l.length := by omega
      simp only [List.getElem?_eq_getElem hl, if_pos h]
      rw [drainWith_eq H hn f (i + 1) (by omega) (by omega), R.bind_ok, List.drop_eq_getElem_cons hl]
    · have : i = n := by omega
      subst this
      have hnone : l[l.length]? = none := by simp
      simp only [hn ▸ hnone, Nat.lt_irrefl, if_false]
      rw [← hn, List.drop_length]

theorem stepLoopWith_eq (H : NextSpec nx l n) (hn : l.length = n) (sm1 : Nat) :
    ∀ (f : Nat) (first : Bool) (i : Nat), i ≤ n → n - i < f →
      stepLoopWith nx sm1 f first ⟨i, n⟩ = .ok (everyKth (sm1 + 1) (l.drop (i + if first then 0 else sm1)), ⟨n, n⟩)
  | 0, _, _, _, hf => by omega
  | f + 1, first, i, hi, hf => by
    rw [stepLoopWith, nthWith_eq H hn _ i hi, R.bind_ok]
    generalize hj : (i + if first = true then 0 else sm1) = j
    by_cases h : j < n
    · have hl : j < l.length := by omega
      have hij : i ≤ j := by omega
      simp only [List.getElem?_eq_getElem hl]
      rw [Nat.min_eq_left (show j + 1 ≤ n by omega),
        stepLoopWith_eq H hn sm1 f false (j + 1) (by omega) (by omega), R.bind_ok,
        List.drop_eq_getElem_cons hl, everyKth_cons, List.drop_drop]
      simp only [Bool.false_eq_true, if_false, Nat.add_sub_cancel]
    · have hl : l.length ≤ j := by omega
      have hnone : l[j]? = none := by simp [hl]
      simp only [hnone]
      rw [List.drop_eq_nil_of_le hl, everyKth_nil, Nat.min_eq_right (by omega)]

end cursor

/-! ## what the arguments passed demand of every call (a plain slice iterator over `l` at position `p`) -/

def specStep {α : Type} (l : List α) (op : ItOp) (p : Nat) : ItOut α × Nat :=
  match op with
  | .next => (.item l[p]?, min (p + 1) l.length)
  | .nth k => (.item l[p + k]?, min (p + k + 1) l.length)
  | .skip k => (.item l[p + k]?, min (p + k + 1) l.length)
  | .stepBy k => (.items (everyKth k (l.drop p)), l.length)
  | .len => (.num (l.length - p), p)
  | .sizeHint => (.hint (l.length - p) (some (l.length - p)), p)
  | .count => (.num (l.length - p), l.length)
  | .last => (.item (l.drop p).getLast?, l.length)
  | .fold => (.items (l.drop p), l.length)

def specRun {α : Type} (l : List α) : List ItOp → Nat → List (ItOut α)
  | [], _ => []
  | op :: rest, p => (specStep l op p).1 :: specRun l rest (specStep l op p).2

/-- well-formed call (`step_by(0)` panics in `core`: `assert!(step != 0)`) -/
def ItOp.wf : ItOp → Prop
  | .stepBy k => 0 < k
  | _ => True

section cursor
variable {α : Type} {nx : Nx α} {l : List α} {n : Nat}

theorem itStep_eq (H : NextSpec nx l n) (hn : l.length = n) (fuel : Nat) (hf : n < fuel) (op : ItOp) (hop : op.wf)
    (i : Nat) (hi : i ≤ n) :
    itStep nx fuel op ⟨i, n⟩ = .ok ((specStep l op i).1, ⟨(specStep l op i).2, n⟩) := by
  cases op with
  | next =>
    have := nthWith_eq H hn 0 i hi
    simp only [nthWith, Nat.add_zero] at this
    simp only [itStep, specStep, this, R.bind_ok, hn]
  | nth k => simp only [itStep, specStep, nthWith_eq H hn k i hi, R.bind_ok, hn]
  | skip k => simp only [itStep, specStep, skipNextWith_eq H hn k i hi, R.bind_ok, hn]
  | stepBy k =>
    have hk : k ≠ 0 := by simp only [ItOp.wf] at hop; omega
    simp only [itStep, specStep, if_neg hk, stepLoopWith_eq H hn (k - 1) fuel true i hi (by omega), R.bind_ok, if_true,
      Nat.add_zero, hn]
    rw [show k - 1 + 1 = k by omega]
  | len =>
    -- `num_args - ind` does not overflow: `ind ≤ num_args`
    have hno : ¬ n < i := by omega
    simp only [itStep, specStep, ArgsOs.len, hn, if_neg hno]
  | sizeHint =>
    have hno : ¬ n < i := by omega
    simp only [itStep, specStep, ArgsOs.len, hn, if_neg hno]
  | count =>
    simp only [itStep, specStep, drainWith_eq H hn fuel i hi (by omega), R.bind_ok, List.length_drop, hn]
  | last =>
    simp only [itStep, specStep, drainWith_eq H hn fuel i hi (by omega), R.bind_ok, lastOf_eq, hn]
  | fold =>
    simp only [itStep, specStep, drainWith_eq H hn fuel i hi (by omega), R.bind_ok, hn]

theorem specStep_le (l : List α) (op : ItOp) (i : Nat) (hi : i ≤ l.length) : (specStep l op i).2 ≤ l.length := by
  cases op <;> simp only [specStep] <;> omega

theorem runOps_eq (H : NextSpec nx l n) (hn : l.length = n) (fuel : Nat) (hf : n < fuel) :
    ∀ (ops : List ItOp) (i : Nat), (∀ op ∈ ops, op.wf) → i ≤ n →
      runOps nx fuel ops ⟨i, n⟩ = .ok (specRun l ops i)
  | [], _, _, _ => rfl
  | op :: rest, i, hops, hi => by
    have h1 := itStep_eq H hn fuel hf op (hops op (by simp)) i hi
    have h2 := runOps_eq H hn fuel hf rest (specStep l op i).2 (fun o ho => hops o (by simp [ho]))
      (hn ▸ specStep_le l op i (hn ▸ hi))
    simp only [runOps, h1, R.bind_ok, h2, specRun]

end cursor

/-! ## `ArgsOs::next` / `Args::next` over the initial stack are such a cursor -/

theorem WordsAt_get (m : Mem) : ∀ (ws : List Nat) (a i : Nat) (h : i < ws.length),
    WordsAt m a ws → rd64 m (a + 8 * i) = .ok ws[i]
  | w :: ws, a, 0, _, hw => by simpa using hw.1
  | w :: ws, a, i + 1, h, hw => by
    have := WordsAt_get m ws (a + 8) i (by simpa using h) hw.2
    rw [show a + 8 * (i + 1) = a + 8 + 8 * i by omega]
    simpa using this

theorem StrsAt_get (m : Mem) : ∀ (ps : List Nat) (ss : List Bytes) (i : Nat) (h1 : i < ps.length) (h2 : i < ss.length),
    StrsAt m ps ss → CStrAt m ps[i] ss[i]
  | p :: ps, s :: ss, 0, _, _, h => h.1
  | p :: ps, s :: ss, i + 1, h1, h2, h => by
    simpa using StrsAt_get m ps ss i (by simpa using h1) (by simpa using h2) h.2

theorem next_spec_os {m : Mem} {sp : Nat} {argv env : List Bytes} {aux : List (Nat × Nat)} {aptrs eptrs : List Nat}
    (h : StackAt m sp argv env aux aptrs eptrs) (fuel : Nat) (hf : ∀ s ∈ argv, s.length < fuel) :
    NextSpec (ArgsOs.next m (envOf sp argv.length) fuel) argv argv.length := by
  intro i
  obtain ⟨_, h2, _, _⟩ := stack_parts h
  have hl := StrsAt_length m aptrs argv h.astrs
  by_cases hi : i < argv.length
  · have hip : i < aptrs.length := by omega
    have hw := WordsAt_get m aptrs (sp + 8) i hip h2
    have hs := StrsAt_get m aptrs argv i hip hi h.astrs
    have hp : aptrs[i] ≠ 0 := h.aptrs_ne _ (List.getElem_mem hip)
    have hnz : sp + 8 + 8 * i ≠ 0 := by omega
    have hmem : argv[i] ∈ argv := List.getElem_mem hi
    simp only [ArgsOs.next, envOf, if_pos hi, if_neg hnz, hw, R.bind_ok, if_neg hp,
      cstr_eq m aptrs[i] argv[i] fuel hs (h.argv_nul_free _ hmem) (hf _ hmem), List.getElem?_eq_getElem hi]
  · have hnone : argv[i]? = none := by simp; omega
    simp only [ArgsOs.next, if_neg hi, hnone]

theorem next_spec_args {m : Mem} {e : Env} {fuel : Nat} {argv : List Bytes} {n : Nat}
    (H : NextSpec (ArgsOs.next m e fuel) argv n) : NextSpec (Args.next m e fuel) (argv.map asStr) n := by
  intro i
  simp only [Args.next, H i, R.bind_ok, List.getElem?_map]

end TinyVerif.Env
