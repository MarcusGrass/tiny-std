import TinyVerif.Proofs.DlIndRealloc
/-!
# `memalign_fix_Spec` (tag `ma_`)

`ma_leader` (the leader: the two headers written in reverse order, then `dispose_chunk` of the first),
`ma_trailer` (split + `dispose_chunk` of the remainder, or nothing), `ma_memalign_fix_spec`.
-/
namespace TinyVerif.Dl

/-- the user chunk at `p0` disappeared, one of `z1` bytes at `p` appeared -/
def ma_MovedTo (s s' : St) (p0 p z1 : Nat) : Prop :=
  ∀ a z, User s' a z ↔ ((User s a z ∧ a ≠ p0) ∨ (a = p ∧ z = z1))

theorem ma_leader_mid {s : St} (hi : SInv s) {p0 z lead : Nat} (hu : User s p0 z)
    (hl16 : lead % 16 = 0) (hl : 16 ≤ lead) (hlz : lead + 16 ≤ z) {h1 h2 : Heap}
    (e1 : set_inuse s.h (p0 + lead) (z - lead) = .ok h1) (e2 : set_inuse h1 p0 lead = .ok h2) :
    SInv { s with h := h2 } ∧ ra_SplitU s { s with h := h2 } p0 lead (z - lead) := by
  obtain ⟨pre, post, e, y, g, u⟩ := ra_user_parts hi.wfs hu
  have hea := u.ea
  subst hea
  have hle : lead ≤ z := Nat.le_trans (Nat.le_add_right _ _) hlz
  have hsum : lead + (z - lead) = z := Nat.add_sub_cancel' hle
  have hrs : 16 ≤ z - lead := Nat.le_sub_of_add_le' hlz
  have r := ra_set_inuse_pair_rev e1 e2 u.hes hi.wfs.ents (Nat.lt_of_lt_of_le (by decide) hl)
    (Nat.lt_of_lt_of_le (by decide) hrs) (u.es.trans hsum.symm) (by rw [u.ya, u.es])
  exact ra_split_core hi (hsum.symm ▸ u) hl16 hl (mod16_of_add hsum hl16 u.z16) hrs (H := h2)
    (by rw [r]; exact ⟨rfl, rfl, rfl, rfl, rfl, rfl, rfl⟩)

/-- **the leader**: `set_inuse (p0+lead) (z-lead); set_inuse p0 lead; dispose_chunk p0 lead` -/
theorem ma_leader (hd : dispose_chunk_Spec) {s : St} (hi : SInv s) {p0 z lead : Nat} (hu : User s p0 z)
    (hl16 : lead % 16 = 0) (hl : 16 ≤ lead) (hlz : lead + 16 ≤ z) {h1 h2 h3 : Heap} {t : String}
    (e1 : set_inuse s.h (p0 + lead) (z - lead) = .ok h1) (e2 : set_inuse h1 p0 lead = .ok h2)
    (e3 : dispose_chunk (h2.tag t) p0 lead = .ok h3) :
    SInv { s with h := h3 } ∧ ma_MovedTo s { s with h := h3 } p0 (p0 + lead) (z - lead) ∧
      ∀ z', ¬ User s (p0 + lead) z' := by
  obtain ⟨i2, sp⟩ := ma_leader_mid hi hu hl16 hl hlz e1 e2
  obtain ⟨i2t, hsame, hut, _⟩ := ra_split_tagged t i2 sp
  obtain ⟨i3, fr⟩ := hd (s := { s with h := h2.tag t }) i2t hut e3
  have hne : p0 + lead ≠ p0 := Nat.ne_of_gt (Nat.lt_add_of_pos_right (Nat.lt_of_lt_of_le (by decide) hl))
  refine ⟨i3, ?_, sp.1⟩
  intro a z'
  rw [fr a z', hsame a z', sp.2 a z', Nat.add_sub_cancel]
  constructor
  · rintro ⟨(⟨h1, h2⟩ | ⟨h1, _⟩ | h), hne⟩
    · exact Or.inl ⟨h2, h1⟩
    · exact absurd h1 hne
    · exact Or.inr h
  · rintro (⟨h1, h2⟩ | ⟨h1, h2⟩)
    · exact ⟨Or.inl ⟨h2, h1⟩, h2⟩
    · exact ⟨Or.inr (Or.inr ⟨h1, h2⟩), h1 ▸ hne⟩

/-- **the trailer** -/
theorem ma_trailer (hd : dispose_chunk_Spec) {s : St} (hi : SInv s) {p z nb : Nat} (hu : User s p z)
    (hnb : NbOk nb) (hle : nb ≤ z) {h2 : Heap}
    (hh : (if z > nb + 32 then do
            let h ← set_inuse s.h p nb
            let h ← set_inuse h (p + nb) (z - nb)
            dispose_chunk (h.tag "memalign-trailer") (p + nb) (z - nb)
          else pure s.h) = .ok h2) :
    SInv { s with h := h2 } ∧ ∃ sz, nb ≤ sz ∧ ra_ResizedTo s { s with h := h2 } p sz := by
  by_cases hgt : z > nb + 32
  · rw [if_pos hgt] at hh
    msimp at hh
    obtain ⟨h0, e1, h1, e2, e3⟩ := hh
    have hnb0 : 0 < nb := Nat.lt_of_lt_of_le (by decide) hnb.2.1
    have hsum : nb + (z - nb) = z := Nat.add_sub_cancel' hle
    have hz16 : z % 16 = 0 := by
      obtain ⟨pre, post, e, y, g, u⟩ := ra_user_parts hi.wfs hu
      exact u.z16
    obtain ⟨i2, sp⟩ := ra_split_inuse hi (hsum.symm ▸ hu) hnb.1 (Nat.le_trans (by decide) hnb.2.1)
      (mod16_of_add hsum hnb.1 hz16) (Nat.le_sub_of_add_le' (Nat.le_trans (Nat.add_le_add_left (by decide) nb) (Nat.le_of_lt hgt))) e1 e2
    obtain ⟨r1, r2⟩ := ra_split_dispose hd i2 sp hnb0 e3
    exact ⟨r1, nb, Nat.le_refl nb, r2⟩
  · rw [if_neg hgt] at hh
    msimp at hh
    subst hh
    exact ⟨hi, z, hle, ra_resizedTo_self hu⟩

theorem ma_segs_le {s : St} (w : WFS s) {g : Seg} (hg : g ∈ s.segs) : g.base + g.size ≤ 2 ^ 64 :=
  ((segsOk_parts w.segs).2 g hg).2

/-- where the aligned chunk starts: `A` is `mem` rounded up to the alignment `P`; the leader is either
`A - mem` bytes or, if that is too small for a chunk, `P` bytes more -/
theorem ma_lead_arith {mem A P nb z pos : Nat} (h16 : 16 ≤ mem) (hm16 : (mem - 16) % 16 = 0) (hz16 : z % 16 = 0)
    (hnb16 : nb % 16 = 0)
    (hP32 : 32 ≤ P) (hP16 : 16 ∣ P) (hA1 : mem ≤ A) (hA2 : A < mem + P) (hA3 : P ∣ A) (hz : nb + P + 24 ≤ z) (hpos : (if A - 16 - (mem - 16) > 32 then A - 16 else A - 16 + P) = pos) :
    (pos + 16) % P = 0 ∧ mem - 16 ≤ pos ∧ (pos - (mem - 16)) % 16 = 0 ∧ 32 ≤ pos - (mem - 16) ∧
      nb + (pos - (mem - 16)) ≤ z := by
  have hA16 : A % 16 = 0 := Nat.mod_eq_zero_of_dvd (Nat.dvd_trans hP16 hA3)
  have hP16' : P % 16 = 0 := Nat.mod_eq_zero_of_dvd hP16
  refine ⟨?_, ?_⟩
  · split at hpos
    · rw [← hpos, Nat.sub_add_cancel (Nat.le_trans h16 hA1)]
      exact Nat.mod_eq_zero_of_dvd hA3
    · rw [← hpos, show A - 16 + P + 16 = A + P by omega, Nat.add_mod_right]
      exact Nat.mod_eq_zero_of_dvd hA3
  · split at hpos <;> omega

/-- **`memalign_fix_Spec`** (given `dispose_chunk_Spec`) -/
theorem ma_memalign_fix_spec (hd : dispose_chunk_Spec) : memalign_fix_Spec := by
  intro s hi mem k nb z h' mem' h16 hu hnb hk hk2 hz hh
  have w := hi.wfs
  obtain ⟨pre, post, e, y, g, u⟩ := ra_user_parts w hu
  have hP32 : 32 ≤ 2 ^ k :=
    calc 32 = 2 ^ 5 := by decide
      _ ≤ 2 ^ k := Nat.pow_le_pow_right (by decide) hk
  have hP16 : 16 ∣ 2 ^ k := by
    have := Nat.pow_dvd_pow 2 (show 4 ≤ k by omega)
    simpa using this
  have hov : mem + 2 ^ k ≤ 2 ^ 64 := by
    have hend := (w.struct.in_seg u.hg u.mem_e u.ge).2
    have hseg := ma_segs_le w u.hg
    have hea := u.ea
    have hesz := u.es
    omega
  have hA3 := align_up_dvd mem k hov
  have hfe : findEnt s.h.ents (mem - 16) = some e := u.find w
  have hm16 : mem - 16 + 16 = mem := Nat.sub_add_cancel h16
  unfold memalign_fix at hh
  dsimp only at hh
  simp only [MEM_OFFSET_eq, MIN_CHUNK_SIZE_eq] at hh
  msimp at hh
  obtain ⟨_, _, ⟨h1, p⟩, hp, hh⟩ := hh
  dsimp only at hh
  -- phase 1: the leader (or nothing)
  have ph1 : SInv { s with h := h1 } ∧ ∃ z1, User { s with h := h1 } p z1 ∧ nb ≤ z1 ∧ mem - 16 ≤ p ∧
      p + z1 = mem - 16 + z ∧ p % 16 = 0 ∧
      (p = mem - 16 ∨ ((p + 16) % 2 ^ k = 0 ∧ ∀ z', ¬ User s p z')) ∧
      ma_MovedTo s { s with h := h1 } (mem - 16) p z1 := by
    by_cases hal : mem &&& (2 ^ k - 1) ≠ 0
    · rw [if_pos hal] at hp
      generalize hpos : (if align_up mem (2 ^ k) - 16 - (mem - 16) > 32 then align_up mem (2 ^ k) - 16
        else align_up mem (2 ^ k) - 16 + 2 ^ k) = pos at hp
      msimp at hp
      obtain ⟨e0, he0, _, hle, _, _, h2, e1, h3, e2, h4, e3, hp⟩ := hp
      have := getE_spec he0
      rw [hfe] at this
      injection this with this
      subst this
      simp only [Prod.mk.injEq] at hp
      obtain ⟨hp1, hp2⟩ := hp
      subst hp1
      subst hp2
      simp only [decide_eq_false_iff_not, Nat.not_lt] at hle
      obtain ⟨hmod, f1, f2, f3, f4⟩ := ma_lead_arith h16 u.p16 u.z16 hnb.1 hP32 hP16 (align_up_ge mem k hov)
        (align_up_lt mem k hov) hA3 hz hpos
      generalize hlead : pos - (mem - 16) = lead at *
      have hpl : pos = mem - 16 + lead := by omega
      subst hpl
      rw [u.es] at e1
      have hlz : lead + nb ≤ z := Nat.add_comm nb lead ▸ f4
      obtain ⟨r1, r2, r3⟩ := ma_leader hd hi hu f2 (Nat.le_trans (by decide) f3)
        (Nat.le_trans (Nat.add_le_add_left (Nat.le_trans (by decide) hnb.2.1) lead) hlz) e1 e2 e3
      refine ⟨r1, z - lead, ?_, Nat.le_sub_of_add_le' hlz, Nat.le_add_right _ _,
        by rw [Nat.add_assoc, Nat.add_sub_cancel' (Nat.le_trans (Nat.le_add_right _ _) hlz)], mod16_add u.p16 f2,
        Or.inr ⟨hmod, r3⟩, r2⟩
      exact (r2 _ _).2 (Or.inr ⟨rfl, rfl⟩)
    · rw [if_neg hal] at hp
      msimp at hp
      simp only [Prod.mk.injEq] at hp
      obtain ⟨hp1, hp2⟩ := hp
      subst hp1
      subst hp2
      have hsame : ∀ a z', User { s with h := s.h.tag "memalign-aligned" } a z' ↔ User s a z' :=
        fun a z' => ra_user_same (H := s.h.tag "memalign-aligned") rfl a z'
      refine ⟨ra_sinv_same hi (ra_sameHeap_tag _ _), z, (hsame _ _).2 hu, Nat.le_trans (Nat.le_add_right _ _)
        (Nat.le_trans (Nat.le_add_right _ _) hz), Nat.le_refl _, rfl, u.p16, Or.inl rfl, ?_⟩
      intro a z'
      rw [hsame a z']
      constructor
      · intro h
        by_cases hap : a = mem - 16
        · subst hap; exact Or.inr ⟨rfl, gl_user_size h hu⟩
        · exact Or.inl ⟨h, hap⟩
      · rintro (⟨h, _⟩ | ⟨h1, h2⟩)
        · exact h
        · subst h1; subst h2; exact hu
  obtain ⟨i1, z1, hu1, hz1, hpge, hpz, hp16', hpor, mv⟩ := ph1
  -- phase 2: the trailer
  obtain ⟨e1, he1, _, _, h2, htr, e2, he2, _, hsz, _, hal, hfin⟩ := hh
  have hfe1 := getE_spec he1
  obtain ⟨e1', he1', hc1, hs1', h81, hr1⟩ := hu1
  change findEnt h1.ents p = some e1' at he1'
  rw [hfe1] at he1'
  injection he1' with he1'
  subst he1'
  rw [hs1'] at htr
  have hu1 : User { s with h := h1 } p z1 := ⟨e1, hfe1, hc1, hs1', h81, hr1⟩
  obtain ⟨i2, sz, hsz', rt⟩ := ma_trailer hd (s := { s with h := h1 }) i1 hu1 hnb hz1 htr
  simp only [Prod.mk.injEq] at hfin
  obtain ⟨hf1, hf2⟩ := hfin
  subst hf1
  subst hf2
  simp only [ne_eq, decide_eq_false_iff_not, Decidable.not_not] at hal
  have hmp : mem ≤ p + 16 := Nat.le_add_of_sub_le hpge
  refine ⟨i2, ?_, hmp, ?_, Nat.le_add_left _ _, mod16_add hp16' rfl, ?_, sz, hsz', ?_⟩
  · rcases hpor with h | ⟨h, _⟩
    · subst h
      rw [hm16] at hal ⊢
      rw [← hal]
      exact Nat.mod_eq_zero_of_dvd hA3
    · exact h
  · calc p + 16 + nb ≤ p + 16 + z1 := Nat.add_le_add_left hz1 _
      _ = mem + z := by rw [Nat.add_right_comm, hpz, Nat.add_right_comm, hm16]
  · intro hne z'
    rw [Nat.add_sub_cancel]
    rcases hpor with h | ⟨_, h⟩
    · exact absurd (h ▸ hm16) hne
    · exact h z'
  · intro a z'
    rw [Nat.add_sub_cancel, rt a z']
    constructor
    · rintro (⟨h1, h2⟩ | h)
      · rcases (mv a z').1 h2 with h3 | ⟨h3, _⟩
        · exact Or.inl h3
        · exact absurd h3 h1
      · exact Or.inr h
    · rintro (⟨h1, h2⟩ | h)
      · refine Or.inl ⟨?_, (mv a z').2 (Or.inl ⟨h1, h2⟩)⟩
        intro hap
        subst hap
        rcases hpor with h | ⟨_, h⟩
        · exact h2 h
        · exact h z' h1
      · exact Or.inr h

/-! ## non-vacuity -/

/-- one 208-byte chunk whose payload is 16 mod 32 -/
def maState : Hist := match Hist.init.run [(.malloc 1 200 8, [.m (some 1048576)])] with
  | .ok (hs, _) => hs
  | .error _ => Hist.init

def ma_tags (h : Heap) (mem al nb : Nat) : List String :=
  match memalign_fix { h with tr := [] } mem al nb with
  | .ok (h', _) => h'.tr
  | _ => []

set_option maxRecDepth 40000 in
/-- the hypotheses of `memalign_fix_Spec` hold on a reachable state on which both the leader and the trailer
branch are taken (`k = 5`, `nb = 32`, `z = 208`) -/
example : Inv maState ∧ User maState.st (1048592 - 16) 208 ∧ NbOk 32 ∧ 32 + 2 ^ 5 + 24 ≤ 208 ∧
    ma_tags maState.st.h 1048592 (2 ^ 5) 32 = ["memalign-leader", "dispose-bin", "memalign-trailer", "dispose-into-top"] :=
  ⟨fr_inv_of_check (by decide +kernel), ra_user_of_check (by decide +kernel), ⟨by decide, by decide, by decide⟩,
    by decide +kernel⟩

end TinyVerif.Dl
